import BfeVerif.C47.Proofs
/-!
  C47 — WebSocket and TLS stream tunnels are byte-transparent.
  A schedule is ANY list of steps (peer writes and closes, the two prefix writes, reads and writes of any size with or
  without an error, relay terminations, serve()'s shutdown); steps not enabled in the current state are skipped, so
  quantifying over all lists covers all chunkings, interleavings and error placements on either side.
  The TLS stream tunnel is the WebSocket tunnel with empty prefixes behind its two prefix writes
  (`reachTLS sched = reachWS [] [] (.flushOk :: .flushOk :: sched)` by `rfl`), so the `reachWS` theorems speak of both.
-/
namespace BfeVerif.C47

/-- websocket upgrade with `pc` / `pb` buffered behind the request / the 101 response -/
def reachWS (pc pb : Bytes) (sched : List Step) : St := runSched (St.init pc pb 0) sched
def reachTLS (sched : List Step) : St := runSched (St.init [] [] 2) sched

/-- **Safety, in every reachable state, errors included**: what has been written to each destination is a prefix of
    `prefix buffered at the upgrade ++ everything the source sent`, and the remainder is exactly the unwritten prefix,
    io.Copy's buffer and the socket queue: nothing is altered, duplicated, reordered or lost in the middle. -/
theorem C47_transparent (pc pb : Bytes) (sched : List Step) :
    let s := reachWS pc pb sched
    s.c2b.out ++ (s.c2b.preLeft ++ (s.c2b.held ++ s.c2b.inq)) = pc ++ s.c2b.sent ∧
    s.b2c.out ++ (s.b2c.preLeft ++ (s.b2c.held ++ s.b2c.inq)) = pb ++ s.b2c.sent := by
  have h := run_inv (inv_init pc pb) sched
  exact ⟨h.c2b.transparent, h.b2c.transparent⟩

theorem C47_transparent_tls (sched : List Step) :
    let s := reachTLS sched
    s.c2b.out ++ (s.c2b.held ++ s.c2b.inq) = s.c2b.sent ∧
    s.b2c.out ++ (s.b2c.held ++ s.b2c.inq) = s.b2c.sent := by
  have h := run_inv inv_init_tls sched
  exact ⟨h.c2b.transparent_nil, h.b2c.transparent_nil⟩

theorem C47_prefix (pc pb : Bytes) (sched : List Step) :
    let s := reachWS pc pb sched
    s.c2b.out <+: pc ++ s.c2b.sent ∧ s.b2c.out <+: pb ++ s.b2c.sent := by
  intro s
  have h := C47_transparent pc pb sched
  exact ⟨⟨_, h.1⟩, ⟨_, h.2⟩⟩

/-- **the write-failure race, positive half**: a direction whose queue and buffer are empty (relays started) has
    delivered everything, whatever happened to the OTHER relay.  So bytes of the healthy direction are lost only if
    serve()'s shutdown (250 ms after the first errCh message) comes before its relay has drained what was already sent. -/
theorem C47_idle_direction_complete (pc pb : Bytes) (sched : List Step) (toB : Bool) :
    let s := reachWS pc pb sched
    s.stage = 2 → (s.get toB).inq = [] → (s.get toB).held = [] →
    (s.get toB).out = (if toB then pc else pb) ++ (s.get toB).sent := by
  intro s hst hi hh
  exact (run_inv (inv_init pc pb) sched).complete hst toB hi hh

/-- **the write-failure race, negative half** (what the 250 ms grace period is for): the backend relay's write to the
    client fails while the client's bytes 1 2 3 are still in the socket queue; serve() shuts down before the
    client→backend relay runs; the live backend never sees them. -/
theorem C47_witness_race_drops_suffix :
    let s := reachWS [] [] [.flushOk, .flushOk, .send true [1, 2, 3], .send false [9], .rd false 1, .wrFail false 0, .shutdown]
    s.shut = true ∧ s.c2b.out = [] ∧ s.c2b.inq = [1, 2, 3] ∧ s.c2b.srcClosed = false ∧ s.b2c.srcClosed = false ∧
    relayEnabled s = false := by decide +kernel

/-- **equal at clean EOF**: a relay can return nil only when its destination has received every byte the source
    ever sent, prefix included -/
theorem C47_eof_delivers_all (pc pb : Bytes) (sched : List Step) (toB : Bool) :
    let s := reachWS pc pb sched
    (step s (.eof toB)).isSome →
    (s.get toB).out = (if toB then pc else pb) ++ (s.get toB).sent := by
  intro s he
  have hg := Option.isSome_ite'.mp he
  rw [not_or, not_or, not_or, not_or] at hg
  obtain ⟨hl, hh, _, _, hi⟩ := hg
  exact C47_idle_direction_complete pc pb sched toB ((live_iff s toB).mp hl).1 (Decidable.not_not.mp hi)
    (Decidable.not_not.mp hh)

/-- **completeness at rest**: no error-free relay step left and the tunnel still open -/
theorem C47_transparent_at_rest (pc pb : Bytes) (sched : List Step) :
    let s := reachWS pc pb sched
    relayEnabled s = false → s.shut = false →
    s.c2b.out = pc ++ s.c2b.sent ∧ s.b2c.out = pb ++ s.b2c.sent := by
  intro s hq hs
  have h := run_inv (inv_init pc pb) sched
  obtain ⟨hst, hr⟩ := rest_open h hq hs
  exact ⟨h.complete hst true (hr true).inq (hr true).held, h.complete hst false (hr false).inq (hr false).held⟩

/-- **close propagation**: at rest, a close of either peer, a relay error or a failed prefix write has made serve()
    close both connections -/
theorem C47_close_propagates (pc pb : Bytes) (sched : List Step) :
    let s := reachWS pc pb sched
    relayEnabled s = false →
    (s.c2b.srcClosed = true ∨ s.b2c.srcClosed = true ∨ s.c2b.done = true ∨ s.b2c.done = true ∨ s.stage = 3) →
    s.shut = true := by
  intro s hq hc
  have h : Inv pc pb s := run_inv (inv_init pc pb) sched
  rcases Bool.eq_false_or_eq_true s.shut with hs | hs
  · exact hs
  -- an open tunnel at rest is idle (`rest_open`): none of the five can have happened
  obtain ⟨hst, hr⟩ := rest_open h hq hs
  rcases hc with hc | hc | hc | hc | hc
  · exact absurd hc (hr true).srcClosed
  · exact absurd hc (hr false).srcClosed
  · exact absurd hc (hr true).done
  · exact absurd hc (hr false).done
  · exact absurd hc (by rw [hst]; decide)

theorem C47_shut_is_final (s : St) (hs : s.shut = true) (toB : Bool) (n : Nat) :
    step s (.rd toB n) = none ∧ step s (.wr toB) = none ∧ step s .flushOk = none := by
  cases toB <;> simp [step, St.live, hs]

/-- **the byte count `bfe_tls.Conn.Write` returns** (model, no record write failing) is the length of the buffer.
    io.Copy relies on this (a smaller count with a nil error is ErrShortWrite and ends the relay); the harness checks
    the real `Conn.Write` against it for TLS 1.0/1.1 CBC and TLS 1.2 CBC/AEAD. -/
theorem C47_tls_write_count (tls10OrOlder cbc : Bool) (n : Nat) : writeCount tls10OrOlder cbc n = n := by
  unfold writeCount
  simp only [writeRecordCount_eq]
  split <;> omega

/-! non-vacuity: pipelined data, chunked reads, a client close; a partial write failure; a read error with data; a
    failed prefix write -/
example :
    let s := reachWS [1, 2] [9]
      [.send true [3, 4, 5], .flushOk, .flushOk, .send false [8, 7], .rd true 2, .wr true, .rd false 1, .wr false,
       .close true, .rd true 1, .wr true, .rd false 1, .wr false, .eof true, .shutdown]
    s.c2b.out = [1, 2, 3, 4, 5] ∧ s.b2c.out = [9, 8, 7] ∧ s.shut = true ∧ relayEnabled s = false := by decide +kernel
example :
    let s := reachWS [] [] [.flushOk, .flushOk, .send true [1, 2, 3, 4], .rd true 3, .wrFail true 2, .shutdown]
    s.c2b.out = [1, 2] ∧ s.c2b.held = [3] ∧ s.c2b.inq = [4] ∧ s.shut = true := by decide +kernel
example :
    let s := reachWS [] [] [.flushOk, .flushOk, .send true [1, 2], .rdE true 2, .wr true]
    s.c2b.out = [1, 2] ∧ s.c2b.done = true := by decide +kernel
example :
    let s := reachWS [1, 2, 3] [] [.flushFail 1, .shutdown]
    s.c2b.out = [1] ∧ s.stage = 3 ∧ s.shut = true := by decide +kernel

example : frags 40001 40000 = [16384, 16384, 7232] := by decide +kernel

end BfeVerif.C47
