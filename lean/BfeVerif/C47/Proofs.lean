import BfeVerif.C47.Model
/-! One invariant of the tunnel state, preserved by every step, and what it gives in a state where no relay step is left. -/
namespace BfeVerif.C47

def DirInv (d : Dir) : Prop := d.out ++ (d.preLeft ++ (d.held ++ d.inq)) = d.pre ++ d.sent

/-- a relay whose read returned an error returns once it has written what it held; `Quiet.idle` needs it to rule out
    `rdErr` in a live direction -/
def RdErrDone (d : Dir) : Prop := d.rdErr = true → d.held = [] → d.done = true

structure Good (p : Bytes) (d : Dir) : Prop where
  pre : d.pre = p
  suffix : d.preLeft <:+ d.pre   -- for `Good.transparent_nil` only: an empty prefix stays empty
  inv : DirInv d
  rdErrDone : RdErrDone d

structure Inv (pc pb : Bytes) (s : St) : Prop where
  c2b : Good pc s.c2b
  b2c : Good pb s.b2c
  stage1 : s.stage = 1 → s.c2b.preLeft = []   -- hands `stage2` its first half at the second prefix write
  stage2 : s.stage = 2 → s.c2b.preLeft = [] ∧ s.b2c.preLeft = []
  stage_le : s.stage ≤ 3

theorem good_init (p : Bytes) : Good p (Dir.init p) :=
  ⟨rfl, List.suffix_refl _, by simp [DirInv, Dir.init], nofun⟩

theorem inv_init (pc pb : Bytes) : Inv pc pb (St.init pc pb 0) :=
  ⟨good_init pc, good_init pb, nofun, nofun, show 0 ≤ 3 by decide⟩

theorem inv_init_tls : Inv [] [] (St.init [] [] 2) :=
  ⟨good_init [], good_init [], nofun, fun _ => ⟨rfl, rfl⟩, show 2 ≤ 3 by decide⟩

theorem dir_send {d : Dir} (bs : Bytes) (h : DirInv d) :
    DirInv { d with sent := d.sent ++ bs, inq := d.inq ++ bs } := by
  unfold DirInv at h ⊢
  have := congrArg (· ++ bs) h
  simpa only [List.append_assoc] using this

theorem dir_rd {d : Dir} {a b : Bytes} {r dn : Bool} (hab : d.inq = a ++ b) (hh : d.held = []) (h : DirInv d) :
    DirInv { d with inq := b, held := a, rdErr := r, done := dn } := by
  unfold DirInv at h ⊢
  rwa [hh, hab, List.nil_append] at h

theorem dir_wr {d : Dir} {a b : Bytes} {dn : Bool} (hab : d.held = a ++ b) (hp : d.preLeft = []) (h : DirInv d) :
    DirInv { d with out := d.out ++ a, held := b, done := dn } := by
  unfold DirInv at h ⊢
  simp only [hp, hab, List.nil_append, List.append_assoc] at h ⊢
  exact h

theorem dir_flag (d : Dir) (c dn : Bool) (h : DirInv d) : DirInv { d with srcClosed := c, done := dn } := h

theorem Good.flush {p d} {a b : Bytes} (h : Good p d) (hab : d.preLeft = a ++ b) :
    Good p { d with out := d.out ++ a, preLeft := b } := by
  refine ⟨h.pre, (hab ▸ List.suffix_append a b).trans h.suffix, ?_, h.rdErrDone⟩
  have := h.inv
  unfold DirInv at this ⊢
  simpa only [hab, List.append_assoc] using this

theorem Good.transparent {p d} (h : Good p d) : d.out ++ (d.preLeft ++ (d.held ++ d.inq)) = p ++ d.sent :=
  h.pre ▸ h.inv

/-- TLS stream tunnels: an empty prefix stays empty -/
theorem Good.transparent_nil {d} (h : Good [] d) : d.out ++ (d.held ++ d.inq) = d.sent := by
  have hp : d.preLeft = [] := List.suffix_nil.mp (h.pre ▸ h.suffix)
  have := h.transparent
  rwa [hp, List.nil_append, List.nil_append] at this

section
variable {pc pb : Bytes} {s : St}

theorem Inv.get (h : Inv pc pb s) (toB : Bool) : Good (if toB then pc else pb) (s.get toB) := by
  cases toB
  · exact h.b2c
  · exact h.c2b

/-- a peer or relay step changes one direction, in any field but `pre` and `preLeft` (those are the prefix writes', `Good.flush`) -/
theorem Inv.set (h : Inv pc pb s) (toB : Bool) {se iq he ou : Bytes} {re sc dn : Bool} :
    let d := { s.get toB with sent := se, inq := iq, held := he, rdErr := re, out := ou, srcClosed := sc, done := dn }
    DirInv d → RdErrDone d → Inv pc pb (s.set toB d) := by
  intro d hi hf
  have hd : Good (if toB then pc else pb) d := ⟨(h.get toB).pre, (h.get toB).suffix, hi, hf⟩
  cases toB
  · exact ⟨h.c2b, hd, h.stage1, h.stage2, h.stage_le⟩
  · exact ⟨hd, h.b2c, h.stage1, h.stage2, h.stage_le⟩

theorem Inv.preLeft_nil (h : Inv pc pb s) (hst : s.stage = 2) (toB : Bool) : (s.get toB).preLeft = [] := by
  cases toB
  · exact (h.stage2 hst).2
  · exact (h.stage2 hst).1

/-- a direction whose relay has caught up has delivered everything -/
theorem Inv.complete (h : Inv pc pb s) (hst : s.stage = 2) (toB : Bool) (hi : (s.get toB).inq = [])
    (hh : (s.get toB).held = []) : (s.get toB).out = (if toB then pc else pb) ++ (s.get toB).sent := by
  have := (h.get toB).transparent
  rwa [h.preLeft_nil hst toB, hi, hh, List.nil_append, List.nil_append, List.append_nil] at this

end

/-- in the form of the guards of `step` -/
theorem live_iff (s : St) (toB : Bool) :
    ¬ s.live toB = false ↔ s.stage = 2 ∧ s.shut = false ∧ ¬ (s.get toB).done = true := by
  simp [St.live]

/-! ### every step has the shape `if guard then none else some _`; in the two prefix writes the `else` is a chain
    `if .. then some _ else ..` ending in `none` -/

theorem of_ite_some {α} {c : Prop} [Decidable c] {a b : α} {x : Option α} (h : (if c then some a else x) = some b) :
    c ∧ a = b ∨ ¬ c ∧ x = some b := by
  split at h
  · exact .inl ⟨‹_›, Option.some.inj h⟩
  · exact .inr ⟨‹_›, h⟩

theorem ite_none_isSome_false {α} {c : Prop} [Decidable c] {a : α} :
    (if c then none else some a).isSome = false ↔ c := by
  rw [← Bool.not_eq_true, Option.isSome_ite', Decidable.not_not]

theorem step_inv {pc pb : Bytes} {s s' : St} {a : Step} (h : Inv pc pb s) (hs : step s a = some s') :
    Inv pc pb s' := by
  cases a with
  | send toB bs =>
    obtain ⟨_, hs⟩ := Option.ite_none_left_eq_some.mp hs
    cases hs
    exact h.set toB (dir_send bs (h.get toB).inv) (h.get toB).rdErrDone
  | close toB =>
    obtain ⟨_, hs⟩ := Option.ite_none_left_eq_some.mp hs
    cases hs
    exact h.set toB (h.get toB).inv (h.get toB).rdErrDone
  | flushOk =>
    -- stage 0: `bconn.Write(cbuf)`, stage 1: `cconn.Write(bbuf)`
    rcases of_ite_some (Option.ite_none_left_eq_some.mp hs).2 with ⟨_, rfl⟩ | ⟨_, hs⟩
    · exact ⟨h.c2b.flush (List.append_nil _).symm, h.b2c, fun _ => rfl, nofun, show 1 ≤ 3 by decide⟩
    rcases of_ite_some hs with ⟨h1, rfl⟩ | ⟨_, hs⟩
    · exact ⟨h.c2b, h.b2c.flush (List.append_nil _).symm, nofun, fun _ => ⟨h.stage1 h1, rfl⟩, show 2 ≤ 3 by decide⟩
    · cases hs
  | flushFail k =>
    rcases of_ite_some (Option.ite_none_left_eq_some.mp hs).2 with ⟨_, rfl⟩ | ⟨_, hs⟩
    · exact ⟨h.c2b.flush (List.take_append_drop k _).symm, h.b2c, nofun, nofun, Nat.le_refl 3⟩
    rcases of_ite_some hs with ⟨_, rfl⟩ | ⟨_, hs⟩
    · exact ⟨h.c2b, h.b2c.flush (List.take_append_drop k _).symm, nofun, nofun, Nat.le_refl 3⟩
    · cases hs
  | rd toB n =>
    obtain ⟨hg, hs⟩ := Option.ite_none_left_eq_some.mp hs
    cases hs
    rw [not_or, not_or, not_or] at hg
    obtain ⟨_, hh, hr, _⟩ := hg
    exact h.set toB (dir_rd (List.take_append_drop n _).symm (Decidable.not_not.mp hh) (h.get toB).inv) fun hr' => absurd hr' hr
  | rdE toB n =>
    obtain ⟨hg, hs⟩ := Option.ite_none_left_eq_some.mp hs
    cases hs
    rw [not_or, not_or, not_or] at hg
    obtain ⟨_, hh, _, hn⟩ := hg
    refine h.set toB (dir_rd (List.take_append_drop n _).symm (Decidable.not_not.mp hh) (h.get toB).inv) fun _ ht => ?_
    -- a read that brought nothing: the relay returns at once
    rcases List.take_eq_nil_iff.mp ht with h0 | h0
    · exact decide_eq_true h0
    · rw [h0] at hn
      exact decide_eq_true (Nat.le_zero.mp (Nat.le_of_not_lt hn))
  | wr toB =>
    obtain ⟨hg, hs⟩ := Option.ite_none_left_eq_some.mp hs
    cases hs
    have hst := ((live_iff s toB).mp (not_or.mp hg).1).1
    exact h.set toB (dir_wr (List.append_nil _).symm (h.preLeft_nil hst toB) (h.get toB).inv) fun hr _ => hr
  | wrFail toB k =>
    obtain ⟨hg, hs⟩ := Option.ite_none_left_eq_some.mp hs
    cases hs
    have hst := ((live_iff s toB).mp (not_or.mp hg).1).1
    exact h.set toB (dir_wr (List.take_append_drop k _).symm (h.preLeft_nil hst toB) (h.get toB).inv) fun _ _ => rfl
  | eof toB =>
    obtain ⟨_, hs⟩ := Option.ite_none_left_eq_some.mp hs
    cases hs
    exact h.set toB (h.get toB).inv fun _ _ => rfl
  | shutdown =>
    obtain ⟨_, hs⟩ := Option.ite_none_left_eq_some.mp hs
    cases hs
    exact ⟨h.c2b, h.b2c, h.stage1, h.stage2, h.stage_le⟩

theorem run_inv {pc pb : Bytes} : ∀ {s : St}, Inv pc pb s → ∀ sched, Inv pc pb (runSched s sched)
  | _, h, [] => h
  | s, h, a :: rest => by
    unfold runSched
    cases hs : step s a with
    | none => exact run_inv h rest
    | some s' => exact run_inv (step_inv h hs) rest

/-- a direction of an open tunnel in which no relay step is left -/
structure Idle (d : Dir) : Prop where
  inq : d.inq = []
  held : d.held = []
  done : ¬ d.done = true
  srcClosed : ¬ d.srcClosed = true

/-- `relayEnabled s = false`.  `rd _ 1` stands for every `rd _ n`: the guards on `n` are `n = 0 ∨ n > inq.length`.
    Steps that carry an error (`rdE`, `wrFail`, `flushFail`) are the environment's choice and are not asked about. -/
structure Quiet (s : St) : Prop where
  flushOk : (step s .flushOk).isSome = false
  shutdown : (step s .shutdown).isSome = false
  eof (toB : Bool) : (step s (.eof toB)).isSome = false
  rd (toB : Bool) : (step s (.rd toB 1)).isSome = false
  wr (toB : Bool) : (step s (.wr toB)).isSome = false

theorem Quiet.of_relayEnabled {s : St} (hq : relayEnabled s = false) : Quiet s := by
  simp only [relayEnabled, Bool.or_eq_false_iff] at hq
  obtain ⟨⟨⟨⟨⟨⟨⟨hfl, hsh⟩, he1⟩, he2⟩, hr1⟩, hr2⟩, hw1⟩, hw2⟩ := hq
  exact ⟨hfl, hsh, Bool.rec he2 he1, Bool.rec hr2 hr1, Bool.rec hw2 hw1⟩

theorem Quiet.idle {pc pb : Bytes} {s : St} (q : Quiet s) (h : Inv pc pb s) (toB : Bool) (nl : ¬ s.live toB = false) :
    Idle (s.get toB) := by
  have hd := ((live_iff s toB).mp nl).2.2
  have hh : (s.get toB).held = [] := (ite_none_isSome_false.mp (q.wr toB)).resolve_left nl
  have nr : ¬ (s.get toB).rdErr = true := fun hc => hd ((h.get toB).rdErrDone hc hh)
  -- `rd` and `eof` share their first three guards; what is left is `1 = 0 ∨ 1 > inq.length`, `srcClosed = false ∨ inq ≠ []`
  have hrd := (((ite_none_isSome_false.mp (q.rd toB)).resolve_left nl).resolve_left (not_not_intro hh)).resolve_left nr
  have hef := (((ite_none_isSome_false.mp (q.eof toB)).resolve_left nl).resolve_left (not_not_intro hh)).resolve_left nr
  have hi : (s.get toB).inq = [] := List.eq_nil_of_length_eq_zero (by omega)
  exact ⟨hi, hh, hd, (Bool.not_eq_true _).mpr (hef.resolve_right (not_not_intro hi))⟩

theorem rest_open {pc pb : Bytes} {s : St} (h : Inv pc pb s) (hq : relayEnabled s = false) (hs : s.shut = false) :
    s.stage = 2 ∧ ∀ toB, Idle (s.get toB) := by
  have q := Quiet.of_relayEnabled hq
  -- `shutdown` is not enabled: no prefix write has failed and both relays are alive
  have hsh := (ite_none_isSome_false.mp q.shutdown).resolve_left (by rw [hs]; nofun)
  rw [not_or, not_or] at hsh
  obtain ⟨_, hd1, hd2⟩ := hsh
  -- `flushOk` is not enabled: both prefixes have been written
  have hst : s.stage = 2 := by
    have h3 := h.stage_le
    have hfl := q.flushOk
    simp only [step, hs, Bool.false_eq_true, if_false] at hfl
    split at hfl
    · cases hfl
    split at hfl
    · cases hfl
    · omega
  refine ⟨hst, fun toB => ?_⟩
  have hd : ¬ (s.get toB).done = true := by
    cases toB
    · exact hd2
    · exact hd1
  exact q.idle h toB ((live_iff s toB).mpr ⟨hst, hs, hd⟩)

theorem frags_sum (fuel n : Nat) (h : n < fuel) : (frags fuel n).sum = n := by
  fun_induction frags fuel n with
  | case1 => exact absurd h (Nat.not_lt_zero _)
  | case2 => rfl
  | case3 f n h0 ih =>
    have hm : 1 ≤ min n maxPlaintext := by unfold maxPlaintext; omega
    rw [List.sum_cons, ih (by omega)]
    omega

theorem writeRecordCount_eq (n : Nat) : writeRecordCount n = n :=
  frags_sum _ n (Nat.lt_succ_self n)

end BfeVerif.C47
