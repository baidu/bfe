import BfeVerif.C55.Proofs
/-!
  C55 — FastCGI requests and responses are encoded faithfully.
  (The model is of the code with fix c874d7d; the inputs that code without it mishandled — a 65493-byte value cut to
  65492 bytes, a 65493-byte name panicking — are in corpus/C55.)
-/
namespace BfeVerif.C55

/-- Full strength: for EVERY parameter list (= the map in any iteration order; a list may also repeat a name) with names
    and values shorter than 2^31 bytes (`encodeSize`'s uint32 minus the marker bit) and EVERY body, an independent
    FastCGI 1.0 decoder (record layer, BEGIN_REQUEST{responder}, PARAMS and STDIN streams each closed by one empty
    record, name-value pairs) reads from the bytes `Do` writes exactly these parameters, in order, and this body —
    whatever the lengths: pairs larger than a record span several records. -/
theorem C55_params_rt (pairs : List (Bytes × Bytes)) (body : Bytes)
    (hlen : ∀ p ∈ pairs, p.1.length < 2147483648 ∧ p.2.length < 2147483648) :
    decodeRequest (encodeRequest pairs body) = some ⟨pairs, body⟩ := by
  obtain ⟨init, hi, hr⟩ := requestRecords_eq_streamRecs pairs body
  rw [encodeRequest, hr]
  exact decodeRequest_frames hi (streamWrite_spec body) (decPairs_enc pairs hlen)

theorem C55_body_rt (pairs : List (Bytes × Bytes)) (body : Bytes)
    (hlen : ∀ p ∈ pairs, p.1.length < 2147483648 ∧ p.2.length < 2147483648) :
    (decodeRequest (encodeRequest pairs body)).map (·.body) = some body := by
  rw [C55_params_rt pairs body hlen]; rfl

/-- Every record `Do` writes has at most 65500 content bytes, so the 16-bit length field of `frame` is exact — also
    when one name-value pair is larger than the bufio buffer. -/
theorem C55_record_bound (pairs : List (Bytes × Bytes)) (body : Bytes) :
    ∀ r ∈ requestRecords pairs body, r.2.length ≤ 65535 := by
  obtain ⟨init, hi, hr⟩ := requestRecords_eq_streamRecs pairs body
  rw [hr]
  exact fun r hr => Nat.le_trans (streamRecs_le init _ hi.good (streamWrite_spec body).good r hr) (by decide)

/-- writePairs over the 65500-byte bufio.Writer (Write with the large-write shortcut, WriteString, Flush when the
    counter passes 65500) hands the sink exactly the concatenated encoded pairs, whatever their sizes; and a body
    that `io.Copy` hands over in one `Write` (`bodyBW`) leaves as the records `requestRecords` has for STDIN. -/
theorem C55_writer_stream (pairs : List (Bytes × Bytes)) (body : Bytes) :
    (writePairsBW pairs 0 ⟨[], []⟩).stream = (pairs.map fun p => encPair p.1 p.2).flatten ∧
    (bodyBW body).records = streamWrite body ++ [[]] :=
  ⟨writePairsBW_stream pairs 0 ⟨[], []⟩, bodyBW_records body⟩

/-- No request header — whatever its name, case, `-`/`_` spelling or number — changes a variable whose name does not
    start with `HTTP_`, except CONTENT_TYPE (the request's own Content-Type by definition): REMOTE_ADDR,
    SCRIPT_FILENAME, REQUEST_METHOD, CONTENT_LENGTH, the operator's EnvVars … are the same for every header map. -/
theorem C55_env_protected (i : RtIn) (hdrs' : List (Bytes × List Bytes)) (k : Bytes)
    (hk : isHttpKey k = false) (hct : k ≠ kCONTENT_TYPE) :
    lookup k (envLog i) = lookup k (envLog { i with hdrs := hdrs' }) :=
  lookup_envLog_hdrs_irrelevant i hdrs' k hct (hdrOps_not_http i hk) (hdrOps_not_http _ hk)

/-- HTTP_PROXY is exactly what the operator configured (or absent): a request header `Proxy`
    (any case) never creates or changes it, and no other header name maps to it. -/
theorem C55_env_no_httpoxy (i : RtIn) :
    lookup kHTTP_PROXY (envLog i) = lookup kHTTP_PROXY (envLog { i with hdrs := [] }) :=
  lookup_envLog_hdrs_irrelevant i [] kHTTP_PROXY (by decide) (hdrOps_not_proxy i) (hdrOps_not_proxy _)

/-- full-strength statement — FALSE for the code as it is: for every well-formed responder record sequence that
    contains END_REQUEST, the stream handed to the HTTP response parser is the application's STDOUT stream. -/
def StdoutOnly : Prop :=
  ∀ (conn : Bytes) (rs : List Rec), parse conn = some rs → hasEnd rs = true →
    readAll conn = (stdoutOf rs, End.eof)

/-- What the code delivers instead: the contents of all records before END_REQUEST, whatever their type and request
    id, and a clean end of stream. -/
theorem C55_response_stream (conn : Bytes) (rs : List Rec) (hp : parse conn = some rs) (he : hasEnd rs = true) :
    readAll conn = (allBeforeEnd rs, End.eof) := by
  rw [readAll, readStream_drain, drain_parse conn.length conn rs hp]
  rfl

/-- The provable part of `StdoutOnly`: if every record before END_REQUEST is STDOUT or empty (e.g. the empty STDERR
    end-of-stream marker), the delivered stream is exactly the STDOUT stream. -/
theorem C55_stdout_only_partial (conn : Bytes) (rs : List Rec) (hp : parse conn = some rs) (he : hasEnd rs = true)
    (hso : ∀ r ∈ rs, r.typ = 6 ∨ r.typ = 3 ∨ r.content = []) :
    readAll conn = (stdoutOf rs, End.eof) := by
  rw [C55_response_stream conn rs hp he, allBeforeEnd_eq_stdoutOf rs hso]

/-- The response stream does not depend on how the caller cuts its reads: whatever `Read(p)` calls returning nil
    deliver is a prefix of what `io.ReadAll` gets (`readAll`), continued by what is still `remaining`; a call that
    returns an error delivers nothing, finds nothing remaining and reports the end `readAll` reports (`C55_read_end`). -/
theorem C55_read_chunking (conn : Bytes) (sizes : List Nat) (hpos : ∀ s ∈ sizes, 0 < s)
    (hnil : ∀ p ∈ (readSteps conn sizes).1, p.2 = RErr.nil) :
    ∃ st', (readAll conn).1 = (readSteps conn sizes).2 ++ remaining st' := by
  obtain ⟨st', h⟩ := stepsFrom_spec sizes ⟨conn, []⟩ hnil
  refine ⟨st', ?_⟩
  rw [readSteps, ← h]
  simp [readAll, readStream_drain, remaining]

theorem C55_read_end (st : RdState) (s : Nat) (hs : 0 < s) (he : (readStep st s).2.2 ≠ RErr.nil) :
    remaining st = [] ∧ (readStep st s).2.1 = [] ∧
      toEnd (readStep st s).2.2 = (readStream (st.conn.length + 1) st.conn []).2 := by
  obtain ⟨h1, h2, h3⟩ := (readStep_spec st s).2 he
  exact ⟨h1, h2, by rw [readStream_drain, h3]⟩

theorem C55_read_count (st : RdState) (s : Nat) : (readStep st s).2.1.length ≤ s := by
  -- nothing delivered (empty `p`, failed record read) | a `take s` of a record or of the buffer
  fun_cases readStep st s with
  | case1 | case3 => exact Nat.zero_le _
  | case2 | case4 => exact List.length_take_le ..

/-- A STDERR record "E" followed by END_REQUEST: the response stream is "E", the STDOUT stream is empty. -/
theorem C55_witness_stderr : ¬ StdoutOnly := by
  intro h
  have hp := parse_frames 1 (by decide) [(7, [69]), (3, [0, 0, 0, 0, 0, 0, 0, 0])] (by decide)
  have h1 := h _ _ hp rfl
  rw [C55_response_stream _ _ hp rfl] at h1
  exact absurd (congrArg Prod.fst h1) (by decide)

example : encodeRequest [] [] =
    [1, 1, 0, 1, 0, 8, 0, 0, 0, 1, 0, 0, 0, 0, 0, 0,  1, 4, 0, 1, 0, 0, 0, 0,  1, 5, 0, 1, 0, 0, 0, 0] := by decide +kernel
/-- an empty read ends the body copy (bfe_bufio.Writer.ReadFrom): ABCD read as 2 bytes, (0,nil), 2 bytes -> AB -/
example : bodyDelivered [65, 66, 67, 68] [2, 0, 2] = [65, 66] := by decide +kernel

end BfeVerif.C55
