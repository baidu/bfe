import BfeVerif.C55.Model
/-!
  The request: whatever the bufio writer does with its buffer, the record contents it leaves are some cutting (`Cuts`)
  of the encoded pairs (`requestRecords_eq_streamRecs`), and the SPEC decoder reads every such cutting back
  (`decodeRequest_frames`).
  The response: `readStream` is `drain` (`readStream_drain`), and on a connection the SPEC parser accepts `drain` yields
  `allBeforeEnd` (`drain_parse`); call by call, a `Read` splits `remaining` into what it delivers and what remains
  (`readStep_spec`).
  The CGI environment: a key that no header op carries has the same `lookup` for every header map
  (`lookup_envLog_hdrs_irrelevant`).
-/
namespace BfeVerif.C55

theorem padLen_lt (n : Nat) : padLen n < 8 := by unfold padLen; omega

/-- a record content `streamWriter.Write` produces: between 1 and `maxWrite` bytes -/
def GoodChunk (c : Bytes) : Prop := 0 < c.length ∧ c.length ≤ maxWrite

/-- `l` is a way `streamWriter.Write` may cut `p` into record contents -/
structure Cuts (l : List Bytes) (p : Bytes) : Prop where
  flatten_eq : l.flatten = p
  good : ∀ c ∈ l, GoodChunk c

theorem chunks_spec (fuel : Nat) (p : Bytes) (hp : p.length ≤ fuel) :
    Cuts (chunks fuel p) p := by
  -- out of fuel | nothing left | a chunk of at most `maxWrite` bytes, then the others
  fun_induction chunks fuel p with
  | case1 p => exact ⟨(List.eq_nil_of_length_eq_zero (Nat.le_zero.mp hp)).symm, nofun⟩
  | case2 f p h0 => exact ⟨(List.eq_nil_of_length_eq_zero h0).symm, nofun⟩
  | case3 f p h0 ih =>
    obtain ⟨h1, h2⟩ := ih (by rw [List.length_drop, maxWrite]; omega)
    refine ⟨by rw [List.flatten_cons, h1, List.take_append_drop], List.forall_mem_cons.mpr ⟨?_, h2⟩⟩
    simp only [GoodChunk, List.length_take, maxWrite]; omega

theorem streamWrite_spec (p : Bytes) : Cuts (streamWrite p) p :=
  chunks_spec p.length p (Nat.le_refl _)

theorem streamWrite_nil : streamWrite [] = [] := rfl

theorem encSize_length (n : Nat) : 1 ≤ (encSize n).length ∧ (encSize n).length ≤ 4 := by
  unfold encSize; split <;> simp

theorem encPair_length_le (k v : Bytes) : (encPair k v).length ≤ 8 + k.length + v.length := by
  have := (encSize_length k.length).2
  have := (encSize_length v.length).2
  simp only [encPair, List.length_append]; omega

theorem encPair_length_pos (k v : Bytes) : 2 ≤ (encPair k v).length := by
  have := (encSize_length k.length).1
  have := (encSize_length v.length).1
  simp only [encPair, List.length_append]; omega

theorem be16_digits (n : Nat) (h : n < 65536) :
    (UInt8.ofNat (n % 65536 / 256)).toNat * 256 + (UInt8.ofNat (n % 256)).toNat = n := by
  rw [UInt8.toNat_ofNat_of_lt' (Nat.div_lt_of_lt_mul (Nat.mod_lt n (by decide)) : n % 65536 / 256 < 256),
    UInt8.toNat_ofNat_of_lt' (Nat.mod_lt n (by decide)), Nat.mod_eq_of_lt h, Nat.div_add_mod']

theorem frame_length (t : UInt8) (id : Nat) (c : Bytes) :
    (frame t id c).length = 8 + c.length + padLen c.length := by
  simp only [frame, List.length_append, List.length_cons, List.length_nil, List.length_replicate]

theorem splitHeader_frame (t : UInt8) (id : Nat) (c rest : Bytes) (hid : id < 65536) (hc : c.length < 65536) :
    splitHeader (frame t id c ++ rest) =
      some (1, t, id, c.length, padLen c.length, (c ++ List.replicate (padLen c.length) 0) ++ rest) := by
  simp only [frame, List.cons_append, List.nil_append, splitHeader, List.append_assoc, be16_digits id hid, be16_digits c.length hc,
    UInt8.toNat_ofNat_of_lt' (Nat.lt_trans (padLen_lt c.length) (by decide : 8 < UInt8.size))]

/-- a fuelled decoder that takes one encoded item off the front per unit of fuel (the hypothesis after `l`) decodes a
    concatenation of encodings; every item takes at least one byte, so fuel for the length suffices -/
theorem decode_flatten {α β : Type} (dec : Nat → Bytes → Option (List β)) (enc : α → Bytes) (out : α → β)
    (hnil : ∀ f, dec f [] = some []) (hpos : ∀ a, 0 < (enc a).length) :
    ∀ l : List α, (∀ f, ∀ a ∈ l, ∀ rest, dec (f + 1) (enc a ++ rest) = (dec f rest).map (out a :: ·)) →
      ∀ fuel, (l.map enc).flatten.length ≤ fuel → dec fuel (l.map enc).flatten = some (l.map out) := by
  intro l
  induction l with
  | nil => intro _ fuel _; exact hnil fuel
  | cons a l ih =>
    intro hstep fuel hfuel
    rw [List.map_cons, List.flatten_cons] at hfuel ⊢
    have := hpos a
    rw [List.length_append] at hfuel
    cases fuel with
    | zero => omega
    | succ f =>
      rw [hstep f a List.mem_cons_self, ih (fun f q hq => hstep f q (List.mem_cons_of_mem _ hq)) f (by omega)]
      rfl

def toRec (id : Nat) (r : UInt8 × Bytes) : Rec := ⟨r.1, id, r.2⟩

theorem parseRecs_nil (fuel : Nat) : parseRecs fuel [] = some [] := by
  cases fuel <;> rfl

theorem parseRecs_frame (fuel : Nat) (t : UInt8) (id : Nat) (c rest : Bytes) (hid : id < 65536)
    (hc : c.length < 65536) :
    parseRecs (fuel + 1) (frame t id c ++ rest) = (parseRecs fuel rest).map (⟨t, id, c⟩ :: ·) := by
  have hne : (frame t id c ++ rest).length ≠ 0 := by rw [List.length_append, frame_length]; omega
  have hl : (c ++ List.replicate (padLen c.length) (0 : UInt8)).length = c.length + padLen c.length := by
    rw [List.length_append, List.length_replicate]
  rw [parseRecs, if_neg hne, splitHeader_frame t id c rest hid hc]
  simp only [ne_eq, not_true_eq_false, if_false]
  rw [if_neg (by rw [List.length_append, hl]; omega), List.drop_left' hl, List.append_assoc, List.take_left' rfl]

theorem parse_frames (id : Nat) (hid : id < 65536) (recs : List (UInt8 × Bytes))
    (hall : ∀ r ∈ recs, r.2.length < 65536) :
    parse ((recs.map fun r => frame r.1 id r.2).flatten) = some (recs.map (toRec id)) :=
  decode_flatten parseRecs _ (toRec id) parseRecs_nil (fun r => by rw [frame_length]; omega) recs
    (fun f r hr rest => parseRecs_frame f r.1 id r.2 rest hid (hall r hr)) _ (Nat.le_refl _)

/- `encodeSize` writes a length above 127 as `uint32(n) | 1<<31`, big-endian: below, 2147483648 = 2^31 is that marker bit,
   4294967296 = 2^32; 16777216 = 2^24 and 65536 = 2^16 weigh the two leading bytes. -/
theorem or_marker31 (n : Nat) (h : n < 2147483648) : (n % 4294967296) ||| 2147483648 = n + 2147483648 := by
  rw [Nat.mod_eq_of_lt (by omega), Nat.or_comm, Nat.add_comm]
  exact (Nat.two_pow_add_eq_or_of_lt (i := 31) (b := n) h 1).symm

theorem be32_digits (s : Nat) :
    s / 16777216 * 16777216 + s / 65536 % 256 * 65536 + s / 256 % 256 * 256 + s % 256 = s := by
  have h1 := Nat.div_add_mod s 256
  have h2 := Nat.div_add_mod (s / 256) 256
  have h3 := Nat.div_add_mod (s / 65536) 256
  simp only [Nat.div_div_eq_div_mul, Nat.reduceMul] at h2 h3
  -- plain `omega` proves the statement, but with the quotients and digits named first it is checked twice as fast
  generalize s / 16777216 = a, s / 65536 = b, s / 256 = c at *
  generalize b % 256 = b', c % 256 = c', s % 256 = s' at *
  omega

theorem decSize_be32 (s n : Nat) (rest : Bytes) (hs : s = n + 2147483648) (h : n < 2147483648) :
    decSize (UInt8.ofNat (s / 16777216) :: UInt8.ofNat (s / 65536 % 256) :: UInt8.ofNat (s / 256 % 256) ::
      UInt8.ofNat (s % 256) :: rest) = some (n, rest) := by
  have h0 : 128 ≤ s / 16777216 ∧ s / 16777216 < 256 := by omega
  have e : (s / 16777216 - 128) * 16777216 + s / 65536 % 256 * 65536 + s / 256 % 256 * 256 + s % 256 = n := by
    have := be32_digits s
    -- `omega` runs out of recursion depth on `(a - 128) * 16777216`, hence `Nat.sub_mul`; naming the digits halves its work
    rw [Nat.sub_mul]
    generalize s / 16777216 = a, s / 65536 % 256 = b, s / 256 % 256 = c, s % 256 = d at *
    omega
  rw [decSize, UInt8.toNat_ofNat', Nat.mod_eq_of_lt h0.2, if_neg (Nat.not_lt.mpr h0.1)]
  simp only [UInt8.toNat_ofNat', Nat.mod_mod, e]

theorem decSize_encSize (n : Nat) (rest : Bytes) (h : n < 2147483648) :
    decSize (encSize n ++ rest) = some (n, rest) := by
  unfold encSize
  split
  next hb => exact decSize_be32 _ n rest (or_marker31 n h) h
  next hb =>
    have hn : (UInt8.ofNat n).toNat = n := by rw [UInt8.toNat_ofNat']; exact Nat.mod_eq_of_lt (by omega)
    rw [List.singleton_append]
    unfold decSize
    dsimp only
    rw [hn, if_pos (Nat.lt_of_not_le hb)]

theorem decPairs_nil (fuel : Nat) : decPairs fuel [] = some [] := by
  cases fuel <;> rfl

theorem decPairs_encPair (fuel : Nat) (k v rest : Bytes) (hk : k.length < 2147483648) (hv : v.length < 2147483648) :
    decPairs (fuel + 1) (encPair k v ++ rest) = (decPairs fuel rest).map ((k, v) :: ·) := by
  have hne : (encPair k v ++ rest).length ≠ 0 := by
    have := encPair_length_pos k v
    rw [List.length_append]; omega
  have he : encPair k v ++ rest = encSize k.length ++ (encSize v.length ++ ((k ++ v) ++ rest)) := by
    simp only [encPair, List.append_assoc]
  rw [decPairs, if_neg hne, he, decSize_encSize _ _ hk]
  simp only []
  rw [decSize_encSize _ _ hv]
  simp only []
  rw [if_neg (by simp only [List.length_append]; omega), ← List.length_append, List.drop_left' rfl,
    List.append_assoc, List.take_left' rfl, List.drop_left' rfl, List.take_left' rfl]

theorem decPairs_enc (ps : List (Bytes × Bytes))
    (hall : ∀ p ∈ ps, p.1.length < 2147483648 ∧ p.2.length < 2147483648) :
    decPairs (ps.map fun p => encPair p.1 p.2).flatten.length (ps.map fun p => encPair p.1 p.2).flatten = some ps := by
  have := decode_flatten decPairs (fun p : Bytes × Bytes => encPair p.1 p.2) id decPairs_nil
    (fun p => Nat.lt_of_lt_of_le (by decide) (encPair_length_pos p.1 p.2)) ps
    (fun f p hp rest => decPairs_encPair f p.1 p.2 rest (hall p hp).1 (hall p hp).2) _ (Nat.le_refl _)
  rwa [List.map_id] at this

theorem closedStream_of_contents {t : UInt8} {rs : List Rec} {a : List Bytes} {p : Bytes}
    (h : (rs.filter (fun r => r.typ == t)).map (·.content) = a ++ [[]]) (ha : Cuts a p) :
    closedStream t rs = some p := by
  have hall : (a.all fun c => c.length != 0) = true :=
    List.all_eq_true.mpr fun c hc => bne_iff_ne.mpr (Nat.ne_of_gt (ha.good c hc).1)
  simp [closedStream, h, hall, ha.flatten_eq]

theorem closedStream_tagged (id : Nat) (t : UInt8) (pre post : List (UInt8 × Bytes)) (a : List Bytes) (p : Bytes)
    (hpre : ∀ r ∈ pre, r.1 ≠ t) (hpost : ∀ r ∈ post, r.1 ≠ t) (ha : Cuts a p) :
    closedStream t ((pre ++ (a ++ [[]]).map (fun c => (t, c)) ++ post).map (toRec id)) = some p := by
  have hn : ∀ l : List (UInt8 × Bytes), (∀ r ∈ l, r.1 ≠ t) → l.filter (fun r => r.1 == t) = [] := fun l hl =>
    List.filter_eq_nil_iff.mpr fun r hr h => hl r hr (eq_of_beq h)
  refine closedStream_of_contents ?_ ha
  simp [List.filter_map, Function.comp_def, toRec, List.filter_append, hn pre hpre, hn post hpost]

/-- everything written so far: the pieces handed to the sink, then the buffer -/
def BW.stream (b : BW) : Bytes := b.out.flatten ++ b.buf

theorem BW.flush_of_ne (b : BW) (h : b.buf.length ≠ 0) : b.flush = ⟨[], b.out ++ [b.buf]⟩ := if_neg h

theorem BW.flush_buf (b : BW) : b.flush.buf = [] := by
  -- buffer empty: nothing to do | the buffer goes to the sink
  fun_cases BW.flush b with
  | case1 h => exact List.eq_nil_of_length_eq_zero h
  | case2 => rfl

theorem BW.flush_stream (b : BW) : b.flush.stream = b.stream := by
  fun_cases BW.flush b with
  | case1 => rfl
  | case2 => simp [BW.stream]

theorem BW.writeLoop_stream (d : Bool) (fuel : Nat) (b : BW) (p : Bytes) :
    (BW.writeLoop d fuel b p).1.stream ++ (BW.writeLoop d fuel b p).2 = b.stream ++ p := by
  -- out of fuel | `p` handed to the sink | buffer filled and flushed | what is left fits
  fun_induction BW.writeLoop d fuel b p with
  | case1 | case4 => rfl
  | case2 f b p _ hd ih => rw [ih]; simp [BW.stream, List.eq_nil_of_length_eq_zero hd.2]
  | case3 f b p _ _ n ih => rw [ih, BW.flush_stream]; simp [BW.stream]

theorem BW.write_of_fits (d : Bool) (b : BW) (p : Bytes) (h : p.length ≤ maxWrite - b.buf.length) :
    BW.write d b p = { b with buf := b.buf ++ p } := by
  rw [BW.write, BW.writeLoop, if_neg (Nat.not_lt.mpr h)]

theorem BW.write_stream (d : Bool) (b : BW) (p : Bytes) : (BW.write d b p).stream = b.stream ++ p := by
  rw [← BW.writeLoop_stream d (2 * p.length + 3) b p]; simp [BW.write, BW.stream]

/-- The fuel `BW.write` gives its loop is enough: a round either hands `p` to the sink or fills the buffer and flushes it,
    which takes bytes from `p` unless the buffer was full already (hence the extra unit of fuel then). -/
theorem BW.writeLoop_fits (d : Bool) (fuel : Nat) (b : BW) (p : Bytes) (hb : b.buf.length ≤ maxWrite)
    (hm : 2 * p.length < fuel) (hfull : b.buf.length = maxWrite → 2 * p.length + 1 < fuel) :
    (BW.writeLoop d fuel b p).1.buf.length + (BW.writeLoop d fuel b p).2.length ≤ maxWrite := by
  fun_induction BW.writeLoop d fuel b p with
  | case1 => omega
  | case2 f b p _ _ ih => exact ih hb (by rw [List.length_nil]; omega) (by rw [List.length_nil]; omega)
  | case3 f b p hgt _ n ih =>
    have hn : n = maxWrite - b.buf.length := Nat.min_eq_right (Nat.le_of_lt hgt)
    have hlen : (b.buf ++ p.take n).length = maxWrite := by
      rw [List.length_append, List.length_take, hn, Nat.min_eq_left (Nat.le_of_lt hgt), Nat.add_sub_cancel' hb]
    rw [BW.flush_of_ne _ (by rw [hlen]; decide)] at ih ⊢
    exact ih (Nat.zero_le _) (by rw [List.length_drop, hn]; omega) (fun h => absurd h (show 0 ≠ maxWrite by decide))
  | case4 _ _ _ hgt => exact Nat.add_le_of_le_sub' hb (Nat.not_lt.mp hgt)

/-- the model's writer never holds more than the 65500 bytes bufio's buffer can; nothing else rests on this
    (`BW.writeLoop_stream` holds for any fuel) -/
theorem BW.write_buf_le (d : Bool) (b : BW) (p : Bytes) (hb : b.buf.length ≤ maxWrite) :
    (BW.write d b p).buf.length ≤ maxWrite := by
  rw [BW.write, List.length_append]
  exact BW.writeLoop_fits d (2 * p.length + 3) b p hb (by omega) (fun _ => by omega)

theorem writePairsBW_stream (pairs : List (Bytes × Bytes)) (nn : Nat) (b : BW) :
    (writePairsBW pairs nn b).stream = b.stream ++ (pairs.map fun p => encPair p.1 p.2).flatten := by
  fun_induction writePairsBW pairs nn b with
  | case1 => simp
  | case2 k v rest nn b sz m fl b1 nn1 ih =>
    -- the counter only decides whether the writer is flushed first
    have hb1 : b1.stream = b.stream := by
      clear_value fl
      cases fl
      · rfl
      · exact b.flush_stream
    rw [ih, BW.write_stream, BW.write_stream, BW.write_stream, hb1]
    simp [encPair, sz]

theorem BW.records_spec (b : BW) :
    ∃ init, b.records = init ++ [[]] ∧ Cuts init b.stream := by
  refine ⟨(b.flush.out.map streamWrite).flatten, rfl, ?_, ?_⟩
  · -- cutting each sink call into records and joining them again gives the sink calls back
    rw [List.flatten_flatten, List.map_map, List.map_id'' (f := List.flatten ∘ streamWrite) fun c => (streamWrite_spec c).flatten_eq,
      ← b.flush_stream, BW.stream, b.flush_buf, List.append_nil]
  · exact List.forall_mem_flatten.mpr (List.forall_mem_map.mpr fun x _ => (streamWrite_spec x).good)

theorem bodyBW_records (body : Bytes) : (bodyBW body).records = streamWrite body ++ [[]] := by
  unfold bodyBW
  by_cases h : body.length ≤ maxWrite
  · rw [BW.write_of_fits true _ _ h, BW.records]
    by_cases h0 : body.length = 0
    · obtain rfl := List.eq_nil_of_length_eq_zero h0
      rfl
    · rw [BW.flush_of_ne _ h0]; simp
  · have hw : BW.write true ⟨[], []⟩ body = ⟨[], [body]⟩ := by
      simp [BW.write, BW.writeLoop, Nat.lt_of_not_le h]
    rw [hw]
    simp [BW.records, BW.flush]

/-- BEGIN_REQUEST, then the PARAMS stream in pieces `a` and the STDIN stream in pieces `b`, each closed by an empty record -/
def streamRecs (a b : List Bytes) : List (UInt8 × Bytes) :=
  (1, beginBody) :: ((a ++ [[]]).map (fun c => (4, c)) ++ (b ++ [[]]).map (fun c => (5, c)))

theorem requestRecords_eq_streamRecs (pairs : List (Bytes × Bytes)) (body : Bytes) :
    ∃ init, Cuts init (pairs.map fun p => encPair p.1 p.2).flatten ∧
      requestRecords pairs body = streamRecs init (streamWrite body) := by
  obtain ⟨init, e1, e2⟩ := BW.records_spec (writePairsBW pairs 0 ⟨[], []⟩)
  rw [writePairsBW_stream] at e2
  exact ⟨init, e2, by rw [requestRecords, e1]; rfl⟩

theorem streamRecs_le (a b : List Bytes) (ha : ∀ c ∈ a, GoodChunk c) (hb : ∀ c ∈ b, GoodChunk c) :
    ∀ r ∈ streamRecs a b, r.2.length ≤ maxWrite := by
  have hg : ∀ l : List Bytes, (∀ c ∈ l, GoodChunk c) → ∀ c ∈ l ++ [[]], c.length ≤ maxWrite := fun l hl =>
    List.forall_mem_append.mpr ⟨fun c hc => (hl c hc).2, List.forall_mem_singleton.mpr (Nat.zero_le _)⟩
  exact List.forall_mem_cons.mpr ⟨by decide, List.forall_mem_append.mpr
    ⟨List.forall_mem_map.mpr (hg a ha), List.forall_mem_map.mpr (hg b hb)⟩⟩

theorem decodeRequest_frames {a b : List Bytes} {params body : Bytes} {pairs : List (Bytes × Bytes)} (ha : Cuts a params)
    (hb : Cuts b body) (hp : decPairs params.length params = some pairs) :
    decodeRequest ((streamRecs a b).map fun r => frame r.1 1 r.2).flatten = some ⟨pairs, body⟩ := by
  have hlen : ∀ r ∈ streamRecs a b, r.2.length < 65536 := fun r hr =>
    Nat.lt_of_le_of_lt (streamRecs_le a b ha.good hb.good r hr) (by decide)
  have tag : ∀ (t t' : UInt8) (l : List Bytes), t' ≠ t → ∀ r ∈ l.map (fun c => (t', c)), r.1 ≠ t :=
    fun _ _ _ h => List.forall_mem_map.mpr fun _ _ => h
  have h4 := closedStream_tagged 1 4 [] _ a _ nofun (tag 4 5 (b ++ [[]]) (by decide)) ha
  have h5 := closedStream_tagged 1 5 _ [] b _ (tag 5 4 (a ++ [[]]) (by decide)) nofun hb
  rw [List.nil_append] at h4
  rw [List.append_nil] at h5
  rw [decodeRequest, parse_frames 1 (by decide) _ hlen, streamRecs, List.map_cons]
  -- the decoder's four tests, in this order: the first record has type BEGIN_REQUEST, body {responder, keep-conn off} and
  -- id ≠ 0; every other record carries the same id and is PARAMS or STDIN  (`simp only []` reduces the `match` on the parse)
  simp only []
  rw [if_pos ⟨rfl, rfl, by decide, by simp [toRec, List.all_append, List.all_map]⟩, h4, h5]
  simp only [hp]

theorem splitHeader_length {conn rest : Bytes} {v t : UInt8} {id cl pl : Nat}
    (h : splitHeader conn = some (v, t, id, cl, pl, rest)) : conn.length = rest.length + 8 := by
  unfold splitHeader at h
  split at h
  · cases h; rfl
  · cases h

theorem recRead_ok (conn : Bytes) :
    match recRead conn with
    | (some _, e, rest) => e = .nil ∧ rest.length + 8 ≤ conn.length
    | (none, e, _) => e ≠ .nil := by
  -- failures: connection at its end | short header | bad version | END_REQUEST (case1-4), nothing after the header | short
  -- content (case6, 7); successes: an empty record (case5), a record with content (case8)
  fun_cases recRead conn with
  | case1 | case2 | case3 | case4 | case6 | case7 => exact nofun
  | case5 _ _ _ _ _ _ rest hs => exact ⟨rfl, Nat.le_of_eq (splitHeader_length hs).symm⟩
  | case8 _ _ _ _ cl pl rest hs =>
    have := splitHeader_length hs
    exact ⟨rfl, by rw [List.length_drop]; omega⟩

theorem recRead_record (conn rest : Bytes) (t : UInt8) (id cl pl : Nat)
    (hs : splitHeader conn = some (1, t, id, cl, pl, rest)) (hl : cl + pl ≤ rest.length) :
    recRead conn =
      if t = 3 then (none, .eof, rest) else (some (rest.take cl), .nil, rest.drop (cl + pl)) := by
  have h0 : conn.length ≠ 0 := by rw [splitHeader_length hs]; exact Nat.succ_ne_zero _
  rw [recRead, if_neg h0, hs]
  dsimp only
  rw [if_neg (by decide)]
  refine ite_congr rfl (fun _ => rfl) fun _ => ?_
  by_cases hn : cl + pl = 0
  · rw [if_pos hn, hn, List.drop_zero, (by omega : cl = 0), List.take_zero]
  · rw [if_neg hn, if_neg (by omega), if_neg (by omega)]

theorem readStream_succ (f : Nat) (conn acc : Bytes) : readStream (f + 1) conn acc =
    match recRead conn with
    | (some c, _, rest) => readStream f rest (acc ++ c)
    | (none, e, _) => (acc, toEnd e) := by
  -- the two functions make the same tests in the same order (`Nat.add_eq_zero_iff` is kept out because it would rewrite
  -- the test `cl + pl = 0`, which then no longer matches the case hypotheses)
  fun_cases recRead conn <;> simp [readStream, toEnd, -Nat.add_eq_zero_iff, *]

theorem readStream_drain (f : Nat) : ∀ conn acc : Bytes,
    readStream f conn acc = (acc ++ (drain f conn).1, toEnd (drain f conn).2) := by
  induction f with
  | zero => intro conn acc; simp [readStream, drain, toEnd]
  | succ n ih =>
    intro conn acc
    rw [readStream_succ, drain]
    rcases recRead conn with ⟨_ | c, e, rest⟩
    · simp
    · dsimp only; rw [ih, List.append_assoc]

theorem drain_fuel (f : Nat) : ∀ (g : Nat) (conn : Bytes), conn.length < f → conn.length < g →
    drain f conn = drain g conn := by
  induction f with
  | zero => intro g conn h; omega
  | succ n ih =>
    intro g conn hf hg
    cases g with
    | zero => omega
    | succ m =>
    have hok := recRead_ok conn
    rw [drain, drain]
    rcases hr : recRead conn with ⟨_ | c, e, rest⟩
    · rfl
    · have : rest.length + 8 ≤ conn.length := by rw [hr] at hok; exact hok.2
      dsimp only; rw [ih m rest (by omega) (by omega)]

theorem drain_length_succ (conn : Bytes) : drain (conn.length + 1) conn =
    match recRead conn with
    | (some c, _, rest) => (c ++ (drain (rest.length + 1) rest).1, (drain (rest.length + 1) rest).2)
    | (none, e, _) => ([], e) := by
  have hok := recRead_ok conn
  rw [drain]
  revert hok
  rcases recRead conn with ⟨_ | c, e, rest⟩ <;> intro hok
  · rfl
  · dsimp only
    rw [drain_fuel conn.length (rest.length + 1) rest (Nat.lt_of_lt_of_le (Nat.lt_add_of_pos_right (by decide)) hok.2)
      (Nat.lt_succ_self _)]

theorem allBeforeEnd_cons (r : Rec) (rs : List Rec) :
    allBeforeEnd (r :: rs) = if r.typ = 3 then [] else r.content ++ allBeforeEnd rs := by
  by_cases h : r.typ = 3 <;> simp [allBeforeEnd, h]

theorem drain_parse (f : Nat) (conn : Bytes) : ∀ rs, parseRecs f conn = some rs →
    drain (conn.length + 1) conn = (allBeforeEnd rs, RErr.eof) := by
  have hempty : ∀ (conn : Bytes) (rs : List Rec), conn.length = 0 → some [] = some rs →
      drain (conn.length + 1) conn = (allBeforeEnd rs, RErr.eof) := by
    intro conn rs h0 h
    cases h
    rw [drain, recRead, if_pos h0]; rfl
  -- input used up (case1, 3) | no parse: no fuel, short header, bad version, short content (case2, 4, 5, 6) | a record, then
  -- the parse of what follows (case7)
  fun_induction parseRecs f conn with
  | case1 conn h0 | case3 _ conn h0 => exact fun rs => hempty conn rs h0
  | case2 | case4 | case5 | case6 => exact fun _ h => nomatch h
  | case7 f conn h0 v t id cl pl rest hs hv hl ih =>
    intro rs h
    obtain ⟨rs', hp, rfl⟩ := Option.map_eq_some_iff.mp h
    obtain rfl := Decidable.not_not.mp hv
    rw [drain_length_succ, recRead_record conn rest t id cl pl hs (Nat.le_of_not_lt hl), allBeforeEnd_cons]
    by_cases ht : t = 3
    · rw [if_pos ht, if_pos ht]
    · rw [if_neg ht, if_neg ht]
      dsimp only
      rw [ih rs' hp]

theorem flatten_filter_content (p : Rec → Bool) (l : List Rec) (h : ∀ r ∈ l, p r = false → r.content = []) :
    ((l.filter p).map (·.content)).flatten = (l.map (·.content)).flatten := by
  -- empty contents add nothing to either side; among the others `p` filters nothing out
  rw [← List.flatten_filter_not_isEmpty, ← List.flatten_filter_not_isEmpty (L := l.map _), List.filter_map,
    List.filter_map, List.filter_filter]
  congr 2
  refine List.filter_congr fun r hr => ?_
  cases hp : p r
  · simp [h r hr hp]
  · simp

theorem allBeforeEnd_eq_stdoutOf (rs : List Rec)
    (h : ∀ r ∈ rs, r.typ = 6 ∨ r.typ = 3 ∨ r.content = []) : allBeforeEnd rs = stdoutOf rs := by
  rw [allBeforeEnd, stdoutOf]
  refine (flatten_filter_content _ _ fun r hr h6 => ?_).symm
  have h3 : (r.typ != 3) = true := List.all_eq_true.mp List.all_takeWhile r hr
  rcases h r (List.takeWhile_subset _ hr) with e | e | e
  · rw [e] at h6; cases h6
  · rw [e] at h3; cases h3
  · exact e

/-- what the reader has still to deliver: the buffered rest of the current record, then the records to come -/
def remaining (st : RdState) : Bytes := st.buf ++ (drain (st.conn.length + 1) st.conn).1

theorem readStep_spec (st : RdState) (s : Nat) :
    ((readStep st s).2.2 = RErr.nil → remaining st = (readStep st s).2.1 ++ remaining (readStep st s).1) ∧
    ((readStep st s).2.2 ≠ RErr.nil → remaining st = [] ∧ (readStep st s).2.1 = [] ∧
      (drain (st.conn.length + 1) st.conn).2 = (readStep st s).2.2) := by
  have hok := recRead_ok st.conn
  -- empty `p`: nothing happens | buffer empty: next record read | or reading it fails | bytes served from the buffer
  fun_cases readStep st s with
  | case1 => exact ⟨fun _ => rfl, fun h => absurd rfl h⟩
  | case2 _ hb c e rest hr =>
    -- its first `s` bytes are handed out, the others buffered
    have hd : (drain (st.conn.length + 1) st.conn).1 = c ++ (drain (rest.length + 1) rest).1 := by
      rw [drain_length_succ, hr]
    refine ⟨fun _ => ?_, fun h => absurd rfl h⟩
    simp only [remaining, List.eq_nil_of_length_eq_zero hb, hd, List.nil_append]
    rw [← List.append_assoc, List.take_append_drop]
  | case3 _ hb e rest hr =>
    rw [hr] at hok
    have hd : drain (st.conn.length + 1) st.conn = ([], e) := by rw [drain_length_succ, hr]
    exact ⟨fun he => absurd he hok, fun _ => by simp [remaining, List.eq_nil_of_length_eq_zero hb, hd]⟩
  | case4 =>
    refine ⟨fun _ => ?_, fun h => absurd rfl h⟩
    simp only [remaining]
    rw [← List.append_assoc, List.take_append_drop]

theorem stepsFrom_spec (sizes : List Nat) (st : RdState)
    (hnil : ∀ p ∈ (stepsFrom st sizes).1, p.2 = RErr.nil) :
    ∃ st', remaining st = (stepsFrom st sizes).2 ++ remaining st' := by
  fun_induction stepsFrom st sizes with
  | case1 st => exact ⟨st, rfl⟩
  | case2 st s ss r1 r ih =>
    obtain ⟨st', h2⟩ := ih fun p hp => hnil p (List.mem_cons_of_mem _ hp)
    exact ⟨st', by rw [(readStep_spec st s).1 (hnil _ List.mem_cons_self), h2, List.append_assoc]⟩

theorem lookup_append (k : Bytes) (a b : List Op) : lookup k (a ++ b) = b.foldl (step k) (lookup k a) :=
  List.foldl_append ..

theorem step_of_ne (k : Bytes) (st : Option (List Bytes)) (o : Op) (h : o.key ≠ k) : step k st o = st := by
  cases o <;> exact if_neg h

theorem foldl_step_irrelevant (k : Bytes) : ∀ (ops : List Op), (∀ o ∈ ops, o.key ≠ k) →
    ∀ st, ops.foldl (step k) st = st
  | [], _, _ => rfl
  | o :: rest, h, st => by
    rw [List.foldl_cons, step_of_ne k st o (h o (List.mem_cons_self ..))]
    exact foldl_step_irrelevant k rest (fun q hq => h q (List.mem_cons_of_mem _ hq)) st

theorem hdrOps_key (i : RtIn) : ∀ o ∈ hdrOps i, ∃ name, name ≠ sPROXY ∧ o.key = sHTTP_ ++ name := by
  refine List.forall_mem_filterMap.mpr fun h _ o hh => ?_
  by_cases hn : dashUnd (upper h.1) = sPROXY
  · rw [hdrOp, if_pos hn] at hh; cases hh
  · rw [hdrOp, if_neg hn] at hh; cases hh; exact ⟨_, hn, rfl⟩

theorem hdrOps_not_http (i : RtIn) {k : Bytes} (hk : isHttpKey k = false) : ∀ o ∈ hdrOps i, o.key ≠ k := by
  intro o ho heq
  obtain ⟨name, _, hn⟩ := hdrOps_key i o ho
  rw [← heq, hn] at hk
  simp [isHttpKey, sHTTP_] at hk

theorem hdrOps_not_proxy (i : RtIn) : ∀ o ∈ hdrOps i, o.key ≠ kHTTP_PROXY := by
  intro o ho heq
  obtain ⟨name, hn, hk⟩ := hdrOps_key i o ho
  rw [hk, show kHTTP_PROXY = sHTTP_ ++ sPROXY from rfl] at heq
  exact hn (List.append_cancel_left heq)

theorem lookup_static_hdrs_irrelevant (i : RtIn) (hdrs' : List (Bytes × List Bytes)) (k : Bytes)
    (h1 : k ≠ kCONTENT_LENGTH) (h2 : k ≠ kCONTENT_TYPE) :
    lookup k (staticA ++ staticH i ++ staticB i) =
      lookup k (staticA ++ staticH { i with hdrs := hdrs' } ++ staticB { i with hdrs := hdrs' }) := by
  have e1 : ∀ j : RtIn, (staticH j).foldl (step k) (lookup k staticA) = lookup k staticA := fun j =>
    foldl_step_irrelevant k (staticH j) (List.forall_mem_cons.mpr ⟨h1.symm, List.forall_mem_singleton.mpr h2.symm⟩) _
  rw [show staticB { i with hdrs := hdrs' } = staticB i from rfl, lookup_append, lookup_append, lookup_append,
    lookup_append, e1, e1]

theorem lookup_envLog_hdrs_irrelevant (i : RtIn) (hdrs' : List (Bytes × List Bytes)) (k : Bytes) (hct : k ≠ kCONTENT_TYPE)
    (hno : ∀ o ∈ hdrOps i, o.key ≠ k) (hno' : ∀ o ∈ hdrOps { i with hdrs := hdrs' }, o.key ≠ k) :
    lookup k (envLog i) = lookup k (envLog { i with hdrs := hdrs' }) := by
  -- with no header op on `k` the headers drop out of the log; so does, by `hct`, the one final `Set` that reads them (CONTENT_TYPE)
  have hl : ∀ j : RtIn, (∀ o ∈ hdrOps j, o.key ≠ k) → lookup k (envLog j) =
      step k (step k (lookup k (staticA ++ staticH j ++ staticB j ++
        pathInfoOps j (staticA ++ staticH j ++ staticB j) ++ envOps j)) (.set kREQUEST_METHOD j.method))
        (.set kCONTENT_LENGTH (fmtInt j.contentLength)) := by
    intro j hj
    rw [envLog]
    rw [lookup_append, lookup_append _ _ (hdrOps j), foldl_step_irrelevant k _ hj]
    simp only [finalOps, List.foldl_cons, List.foldl_nil]
    exact step_of_ne k _ (.set kCONTENT_TYPE _) hct.symm
  rw [hl i hno, hl _ hno']
  by_cases hcl : k = kCONTENT_LENGTH
  · -- the final `Set` of CONTENT_LENGTH overrides everything before it
    rw [hcl, step, if_pos rfl, step, if_pos rfl]
  · have hp : pathInfoOps { i with hdrs := hdrs' }
        (staticA ++ staticH { i with hdrs := hdrs' } ++ staticB { i with hdrs := hdrs' }) =
        pathInfoOps i (staticA ++ staticH i ++ staticB i) := by
      rw [pathInfoOps, pathInfoOps, ← lookup_static_hdrs_irrelevant i hdrs' kPATH_INFO (by decide) (by decide)]
    rw [hp, show envOps { i with hdrs := hdrs' } = envOps i from rfl, lookup_append, lookup_append,
      lookup_append _ _ (envOps i), lookup_append _ _ (pathInfoOps _ _), lookup_static_hdrs_irrelevant i hdrs' k hcl hct]

end BfeVerif.C55
