import BfeVerif.C36.Proofs
/-!
  C36 — the HTTP/2 priority tree stays acyclic and priority processing terminates.
  `parOf h` is the parent-pointer function of ALL stream objects (open and closed), `Anc` its transitive closure.
-/
namespace BfeVerif.C36

/-- **C36 core**: one `adjustStreamPriority` call keeps the pointer graph acyclic. -/
theorem C36_adjust_acyclic {h h' : Heap} {sid dep : Nat} {excl : Bool} {w : Nat}
    (hN : NoCycle (parOf h)) (ha : adjust h sid dep excl w = some h') : NoCycle (parOf h') := by
  cases hst : openNode h sid with
  | none => rw [adjust_not_open hst] at ha; cases ha; exact hN
  | some st => exact (adjust_writes hst ha).noCycle (by rw [parOf_setWeight]; exact hN)

/-- the walk of `adjustStreamPriority` always ends: on an acyclic heap whose pointers stay inside
    the heap the call returns (the fuel `length` is never exhausted). -/
theorem C36_adjust_terminates {h : Heap} (sid dep : Nat) (excl : Bool) (w : Nat)
    (hN : NoCycle (parOf h)) (hC : Closed h) : (adjust h sid dep excl w).isSome = true := by
  fun_cases adjust h sid dep excl w
  -- case 4 is the walk up from the dependency `p` running out of fuel, case 5 its end
  case case1 | case2 | case3 | case5 => rfl
  case case4 st _ h1 p hp _ hr =>
    exact absurd hr (reaches_total sid (by rw [parOf_setWeight]; exact hN) (closed_setWeight hC sid w)
      (by rw [hasId_setWeight]; exact hasId_id_of_openNode hp))

/-- `adjustStreamPriority` never creates a pointer to something that is not a stream object. -/
theorem C36_adjust_closed {h h' : Heap} {sid dep : Nat} {excl : Bool} {w : Nat}
    (hC : Closed h) (ha : adjust h sid dep excl w = some h') : Closed h' := by
  cases hst : openNode h sid with
  | none => rw [adjust_not_open hst] at ha; cases ha; exact hC
  | some st => exact (adjust_writes hst ha).closed (closed_setWeight hC sid w)

/-- the invariant is inductive for every operation (HEADERS with/without priority, PRIORITY, close) -/
theorem C36_step_invariant {h h' : Heap} (o : Op) (hN : NoCycle (parOf h)) (hC : Closed h)
    (hs : step h o = some h') : NoCycle (parOf h') ∧ Closed h' := by
  obtain ⟨h0, hp, hc, he | ⟨_, _, _, _, he⟩⟩ := step_cases h o
  · cases he.symm.trans hs
    exact ⟨hp ▸ hN, hc hC⟩
  · rw [he] at hs
    exact ⟨C36_adjust_acyclic (hp ▸ hN) hs, C36_adjust_closed (hc hC) hs⟩

/-- **C36**: in every state reachable from a fresh connection by any sequence of prioritised or
    plain HEADERS, PRIORITY frames and stream closes, no stream is its own ancestor (closed streams
    that linger as parents included), and no pointer leaves the set of stream objects. -/
theorem C36_reachable_acyclic {h : Heap} (hr : Reach h) : NoCycle (parOf h) ∧ Closed h := by
  induction hr with
  | init =>
    have hnil : ∀ a b, parOf [] a ≠ some b := nofun
    refine ⟨fun a ha => ?_, fun a b hab => absurd hab (hnil a b)⟩
    obtain ⟨b, hb, _⟩ := anc_iff_up.mp ha
    exact hnil _ _ hb
  | next o _ hs ih => exact C36_step_invariant o ih.1 ih.2 hs

/-- **C36 (termination)**: in every reachable state every operation returns: the ancestor loop of
    `adjustStreamPriority` never runs forever. -/
theorem C36_terminates {h : Heap} (hr : Reach h) (o : Op) : (step h o).isSome = true := by
  obtain ⟨hN, hC⟩ := C36_reachable_acyclic hr
  obtain ⟨h0, hp, hc, he | ⟨_, _, _, _, he⟩⟩ := step_cases h o
  · rw [he]; rfl
  · rw [he]; exact C36_adjust_terminates _ _ _ _ (hp ▸ hN) (hc hC)

/-- bound of the walk itself: from any stream object of a reachable heap, the parent chain is left
    after at most `length` (number of stream objects) steps, whatever is searched for. -/
theorem C36_walk_bounded {h : Heap} (hr : Reach h) (t c : Nat) (hc : hasId h c = true) :
    reaches h t h.length (some c) ≠ none :=
  reaches_total t (C36_reachable_acyclic hr).1 (C36_reachable_acyclic hr).2 hc

/-- soundness of the executable check the oracle runs on the implementation's pointer dumps -/
theorem C36_oracle_sound (h : Heap) (hb : acyclicB h = true) : NoCycle (parOf h) := by
  intro a ha
  obtain ⟨b, hab, hu⟩ := anc_iff_up.mp ha
  cases hf : findNode h a with
  | none => rw [parOf, hf] at hab; cases hab
  | some n =>
    have := List.all_eq_true.mp hb n (List.mem_of_find?_eq_some hf)
    rw [findNode_id hf, chainEnds_cycle h.length a b hab hu] at this
    cases this

/-- **weights**: a priority update stores the frame's weight byte (zero-indexed, as on the wire) on the
    re-prioritised OPEN stream and changes no other stream's weight — not that of a moved dependency
    (RFC 7540 5.3.3 "retains its weight"), not those of adopted siblings; an update for a stream that is
    not open changes nothing at all. -/
theorem C36_weights {h h' : Heap} {sid dep : Nat} {excl : Bool} {w : Nat}
    (ha : adjust h sid dep excl w = some h') :
    (openNode h sid = none → h' = h) ∧
    (∀ st, openNode h sid = some st →
      weightOf h' sid = some w ∧ ∀ x, x ≠ sid → weightOf h' x = weightOf h x) := by
  refine ⟨fun hst => ?_, fun st hst => ?_⟩
  · rw [adjust_not_open hst] at ha; cases ha; rfl
  · -- only `setWeight` touches a weight
    have hw := (adjust_writes hst ha).weightOf
    refine ⟨?_, fun x hx => ?_⟩
    · rw [hw, weightOf_setWeight, if_pos rfl, weightOf, openNode_find hst]; rfl
    · rw [hw, weightOf_setWeight, if_neg hx]

/-- closing a stream (also an interior node of the tree) changes no parent pointer and no weight:
    its children keep pointing at the closed object, which stays in the ancestor walk. -/
theorem C36_close_keeps_tree (h : Heap) (a : Nat) :
    parOf (closeNode h a) = parOf h ∧ ∀ x, weightOf (closeNode h a) x = weightOf h x :=
  ⟨parOf_closeNode h a, weightOf_closeNode h a⟩

/-- **wire level**: whatever frames arrive (HEADERS on any id incl. 0 / even / old / open streams,
    PRIORITY, RST_STREAM incl. idle streams, before or after GOAWAY), the connection's tree moves only
    along `step`: every state is reachable in the sense of `Reach`, hence acyclic, and the frame is
    processed in finite time. -/
theorem C36_wire_reachable {c : Conn} (o : Op) (hr : Reach c.heap) :
    ∃ c', wireStep c o = some c' ∧ Reach c'.heap := by
  refine wireStep_elim (Q := fun r => ∃ c', r = some c' ∧ Reach c'.heap) c o (fun c' hc => ⟨c', rfl, hc ▸ hr⟩)
    fun o' => ?_
  -- a `step` from a reachable heap returns, and what it returns is reachable
  cases hs : step c.heap o' with
  | none => have := C36_terminates hr o'; rw [hs] at this; cases this
  | some h' => exact ⟨_, rfl, Reach.next o' hr hs⟩

/-! Non-vacuity: concrete reachable heaps hitting the three interesting cases. -/
-- dependency on own descendant: 1 ← 3 ← 5, then PRIORITY 1 depends on 5
example : (step [⟨1, none, 0, true⟩, ⟨3, some 1, 0, true⟩, ⟨5, some 3, 0, true⟩] (.prio 1 5 false 7)) =
    some [⟨1, some 5, 7, true⟩, ⟨3, some 1, 0, true⟩, ⟨5, none, 0, true⟩] := by decide +kernel
-- exclusive adoption below stream 0 (nil parent)
example : (step [⟨1, none, 0, true⟩, ⟨3, none, 0, true⟩, ⟨5, some 3, 0, false⟩] (.prio 3 0 true 7)) =
    some [⟨1, some 3, 0, true⟩, ⟨3, none, 7, true⟩, ⟨5, some 3, 0, false⟩] := by decide +kernel
-- self dependency only changes the weight
example : (step [⟨1, none, 0, true⟩] (.prio 1 1 true 9)) = some [⟨1, none, 9, true⟩] := by decide +kernel
example : Reach [⟨1, none, 0, true⟩, ⟨3, some 1, 5, true⟩] :=
  Reach.next (h := [⟨1, none, 0, true⟩]) (.new 3 (some (1, false, 5)))
    (Reach.next (h := []) (.new 1 none) Reach.init (by decide +kernel)) (by decide +kernel)

end BfeVerif.C36
