import BfeVerif.C36.Model
/-!
  Acyclicity is argued on parent-pointer FUNCTIONS: `Up P` is `Anc P` with the empty path, `Repoint` what one pointer
  write / one adoption loop does to `parOf`; `reaches` decides `Up` and ends within `length` steps on an acyclic closed
  heap (pigeonhole); `Writes` lists the pointer writes of one `adjust` call; each invariant is preserved write by write.
  `step_cases` and `wireStep_elim` say what `step` and `wireStep` do with the heap, so that Props.lean opens neither;
  `chainEnds_cycle` is what the oracle's check `acyclicB` rests on.
-/
namespace BfeVerif.C36

inductive Up (P : Nat → Option Nat) : Nat → Nat → Prop
  | refl (a : Nat) : Up P a a
  | step {a b c : Nat} : P a = some b → Up P b c → Up P a c

theorem Up.trans {P : Nat → Option Nat} {a b c : Nat} (h1 : Up P a b) (h2 : Up P b c) : Up P a c := by
  induction h1 with
  | refl => exact h2
  | step h _ ih => exact .step h (ih h2)

theorem anc_iff_up {P : Nat → Option Nat} {a c : Nat} : Anc P a c ↔ ∃ b, P a = some b ∧ Up P b c := by
  constructor
  · intro h
    induction h with
    | base h => exact ⟨_, h, .refl _⟩
    | step h _ ih =>
      obtain ⟨_, hb, hu⟩ := ih
      exact ⟨_, h, .step hb hu⟩
  · rintro ⟨b, hb, hu⟩
    induction hu generalizing a with
    | refl => exact .base hb
    | step h _ ih => exact .step hb (ih h)

theorem NoCycle.not_up {P : Nat → Option Nat} {a b : Nat} (hN : NoCycle P) (h : P a = some b) : ¬ Up P b a :=
  fun hu => hN a (anc_iff_up.mpr ⟨b, h, hu⟩)

/-- every pointer of `P'` is one of `P`, or goes from a source in `M` to the one new target `q` -/
def Repoint (P : Nat → Option Nat) (M : Nat → Prop) (q : Option Nat) (P' : Nat → Option Nat) : Prop :=
  ∀ a b, P' a = some b → P a = some b ∨ (M a ∧ q = some b)

/-- a new path is old, or old up to the source `m` of its FIRST new pointer and from the target `t` of its LAST -/
theorem Repoint.up {P P' : Nat → Option Nat} {M : Nat → Prop} {q : Option Nat} {x y : Nat}
    (hr : Repoint P M q P') (h : Up P' x y) : Up P x y ∨ ∃ m t, M m ∧ q = some t ∧ Up P x m ∧ Up P t y := by
  induction h with
  | refl a => exact .inl (.refl a)
  | @step a b c hab _ ih =>
    rcases hr a b hab with hab | ⟨hm, hq⟩
    · exact ih.imp (.step hab) fun ⟨m, t, hm, hq, h1, h2⟩ => ⟨m, t, hm, hq, .step hab h1, h2⟩
    · refine .inr ⟨a, b, hm, hq, .refl a, ih.elim id fun ⟨_, t, _, hq', _, h2⟩ => ?_⟩
      cases hq.symm.trans hq'
      exact h2

theorem Repoint.noCycle {P P' : Nat → Option Nat} {M : Nat → Prop} {q : Option Nat} (hr : Repoint P M q P')
    (hN : NoCycle P) (hM : ∀ m t, M m → q = some t → ¬ Up P t m) : NoCycle P' := by
  intro a ha
  obtain ⟨b, hab, hu⟩ := anc_iff_up.mp ha
  -- the cycle is `a → b →* a`; after the last crossing on `b →* a` comes an old path `t →* a`
  rcases hr a b hab, hr.up hu with ⟨hab | ⟨hm, hq⟩, hu | ⟨m, t, hm', hq', h1, h2⟩⟩
  · exact hN.not_up hab hu
  · exact hM m t hm' hq' (h2.trans (.step hab h1))
  · exact hM a b hm hq hu
  · cases hq.symm.trans hq'
    exact hM m b hm' hq h1

theorem not_up_sibling {P : Nat → Option Nat} {a b : Nat} (hN : NoCycle P) (h : P a = P b) (hne : a ≠ b) :
    ¬ Up P a b := by
  intro hu
  cases hu with
  | refl => exact hne rfl
  | step hac hcb => exact hN.not_up (h ▸ hac) hcb

/-- `a.parent = q`; the test is spelt as in `setParent` -/
def upd (P : Nat → Option Nat) (a : Nat) (q : Option Nat) : Nat → Option Nat :=
  fun x => if (x == a) = true then q else P x

theorem upd_self (P : Nat → Option Nat) (a : Nat) (q : Option Nat) : upd P a q a = q :=
  if_pos (beq_self_eq_true a)

theorem upd_other (P : Nat → Option Nat) {a x : Nat} (q : Option Nat) (h : x ≠ a) : upd P a q x = P x :=
  if_neg fun e => h (beq_iff_eq.mp e)

theorem repoint_upd (P : Nat → Option Nat) (a : Nat) (q : Option Nat) : Repoint P (· = a) q (upd P a q) := by
  intro x b hx
  by_cases hxa : x = a
  · exact .inr ⟨hxa, by rw [← hx, hxa, upd_self]⟩
  · exact .inl (by rw [← hx, upd_other _ _ hxa])

theorem noCycle_upd {P : Nat → Option Nat} {a : Nat} {q : Option Nat} (hN : NoCycle P)
    (hq : ∀ t, q = some t → ¬ Up P t a) : NoCycle (upd P a q) :=
  (repoint_upd P a q).noCycle hN fun _ t hm => hm ▸ hq t

theorem findNode_id {h : Heap} {a : Nat} {n : Node} (hn : findNode h a = some n) : n.id = a := by
  simpa using List.find?_some hn

/-- the four heap maps of the model have this shape: `g` on the nodes picked by `c`, and `g` keeps `id` -/
theorem findNode_mapIf (h : Heap) {c : Node → Bool} {g : Node → Node} (a : Nat) (hg : ∀ n, (g n).id = n.id) :
    findNode (h.map fun n => if c n = true then g n else n) a =
      (findNode h a).map fun n => if c n = true then g n else n := by
  rw [findNode, List.find?_map]
  congr 2
  funext n
  show ((if c n = true then g n else n).id == a) = (n.id == a)
  cases c n
  · rfl
  · exact congrArg (· == a) (hg n)

theorem hasId_eq_isSome_findNode (h : Heap) (a : Nat) : hasId h a = (findNode h a).isSome :=
  List.isSome_find?.symm

theorem hasId_mem (h : Heap) (a : Nat) : hasId h a = true ↔ a ∈ h.map (·.id) := by
  simp [hasId]

theorem hasId_mapIf (h : Heap) {c : Node → Bool} {g : Node → Node} (a : Nat) (hg : ∀ n, (g n).id = n.id) :
    hasId (h.map fun n => if c n = true then g n else n) a = hasId h a := by
  rw [hasId_eq_isSome_findNode, hasId_eq_isSome_findNode, findNode_mapIf h a hg, Option.isSome_map]

theorem hasId_setWeight (h : Heap) (a w b : Nat) : hasId (setWeight h a w) b = hasId h b :=
  hasId_mapIf h b fun _ => rfl
theorem hasId_setParent (h : Heap) (a : Nat) (q : Option Nat) (b : Nat) : hasId (setParent h a q) b = hasId h b :=
  hasId_mapIf h b fun _ => rfl
theorem hasId_adopt (h : Heap) (sid : Nat) (par : Option Nat) (b : Nat) : hasId (adopt h sid par) b = hasId h b :=
  hasId_mapIf h b fun _ => rfl
theorem hasId_closeNode (h : Heap) (a b : Nat) : hasId (closeNode h a) b = hasId h b :=
  hasId_mapIf h b fun _ => rfl

theorem hasId_append (h : Heap) (n : Node) (b : Nat) : hasId (h ++ [n]) b = (hasId h b || n.id == b) := by
  simp [hasId]

theorem length_setWeight (h : Heap) (a w : Nat) : (setWeight h a w).length = h.length := by
  simp [setWeight]

theorem openNode_find {h : Heap} {a : Nat} {n : Node} (hn : openNode h a = some n) : findNode h a = some n := by
  revert hn
  fun_cases openNode h a
  case case1 m hx ho => exact fun hn => hn ▸ hx
  all_goals exact nofun

theorem hasId_of_openNode {h : Heap} {a : Nat} {n : Node} (hn : openNode h a = some n) : hasId h a = true := by
  rw [hasId_eq_isSome_findNode, openNode_find hn]; rfl

theorem hasId_id_of_openNode {h : Heap} {a : Nat} {n : Node} (hn : openNode h a = some n) : hasId h n.id = true :=
  (findNode_id (openNode_find hn)).symm ▸ hasId_of_openNode hn

theorem parOf_mapIf (h : Heap) {c : Node → Bool} {g : Node → Node} (hg : ∀ n, (g n).id = n.id)
    (hp : ∀ n, (g n).parent = n.parent) : parOf (h.map fun n => if c n = true then g n else n) = parOf h := by
  funext x
  unfold parOf
  rw [findNode_mapIf h x hg]
  cases findNode h x with
  | none => rfl
  | some n =>
    show (if c n = true then g n else n).parent = n.parent
    cases c n
    · rfl
    · exact hp n

theorem parOf_setWeight (h : Heap) (a w : Nat) : parOf (setWeight h a w) = parOf h :=
  parOf_mapIf h (fun _ => rfl) fun _ => rfl

theorem parOf_closeNode (h : Heap) (a : Nat) : parOf (closeNode h a) = parOf h :=
  parOf_mapIf h (fun _ => rfl) fun _ => rfl

theorem parOf_setParent (h : Heap) (a : Nat) (q : Option Nat) (ha : hasId h a = true) :
    parOf (setParent h a q) = upd (parOf h) a q := by
  funext x
  unfold upd parOf setParent
  rw [findNode_mapIf h x (g := fun n => { n with parent := q }) fun _ => rfl]
  cases hx : findNode h x with
  | none =>
    refine (if_neg fun e => ?_).symm
    rw [hasId_eq_isSome_findNode, ← beq_iff_eq.mp e, hx] at ha
    cases ha
  | some n =>
    rw [Option.map_some, findNode_id hx]
    exact apply_ite Node.parent _ _ _

/-- the exclusive loop re-points siblings of `sid` only (the open ones; which of them does not matter) -/
theorem repoint_adopt (h : Heap) (sid : Nat) (par : Option Nat) :
    Repoint (parOf h) (fun x => x ≠ sid ∧ parOf h x = par) (some sid) (parOf (adopt h sid par)) := by
  intro x b hb
  rw [parOf, adopt, findNode_mapIf h x (g := fun n => { n with parent := some sid }) fun _ => rfl] at hb
  cases hx : findNode h x with
  | none => rw [hx] at hb; cases hb
  | some n =>
    have hp : parOf h x = n.parent := by rw [parOf, hx]
    rw [hx, Option.map_some] at hb
    by_cases hc : (n.isOpen && n.id != sid && n.parent == par) = true
    · rw [if_pos hc] at hb
      obtain ⟨⟨_, hne⟩, hnp⟩ := Bool.and_eq_true_iff.mp hc |>.imp Bool.and_eq_true_iff.mp id
      exact .inr ⟨⟨findNode_id hx ▸ bne_iff_ne.mp hne, hp.trans (beq_iff_eq.mp hnp)⟩, hb⟩
    · rw [if_neg hc] at hb
      exact .inl (hp.trans hb)

theorem parOf_append_new (h : Heap) (id : Nat) :
    parOf (h ++ [{ id := id, parent := none, weight := 0, isOpen := true }]) = parOf h := by
  funext x
  simp only [parOf, findNode, List.find?_append]
  cases List.find? (fun n => n.id == x) h with
  | some n => rfl
  | none =>
    simp only [Option.none_or, List.find?_cons, List.find?_nil]
    cases id == x <;> rfl

theorem reaches_spec {h : Heap} {t fuel : Nat} {c : Option Nat} {r : Bool} (hr : reaches h t fuel c = some r) :
    r = true ↔ ∃ x, c = some x ∧ Up (parOf h) x t := by
  fun_induction reaches h t fuel c with
  | case1 => cases hr; exact ⟨nofun, nofun⟩         -- nil: the chain has ended
  | case2 => cases hr                               -- out of fuel
  | case3 f c hct => cases hr; exact ⟨fun _ => ⟨c, rfl, beq_iff_eq.mp hct ▸ .refl c⟩, fun _ => rfl⟩
  | case4 f c hct ih =>
    -- from `c ≠ t` on, reaching `t` is decided at the parent of `c`
    rw [ih hr]
    constructor
    · rintro ⟨x, hx, hu⟩
      exact ⟨c, rfl, .step hx hu⟩
    · rintro ⟨_, ⟨⟩, hu⟩
      cases hu with
      | refl => exact absurd (beq_self_eq_true _) hct
      | step hx hu => exact ⟨_, hx, hu⟩

theorem Closed.up {h : Heap} {c x : Nat} (hC : Closed h) (hu : Up (parOf h) c x) (hc : hasId h c = true) :
    hasId h x = true := by
  induction hu with
  | refl => exact hc
  | step hab _ ih => exact ih (hC _ _ hab)

/-- pigeonhole: `l` holds every object the walk can still come to; the one it stands on is crossed off -/
theorem reaches_fuel {h : Heap} (t : Nat) (hN : NoCycle (parOf h)) {fuel : Nat} {l : List Nat} {c : Nat}
    (hl : ∀ x, Up (parOf h) c x → x ∈ l) (hlen : l.length ≤ fuel) : reaches h t fuel (some c) ≠ none := by
  induction fuel generalizing l c with
  | zero =>
    cases List.eq_nil_of_length_eq_zero (Nat.le_zero.mp hlen)
    cases hl c (.refl c)
  | succ f ih =>
    rw [reaches]
    split
    · exact Option.some_ne_none _
    · cases hp : parOf h c with
      | none => rw [reaches]; exact Option.some_ne_none _
      | some d =>
        refine ih (l := l.erase c) (fun x hx => ?_) ?_
        · exact (List.mem_erase_of_ne fun e : x = c => hN.not_up hp (e ▸ hx)).mpr (hl x (.step hp hx))
        · rw [List.length_erase_of_mem (hl c (.refl c))]; omega

theorem reaches_total {h : Heap} (t : Nat) {c : Nat} (hN : NoCycle (parOf h)) (hC : Closed h)
    (hc : hasId h c = true) : reaches h t h.length (some c) ≠ none :=
  reaches_fuel t hN (l := h.map (·.id)) (fun _ hx => (hasId_mem h _).mp (hC.up hx hc))
    (Nat.le_of_eq (List.length_map _))

theorem closed_of_parOf {h h' : Heap} (hC : Closed h) (hp : parOf h' = parOf h)
    (hi : ∀ b, hasId h' b = hasId h b) : Closed h' :=
  fun x b hx => by rw [hi]; exact hC x b (hp ▸ hx)

theorem closed_setWeight {h : Heap} (hC : Closed h) (a w : Nat) : Closed (setWeight h a w) :=
  closed_of_parOf hC (parOf_setWeight h a w) (hasId_setWeight h a w)

theorem closed_closeNode {h : Heap} (hC : Closed h) (a : Nat) : Closed (closeNode h a) :=
  closed_of_parOf hC (parOf_closeNode h a) (hasId_closeNode h a)

theorem Repoint.closed {h h' : Heap} {M : Nat → Prop} {q : Option Nat} (hr : Repoint (parOf h) M q (parOf h'))
    (hC : Closed h) (hi : ∀ b, hasId h' b = hasId h b) (hq : ∀ b, q = some b → hasId h b = true) : Closed h' := by
  intro x b hx
  rw [hi]
  exact (hr x b hx).elim (hC x b) fun ⟨_, e⟩ => hq b e

theorem closed_setParent {h : Heap} (hC : Closed h) {a : Nat} {q : Option Nat} (ha : hasId h a = true)
    (hq : ∀ b, q = some b → hasId h b = true) : Closed (setParent h a q) :=
  Repoint.closed (parOf_setParent h a q ha ▸ repoint_upd _ a q) hC (hasId_setParent h a q) hq

theorem closed_adopt {h : Heap} (hC : Closed h) {sid : Nat} (par : Option Nat) (ha : hasId h sid = true) :
    Closed (adopt h sid par) :=
  (repoint_adopt h sid par).closed hC (hasId_adopt h sid par) fun _ e => Option.some.inj e ▸ ha

theorem closed_append_new {h : Heap} (hC : Closed h) (id : Nat) :
    Closed (h ++ [{ id := id, parent := none, weight := 0, isOpen := true }]) := by
  intro x b hx
  rw [parOf_append_new] at hx
  rw [hasId_append, hC x b hx]; rfl

theorem weightOf_mapIf (h : Heap) {c : Node → Bool} {g : Node → Node} (a : Nat) (hg : ∀ n, (g n).id = n.id)
    (hw : ∀ n, (g n).weight = n.weight) :
    weightOf (h.map fun n => if c n = true then g n else n) a = weightOf h a := by
  unfold weightOf
  rw [findNode_mapIf h a hg]
  cases findNode h a with
  | none => rfl
  | some n =>
    show some (if c n = true then g n else n).weight = some n.weight
    cases c n
    · rfl
    · exact congrArg some (hw n)

theorem weightOf_setParent (h : Heap) (a : Nat) (q : Option Nat) (x : Nat) :
    weightOf (setParent h a q) x = weightOf h x :=
  weightOf_mapIf h x (fun _ => rfl) fun _ => rfl

theorem weightOf_adopt (h : Heap) (sid : Nat) (par : Option Nat) (x : Nat) :
    weightOf (adopt h sid par) x = weightOf h x :=
  weightOf_mapIf h x (fun _ => rfl) fun _ => rfl

theorem weightOf_closeNode (h : Heap) (a x : Nat) : weightOf (closeNode h a) x = weightOf h x :=
  weightOf_mapIf h x (fun _ => rfl) fun _ => rfl

theorem weightOf_setWeight (h : Heap) (a w x : Nat) :
    weightOf (setWeight h a w) x = if x = a then (weightOf h x).map (fun _ => w) else weightOf h x := by
  unfold weightOf setWeight
  rw [findNode_mapIf h x (g := fun n => { n with weight := w }) fun _ => rfl]
  cases hx : findNode h x with
  | none => simp
  | some n =>
    rw [Option.map_some, Option.map_some, Option.map_some, findNode_id hx]
    by_cases hxa : x = a
    · rw [if_pos hxa, if_pos (beq_iff_eq.mpr hxa)]; rfl
    · rw [if_neg hxa, if_neg (fun e => hxa (beq_iff_eq.mp e))]

theorem adjust_not_open {h : Heap} {sid dep : Nat} {excl : Bool} {w : Nat} (hst : openNode h sid = none) :
    adjust h sid dep excl w = some h := by
  rw [adjust, hst]

/-- the pointer writes of one `adjustStreamPriority` call in program order, each with what the code knows when it
    makes it: the conditions speak of the heap at hand only, so `adjust_writes` needs no invariant -/
inductive Writes : Heap → Heap → Prop
  | done (h : Heap) : Writes h h
  /-- `parent.parent = st.parent`: the walk up from `parent` has met `st` -/
  | detach {h h' : Heap} {p s : Nat} (hp : hasId h p = true) (hps : Up (parOf h) p s) :
      Writes (setParent h p (parOf h s)) h' → Writes h h'
  /-- `st.parent = parent`: `parent` is not below `st`, or has just become its sibling (and then is not below it
      on an acyclic heap: `not_up_sibling`) -/
  | link {h h' : Heap} {s : Nat} {q : Option Nat} (hs : hasId h s = true)
      (hq : ∀ p, q = some p → hasId h p = true ∧ (¬ Up (parOf h) p s ∨ p ≠ s ∧ parOf h p = parOf h s)) :
      Writes (setParent h s q) h' → Writes h h'
  /-- the exclusive loop: the other open children of the parent of `st` -/
  | excl {h h' : Heap} {s : Nat} {q : Option Nat} (hs : hasId h s = true) (hq : parOf h s = q) :
      Writes (adopt h s q) h' → Writes h h'

theorem Writes.noCycle {h h' : Heap} (hw : Writes h h') (hN : NoCycle (parOf h)) : NoCycle (parOf h') := by
  induction hw with
  | done => exact hN
  | detach hp hps _ ih =>
    refine ih ?_
    rw [parOf_setParent _ _ _ hp]
    exact noCycle_upd hN fun _ hg hgp => hN.not_up hg (hgp.trans hps)
  | link hs hq _ ih =>
    refine ih ?_
    rw [parOf_setParent _ _ _ hs]
    exact noCycle_upd hN fun p e => (hq p e).2.elim id fun ⟨hne, hps⟩ => not_up_sibling hN hps hne
  | excl hs hq _ ih =>
    exact ih ((repoint_adopt _ _ _).noCycle hN fun _ _ ⟨hne, hm⟩ e =>
      Option.some.inj e ▸ not_up_sibling hN (hq.trans hm.symm) hne.symm)

theorem Writes.closed {h h' : Heap} (hw : Writes h h') (hC : Closed h) : Closed h' := by
  induction hw with
  | done => exact hC
  | @detach h _ p s hp _ _ ih => exact ih (closed_setParent hC hp (hC s))
  | link hs hq _ ih => exact ih (closed_setParent hC hs fun p e => (hq p e).1)
  | excl hs _ _ ih => exact ih (closed_adopt hC _ hs)

theorem Writes.weightOf {h h' : Heap} (hw : Writes h h') (x : Nat) : weightOf h' x = weightOf h x := by
  induction hw with
  | done => rfl
  | detach _ _ _ ih => exact ih.trans (weightOf_setParent _ _ _ x)
  | link _ _ _ ih => exact ih.trans (weightOf_setParent _ _ _ x)
  | excl _ _ _ ih => exact ih.trans (weightOf_adopt _ _ _ x)

/-- the tail of every branch of `adjust` that moves `st` -/
theorem Writes.linkExcl {h : Heap} {s : Nat} {q : Option Nat} (b : Bool) (hs : hasId h s = true)
    (hq : ∀ p, q = some p → hasId h p = true ∧ (¬ Up (parOf h) p s ∨ p ≠ s ∧ parOf h p = parOf h s)) :
    Writes h (if b = true then adopt (setParent h s q) s q else setParent h s q) := by
  refine .link hs hq ?_
  cases b
  · exact .done _
  · exact .excl ((hasId_setParent h s q s).trans hs) (by rw [parOf_setParent _ _ _ hs, upd_self]) (.done _)

theorem adjust_writes {h h' : Heap} {sid dep : Nat} {excl : Bool} {w : Nat} {st : Node}
    (hst : openNode h sid = some st) (ha : adjust h sid dep excl w = some h') : Writes (setWeight h sid w) h' := by
  have hsid : hasId (setWeight h sid w) sid = true := (hasId_setWeight h sid w sid).trans (hasId_of_openNode hst)
  revert ha
  fun_cases adjust h sid dep excl w
  case case1 hn => rw [hst] at hn; cases hn         -- `sid` is not open
  case case2 =>                                     -- the dependency is not an open stream: `sid` becomes a root
    intro ha
    cases Option.some.inj ha
    exact .linkExcl (excl && dep == 0) hsid nofun
  case case3 => exact fun ha => Option.some.inj ha ▸ .done _      -- it is `sid` itself
  case case4 => exact nofun                         -- the walk ran out of fuel: `adjust = none`
  case case5 st' hst' h1 p hp hpb r hr h2 h3 =>     -- `r`: the walk up from the dependency `p` met `sid`
    intro ha
    cases Option.some.inj ha
    have hspec := reaches_spec hr
    have hpe : p.id ≠ sid := fun e => hpb (beq_iff_eq.mpr e)
    have hpid : hasId h1 p.id = true := (hasId_setWeight h sid w _).trans (hasId_id_of_openNode hp)
    cases r with
    | false =>
      exact .linkExcl excl hsid fun _ e => Option.some.inj e ▸
        ⟨hpid, Or.inl fun hc => Bool.false_ne_true (hspec.mpr ⟨_, rfl, hc⟩)⟩
    | true =>
      have hps : parOf h1 sid = st'.parent := by
        rw [parOf_setWeight, parOf, openNode_find hst']
      obtain ⟨_, ⟨⟩, hx⟩ := hspec.mp rfl
      refine .detach (s := sid) hpid hx ?_
      rw [hps]
      refine .linkExcl excl ((hasId_setParent _ _ _ _).trans hsid) fun _ e => Option.some.inj e ▸
        ⟨(hasId_setParent _ _ _ _).trans hpid, Or.inr ⟨hpe, ?_⟩⟩
      rw [parOf_setParent _ _ _ hpid, upd_self, upd_other _ _ (Ne.symm hpe), hps]

/-- an operation first prepares the heap without touching a pointer (nothing, a close, a fresh root) and then calls
    `adjust` at most once -/
theorem step_cases (h : Heap) (o : Op) : ∃ h0, parOf h0 = parOf h ∧ (Closed h → Closed h0) ∧
    (step h o = some h0 ∨ ∃ sid dep excl w, step h o = adjust h0 sid dep excl w) := by
  cases o with
  | close a => exact ⟨_, parOf_closeNode h a, (closed_closeNode · a), .inl rfl⟩
  | prio a dep excl w => exact ⟨h, rfl, id, .inr ⟨_, _, _, _, rfl⟩⟩
  | new a pr =>
    rw [step]
    cases canOpen h a
    · exact ⟨h, rfl, id, .inl rfl⟩
    · refine ⟨_, parOf_append_new h a, (closed_append_new · a), ?_⟩
      match pr with
      | none => exact .inl rfl
      | some (dep, excl, w) => exact .inr ⟨_, _, _, _, rfl⟩

/-- every branch of `wireStep` leaves the heap alone or takes one `step` on it -/
theorem wireStep_elim {Q : Option Conn → Prop} (c : Conn) (o : Op)
    (stay : ∀ c' : Conn, c'.heap = c.heap → Q (some c'))
    (move : ∀ o', Q ((step c.heap o').map fun h => { c with heap := h })) : Q (wireStep c o) := by
  have qIte {k : Prop} [Decidable k] {a b : Option Conn} (ha : Q a) (hb : Q b) : Q (if k then a else b) := by
    split <;> assumption
  cases o with
  -- one `qIte` per guard of `wireStep`, in its order; every op starts with `gone`, `id == 0`
  | new id pr =>      -- then `goAway`, even id, open (trailers: close), old id, else create
    exact qIte (stay _ rfl) <| qIte (stay _ rfl) <| qIte (stay _ rfl) <| qIte (stay _ rfl) <|
      qIte (move _) <| qIte (stay _ rfl) (move _)
  | prio id dep excl w => exact qIte (stay _ rfl) <| qIte (stay _ rfl) (move _)
  | close id =>       -- then idle stream (`id > maxId`)
    exact qIte (stay _ rfl) <| qIte (stay _ rfl) <| qIte (stay _ rfl) (move _)

/-- a stream on a cycle stays on it: its chain never ends, whatever the fuel -/
theorem chainEnds_cycle {h : Heap} (f : Nat) : ∀ c b : Nat, parOf h c = some b → Up (parOf h) b c →
    chainEnds h f (some c) = false := by
  induction f with
  | zero => intros; rfl
  | succ f ih =>
    intro c b hcb hu
    rw [chainEnds, hcb]
    cases hu with
    | refl => exact ih _ _ hcb (.refl _)
    | step hb hu => exact ih _ _ hb (hu.trans (.step hcb (.refl _)))

end BfeVerif.C36
