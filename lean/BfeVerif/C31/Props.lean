import BfeVerif.C31.Proofs
/-!
  C31 — HPACK decoding conforms to RFC 7541.  huffmanDecode is the one of /repo, which carries upstream's nil /
  `sbits > 7` / EOS-prefix-padding checks.
-/
namespace BfeVerif.C31
open BfeVerif.C30

/-- same fields and table when the reference accepts; some error, not a panic, when it rejects (the exact
    error: `decodeChunks_rfc`).  "Not a panic" holds of the model by construction: nothing in C30/Core.lean or
    Model.lean returns `DErr.crash`, only the drivers render it. -/
def Agrees (o : Outcome) (r : Except RErr (List HF × DynTab)) : Prop :=
  match r with
  | .ok (fs, t) => o.err = none ∧ o.fields = fs ∧ o.tab = t
  | .error _ => o.err.isSome = true ∧ o.err ≠ some .crash

/-- **C31 at full strength**: all settings, every split delivery.  Holds without SetMaxStringLength
    (`C31_conforms_partial`), not with it (`C31_not_conforms`: the split-dependent guard of `Write`). -/
def C31_Conforms (T : Tables) : Prop :=
  ∀ (c : Cfg) (chunks : List (List Nat)), Agrees (decodeChunks T c chunks) (rfcDecode T c chunks.flatten)

theorem C31_table_prefix_free : pfCheck 31 (allCodes T) = true := by decide +kernel
theorem C31_table_pad_ok : padOk T = true := by decide +kernel
theorem C31_table_eos : T.eos = List.replicate 30 true := by decide +kernel
/-- the static table and the 257 Huffman codes are the ones reviewed against RFC 7541 Appendix A / B: a changed
    entry in tables.go changes a digest -/
theorem C31_table_digests : staticDigest T.static = 2989562081 ∧ codesDigest (allCodes T) = 4143188944 := by
  decide +kernel

theorem C31_tables_ok : TablesOk T := ⟨C31_table_prefix_free, C31_table_pad_ok, C31_table_eos⟩

/-- **Huffman strings conform to RFC 7541 §5.2**: `huffmanDecode` as coded accepts exactly what the bit-level
    reference accepts — codes, then at most 7 bits of padding that is a prefix of EOS, no EOS — with the same octets … -/
theorem C31_huffman_conforms (v s : List Nat) : huffmanDecode T 0 v = .ok s ↔ rfcHuff T v = .ok s :=
  huffman_iff_rfc C31_tables_ok v s

/-- … and answers ErrInvalidHuffman exactly where the reference rejects; no panic outcome is left -/
theorem C31_huffman_rejects (v : List Nat) : huffmanDecode T 0 v = .error .invalid ↔ ∃ e, rfcHuff T v = .error e :=
  huffman_err_iff_rfc C31_tables_ok v

/-- non-vacuity: `07` is the canonical coding of "0"; the RFC C.4.1 name `www.example.com` -/
example : rfcHuff T [0x07] = .ok [48] :=
  rfcHuff_canon C31_tables_ok (k := 3) (by decide) (by decide +kernel) (by decide +kernel)
example : rfcHuff T [0xf1, 0xe3, 0xc2, 0xe5, 0xf2, 0x3a, 0x6b, 0xa0, 0xab, 0x90, 0xf4, 0xff] =
    .ok [119, 119, 119, 46, 101, 120, 97, 109, 112, 108, 101, 46, 99, 111, 109] :=
  rfcHuff_canon C31_tables_ok (k := 7) (by decide) (by decide +kernel) (by decide +kernel)

/-- `Decoder.at` answers exactly for 1 ≤ i ≤ static + dynamic entries -/
theorem C31_index_bounds (d : Dec) (i : Nat) :
    (d.at T i).isSome = true ↔ 1 ≤ i ∧ i ≤ T.static.length + d.tab.ents.length :=
  at_isSome T d i

/-- size updates above the allowed maximum are errors, accepted ones set `maxSize` within it -/
theorem C31_size_update_bound (d d' : Dec) (buf rest : List Nat) (em : Option HF)
    (h : parseDynamicTableSizeUpdate d buf = .ok (d', rest, em)) :
    d'.tab.maxSize ≤ d.allowed ∧ em = none := by
  unfold parseDynamicTableSizeUpdate at h
  cases hr : readVarInt 5 buf with
  | error e => rw [hr] at h; cases h
  | ok p =>
    rw [hr] at h
    dsimp only at h
    by_cases hs : p.1 > d.allowed
    · rw [if_pos hs] at h; cases h
    · rw [if_neg hs] at h; cases h; exact ⟨Nat.le_of_not_gt hs, rfl⟩

def cfg0 : Cfg := { maxSize := 4096, allowed := 4096, maxStr := 0 }

/-! The inputs of corpus/C31, one for each of the three checks of huffmanDecode: decoding errors, as in the reference. -/

/-- name `00 3f ff ff ff` = `'0' '0' EOS` (without the nil check: nil dereference, panic) -/
theorem C31_fixed_eos :
    (decodeChunks T cfg0 [[0x00, 0x85, 0x00, 0x3f, 0xff, 0xff, 0xff]]).err = some .huffman ∧
    rfcDecode T cfg0 [0x00, 0x85, 0x00, 0x3f, 0xff, 0xff, 0xff] = .error .huffEos := by
  -- here and below: the reference is evaluated; the decoder's error is then the reference's, by conformance
  suffices h : _ from ⟨decodeChunks_err C31_tables_ok cfg0 rfl h, h⟩
  decide +kernel

/-- name `07 ff` = `'0'` + 11 one-bits, and `ff` = 8 one-bits (without the `sbits > 7` check: accepted) -/
theorem C31_fixed_pad_long :
    (decodeChunks T cfg0 [[0x00, 0x82, 0x07, 0xff, 0x00]]).err = some .huffman ∧
    rfcDecode T cfg0 [0x00, 0x82, 0x07, 0xff, 0x00] = .error .huffPadLong ∧
    (decodeChunks T cfg0 [[0x00, 0x81, 0xff, 0x00]]).err = some .huffman := by
  suffices h : _ ∧ rfcDecode T cfg0 [0x00, 0x81, 0xff, 0x00] = .error .huffPadLong from
    ⟨decodeChunks_err C31_tables_ok cfg0 rfl h.1, h.1, decodeChunks_err C31_tables_ok cfg0 rfl h.2⟩
  decide +kernel

/-- name `00` = `'0'` + three ZERO bits of padding (without the "padding is all ones" check: accepted) -/
theorem C31_fixed_pad_zero :
    (decodeChunks T cfg0 [[0x00, 0x81, 0x00, 0x00]]).err = some .huffman ∧
    rfcDecode T cfg0 [0x00, 0x81, 0x00, 0x00] = .error .huffPadBits := by
  suffices h : _ from ⟨decodeChunks_err C31_tables_ok cfg0 rfl h, h⟩
  decide +kernel

/-- **block-level conformance for every byte string** (SetMaxStringLength not used): same fields (names, values,
    never-index flags) and final dynamic table when the reference accepts; an error and no panic when it rejects -/
theorem C31_conforms_whole_partial (c : Cfg) (hc : c.maxStr = 0) (bytes : List Nat) :
    Agrees (decodeChunks T c [bytes]) (rfcDecode T c bytes) := by
  have h := decodeChunks_rfc C31_tables_ok c hc [bytes]
  rw [List.flatten_singleton] at h
  generalize rfcDecode T c bytes = r at h ⊢
  cases r with
  | ok p => exact h ▸ ⟨rfl, rfl, rfl⟩
  | error e => exact ⟨h ▸ rfl, h ▸ by cases e <;> exact fun h => nomatch h⟩

/-- **split invariance** (SetMaxStringLength not used): however the block is cut into `Write` calls (empty chunks
    included), fields, error and final table are those of one `Write` of the whole block -/
theorem C31_split_invariant_partial (c : Cfg) (hc : c.maxStr = 0) (chunks : List (List Nat)) :
    decodeChunks T c chunks = decodeChunks T c [chunks.flatten] :=
  decodeChunks_flatten T c hc chunks

/-- **C31 without SetMaxStringLength**: `C31_Conforms` restricted to `maxStr = 0` -/
theorem C31_conforms_partial (c : Cfg) (hc : c.maxStr = 0) (chunks : List (List Nat)) :
    Agrees (decodeChunks T c chunks) (rfcDecode T c chunks.flatten) := by
  rw [C31_split_invariant_partial c hc chunks]
  exact C31_conforms_whole_partial c hc chunks.flatten

/-- split invariance at full strength: false with SetMaxStringLength (witness below) -/
def C31_SplitInvariant (T : Tables) : Prop :=
  ∀ (c : Cfg) (chunks : List (List Nat)), decodeChunks T c chunks = decodeChunks T c [chunks.flatten]

def vi127 : List Nat := [127, 128, 128, 128, 128, 128, 128, 128, 128, 0]
def splitBlk : List Nat := [0] ++ vi127 ++ List.replicate 127 97 ++ vi127 ++ List.replicate 127 97
def cfg127 : Cfg := { maxSize := 4096, allowed := 4096, maxStr := 127 }

/-- a valid 275-octet literal field (both lengths 127, as 10-octet integers `vi127`) is accepted in one Write and by
    the reference, but rejected (ErrStringLength) when its last octet arrives in a second Write: the guard
    `len(buf) > 2*(maxStrLen+varIntOverhead)`, `varIntOverhead = 8 // conservative` (hpack.go:336), fires on the
    incomplete buffer (known finding `split-strlen-guard`) -/
theorem C31_witness_split_differs :
    (decodeChunks T cfg127 [splitBlk]).err = none ∧
    (decodeChunks T cfg127 [splitBlk.take 274, splitBlk.drop 274]).err = some .strLen ∧
    (rfcDecode T cfg127 splitBlk).toOption.isSome = true := by
  decide +kernel

theorem C31_not_split_invariant : ¬ C31_SplitInvariant T := by
  intro h
  have h1 := h cfg127 [splitBlk.take 274, splitBlk.drop 274]
  rw [List.flatten_cons, List.flatten_singleton, List.take_append_drop] at h1
  have hw := C31_witness_split_differs
  exact nomatch hw.2.1.symm.trans ((congrArg Outcome.err h1).trans hw.1)

theorem C31_not_conforms_of (T : Tables) (c : Cfg) (chunks : List (List Nat)) (e : DErr)
    (h1 : (decodeChunks T c chunks).err = some e) (h2 : (rfcDecode T c chunks.flatten).toOption.isSome = true) :
    ¬ C31_Conforms T := by
  intro h
  have h3 := h c chunks
  cases hr : rfcDecode T c chunks.flatten with
  | error e' => rw [hr] at h2; cases h2
  | ok p => obtain ⟨fs, t⟩ := p; rw [hr] at h3; exact nomatch h1.symm.trans h3.1

theorem C31_witness_split_ref :
    (rfcDecode T cfg127 [splitBlk.take 274, splitBlk.drop 274].flatten).toOption.isSome = true := by
  rw [List.flatten_cons, List.flatten_singleton, List.take_append_drop]
  exact C31_witness_split_differs.2.2

/-- with SetMaxStringLength the split delivery errors on a block the reference accepts -/
theorem C31_not_conforms : ¬ C31_Conforms T :=
  C31_not_conforms_of T cfg127 _ _ C31_witness_split_differs.2.1 C31_witness_split_ref

/-- the loop the driver runs (`writeLoopE`, with the emit callback of bfe_http2/frame.go) is, for the plain
    callback, the loop of the theorems above -/
theorem C31_plain_callback_is_model (c : Cfg) (chunks : List (List Nat)) :
    (decodeChunksE T c .none chunks).fields = (decodeChunks T c chunks).fields ∧
    (decodeChunksE T c .none chunks).err.bind EErr.toD = (decodeChunks T c chunks).err ∧
    (decodeChunksE T c .none chunks).tab = (decodeChunks T c chunks).tab :=
  decodeChunksE_none T c chunks

/-- **RFC 7541 §4.2 at full strength**: a block with a dynamic table size update after a field representation is
    a decoding error.  NOT enforced by the code (known finding `accepted-size-update-after-field`). -/
def C31_UpdateFirst (T : Tables) : Prop :=
  ∀ (c : Cfg) (bytes : List Nat), rfcUpdateAfterField T c bytes = true → (decodeChunks T c [bytes]).err.isSome = true

/-- `82 20` = indexed field `:method GET`, then "table size := 0" in the middle of the block: accepted -/
theorem C31_witness_update_after_field :
    rfcUpdateAfterField T cfg0 [0x82, 0x20] = true ∧ (decodeChunks T cfg0 [[0x82, 0x20]]).err = none ∧
    (decodeChunks T cfg0 [[0x82, 0x20]]).tab.maxSize = 0 := by
  decide +kernel

theorem C31_not_update_first : ¬ C31_UpdateFirst T := by
  intro h
  have h1 := h cfg0 [0x82, 0x20] C31_witness_update_after_field.1
  rw [C31_witness_update_after_field.2.1] at h1
  cases h1

end BfeVerif.C31
