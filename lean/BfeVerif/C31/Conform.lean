import BfeVerif.C31.Split
import BfeVerif.C30.Sync
import BfeVerif.C31.HuffRef
/-!
  Block-level agreement with the RFC 7541 reference (SetMaxStringLength not used): every reader of the decoder is
  the reader of the reference up to the translation `toD` of the errors, and so is `Write` … `Close`.
-/
namespace BfeVerif.C31
open BfeVerif.C30

def toD : RErr → DErr
  | .truncated => .needMore | .varint => .overflow | .index => .invalidIndex | .size => .sizeTooLarge
  | .strlen => .strLen | .huffEos => .huffman | .huffPadLong => .huffman | .huffPadBits => .huffman

theorem readVarIntTail_eq_rfc : ∀ (p : List Nat) (k i : Nat),
    readVarIntTail p i (7 * k) =
      match rfcIntTail p k with
      | .ok (v, r) => .ok (i + v, r)
      | .error e => .error (toD e)
  | [], _, _ => rfl
  | b :: p, k, i => by
    have hpow : 2 ^ (7 * k) = 128 ^ k := Nat.pow_mul 2 7 k
    rw [readVarIntTail, rfcIntTail]
    by_cases hb : b < 128
    · rw [if_pos hb, if_pos hb, Nat.mod_eq_of_lt hb, hpow]
    · rw [if_neg hb, if_neg hb]
      by_cases hk : k ≥ 8
      · rw [if_pos hk, if_pos (Nat.add_le_add_right (Nat.mul_le_mul_left 7 hk) 7)]; rfl
      · rw [if_neg hk, if_neg (by omega), ← Nat.mul_succ, readVarIntTail_eq_rfc p (k + 1), hpow]
        cases rfcIntTail p (k + 1) with
        | error e => rfl
        | ok pr => exact congrArg (fun x => Except.ok (x, pr.2)) (Nat.add_assoc ..)

theorem readVarInt_eq_rfc (n : Nat) : ∀ (p : List Nat), readVarInt n p = (rfcInt n p).mapError toD
  | [] => rfl
  | b :: p => by
    rw [readVarInt, rfcInt]
    by_cases hb : b % 2 ^ n < 2 ^ n - 1
    · rw [if_pos hb, if_pos hb]; rfl
    · rw [if_neg hb, if_neg hb, ← Nat.mul_zero 7, readVarIntTail_eq_rfc p 0]
      cases rfcIntTail p 0 <;> rfl

/-- stated for `ms` with `ms = 0` so that it rewrites `readString T d.maxStrLen` under `d.maxStrLen = 0` -/
theorem readString_eq_rfc {T : Tables} (ok : TablesOk T) {ms : Nat} (hms : ms = 0) : ∀ (p : List Nat),
    readString T ms p = (rfcString T 0 p).mapError toD
  | [] => rfl
  | b :: p => by
    subst hms
    rw [readString, rfcString, readVarInt_eq_rfc]
    cases rfcInt 7 (b :: p) with
    | error e => rfl
    | ok pr =>
      have hm : ∀ n : Nat, ¬ ((0 : Nat) ≠ 0 ∧ n > 0) := fun _ h => h.1 rfl
      dsimp only [Except.mapError]
      rw [if_neg (hm _), if_neg (hm _)]
      by_cases hl : pr.2.length < pr.1
      · rw [if_pos hl, if_pos hl]; rfl
      · rw [if_neg hl, if_neg hl]
        by_cases hb : b < 128
        · rw [if_pos hb, if_pos (by simpa using hb)]
        · rw [if_neg hb, if_neg (by simpa using hb)]
          cases hh : rfcHuff T (pr.2.take pr.1) with
          | error e =>
            have hH := rfcHuff_err T _ e hh
            rw [(huffman_err_iff_rfc ok _).mpr ⟨e, hh⟩]
            cases e <;> first | rfl | cases hH
          | ok s => rw [huffman_agrees_of_rfc_ok ok _ s hh]; dsimp only [liftH]; rw [if_neg (hm _)]

theorem rfcAt_eq (T : Tables) (d : Dec) (i : Nat) : rfcAt T d.tab i = d.at T i := by
  unfold rfcAt
  by_cases h0 : i = 0
  · subst h0; rfl
  · rw [if_neg h0, at_eq T d i (Nat.pos_of_ne_zero h0)]; rfl

theorem parseFieldLiteral_eq_rfc {T : Tables} (ok : TablesOk T) (d : Dec) (hd : d.maxStrLen = 0) (n it : Nat) (buf : List Nat) :
    parseFieldLiteral T d buf n it =
      match rfcLiteral T 0 d.tab n buf with
      | .ok (nm, v, rest) =>
        .ok (if it = 0 then { d with tab := d.tab.add { name := nm, value := v } } else d, rest,
          some { name := nm, value := v, sensitive := it = 2 })
      | .error e => .error (toD e) := by
  have value : ∀ (nm r1 : List Nat), litValue T d it nm r1 =
      match rfcString T 0 r1 with
      | .error e => .error (toD e)
      | .ok (v, rest) => .ok (if it = 0 then { d with tab := d.tab.add { name := nm, value := v } } else d, rest,
          some { name := nm, value := v, sensitive := it = 2 }) := by
    intro nm r1
    rw [litValue, readString_eq_rfc ok hd]
    cases rfcString T 0 r1 with
    | error e => rfl
    | ok pv =>
      dsimp only [Except.mapError]
      rw [callEmit, if_neg fun h => h.1 (by split <;> first | rfl | exact hd)]
  rw [parseFieldLiteral_eq, rfcLiteral, readVarInt_eq_rfc]
  cases rfcInt n buf with
  | error e => rfl
  | ok pr =>
    dsimp only [Except.mapError]
    unfold readName
    by_cases h0 : pr.1 = 0
    · rw [if_neg (h0 ▸ Nat.lt_irrefl 0), if_pos h0, readString_eq_rfc ok hd]
      cases rfcString T 0 pr.2 with
      | error e => rfl
      | ok pn => dsimp only [Except.mapError]; rw [value]; cases rfcString T 0 pn.2 <;> rfl
    · rw [if_pos (Nat.pos_of_ne_zero h0), if_neg h0, rfcAt_eq]
      cases d.at T pr.1 with
      | none => rfl
      | some nv => dsimp only; rw [value]; cases rfcString T 0 pr.2 <;> rfl

def Matches (o : Outcome) : Except RErr (List HF × DynTab) → Prop
  | .ok (fs, t) => o = { fields := fs, err := none, tab := t }
  | .error e => o.err = some (toD e)

theorem matches_err {T : Tables} {d : Dec} {buf : List Nat} (out : List HF) (e : RErr) (hd : d.maxStrLen = 0)
    (h0 : buf ≠ []) (hp : parseRepr T d buf = .error (toD e)) :
    Matches (closeOutcome (writeAll T d buf out)) (.error e) := by
  -- `truncated` is `needMore`: `Write` saves the buffer, and `Close` reports it because the buffer is a cons
  obtain ⟨x, xs, rfl⟩ := List.exists_cons_of_ne_nil h0
  rw [writeAll_err out hd h0 hp]
  cases e <;> rfl

theorem rfcBlock_rel {T : Tables} (ok : TablesOk T) : ∀ (f : Nat) (d : Dec) (buf : List Nat) (out : List HF),
    d.maxStrLen = 0 → buf.length < f →
    Matches (closeOutcome (writeAll T d buf out)) (rfcBlock T d.allowed 0 f d.tab buf out)
  | 0, _, _, _, _, h => absurd h (Nat.not_lt_zero _)
  | _ + 1, _, [], _, _, _ => rfl
  | n + 1, d, b :: r, out, hd, hf => by
    have h0 : b :: r ≠ [] := List.cons_ne_nil _ _
    -- `exact step hpc` below meets goals that still read `if tooLong 0 nm v then .error .strlen else rfcBlock T d.allowed …`:
    -- `tooLong 0 _ _` and the fields of `d'`, a record update of `d`, reduce by unfolding
    have step : ∀ {d' rest em}, parseRepr T d (b :: r) = .ok (d', rest, em) →
        Matches (closeOutcome (writeAll T d (b :: r) out)) (rfcBlock T d'.allowed 0 n d'.tab rest (emitOut out em)) :=
      fun hp => by
        have hc := parseRepr_consumes hp
        rw [writeAll_ok out hp]
        exact rfcBlock_rel ok n _ _ _ (hc.2.trans hd) (Nat.lt_of_lt_of_le hc.1 (Nat.le_of_lt_succ hf))
    have hpc := parseRepr_cons T d b r
    rw [rfcBlock]
    by_cases c1 : b ≥ 128
    · -- §6.1 indexed
      rw [if_pos c1, parseFieldIndexed, readVarInt_eq_rfc] at hpc
      rw [if_pos c1]
      generalize rfcInt 7 (b :: r) = ri at hpc ⊢
      cases ri with
      | error e => exact matches_err out e hd h0 hpc
      | ok pr =>
        dsimp only [Except.mapError] at hpc ⊢
        rw [rfcAt_eq]
        cases hat : d.at T pr.1 with
        | none => rw [hat] at hpc; exact matches_err out .index hd h0 hpc
        | some nv =>
          rw [hat] at hpc
          dsimp only [callEmit] at hpc
          rw [if_neg fun h => h.1 hd] at hpc
          exact step hpc
    rw [if_neg c1] at hpc ⊢
    by_cases c2 : b ≥ 64
    · -- §6.2.1 literal with incremental indexing
      rw [if_pos c2, parseFieldLiteral_eq_rfc ok d hd] at hpc
      rw [if_pos c2]
      generalize rfcLiteral T 0 d.tab 6 (b :: r) = rl at hpc ⊢
      cases rl with
      | error e => exact matches_err out e hd h0 hpc
      | ok pr => exact step hpc
    rw [if_neg c2] at hpc ⊢
    by_cases c3 : b ≥ 32
    · -- §6.3 size update
      rw [if_neg (Nat.not_lt.mpr (Nat.le_trans (by decide : 16 ≤ 32) c3)), if_neg (Nat.not_lt.mpr c3),
        parseDynamicTableSizeUpdate, readVarInt_eq_rfc] at hpc
      rw [if_pos c3]
      generalize rfcInt 5 (b :: r) = ri at hpc ⊢
      cases ri with
      | error e => exact matches_err out e hd h0 hpc
      | ok pr =>
        dsimp only [Except.mapError] at hpc ⊢
        by_cases hs : pr.1 > d.allowed
        · rw [if_pos hs] at hpc ⊢; exact matches_err out .size hd h0 hpc
        · rw [if_neg hs] at hpc ⊢
          exact step hpc
    · -- §6.2.2 / §6.2.3 literal without / never indexing
      have hpc' : ∃ it, it ≠ 0 ∧ decide (it = 2) = decide (b ≥ 16) ∧
          parseRepr T d (b :: r) = parseFieldLiteral T d (b :: r) 4 it := by
        by_cases c4 : b < 16
        · exact ⟨1, Nat.succ_ne_zero _, (decide_eq_false (Nat.not_le.mpr c4)).symm, by rw [hpc, if_pos c4]⟩
        · exact ⟨2, Nat.succ_ne_zero _, (decide_eq_true (Nat.le_of_not_lt c4)).symm,
            by rw [hpc, if_neg c4, if_pos (Nat.lt_of_not_le c3)]⟩
      obtain ⟨it, hit, hsens, hp⟩ := hpc'
      rw [parseFieldLiteral_eq_rfc ok d hd] at hp
      rw [if_neg c3]
      generalize rfcLiteral T 0 d.tab 4 (b :: r) = rl at hp ⊢
      cases rl with
      | error e => exact matches_err out e hd h0 hp
      | ok pr =>
        dsimp only at hp ⊢
        rw [if_neg hit, hsens] at hp
        exact step hp

/-- for any tables that pass the finite checks, and with the exact error (`Agrees` of Props.lean keeps only that
    there is one) -/
theorem decodeChunks_rfc {T : Tables} (ok : TablesOk T) (c : Cfg) (hc : c.maxStr = 0) (chunks : List (List Nat)) :
    Matches (decodeChunks T c chunks) (rfcDecode T c chunks.flatten) := by
  rw [decodeChunks_eq T c hc, rfcDecode, hc]
  exact rfcBlock_rel ok _ c.dec chunks.flatten [] hc (Nat.lt_succ_self _)

theorem decodeChunks_err {T : Tables} (ok : TablesOk T) (c : Cfg) (hc : c.maxStr = 0) {bytes : List Nat} {e : RErr}
    (hr : rfcDecode T c bytes = .error e) : (decodeChunks T c [bytes]).err = some (toD e) := by
  have h := decodeChunks_rfc ok c hc [bytes]
  rw [List.flatten_singleton, hr] at h
  exact h

end BfeVerif.C31
