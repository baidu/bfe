import BfeVerif.C31.Model
/-!
  Split invariance of `Decoder.Write`: unless it asks for more input, a reader or parser is not affected by what
  follows its input, and a successful one consumes input and keeps the settings (`AfterR`, `AfterP`).  Hence
  `Write(c₁) … Write(cₙ)` is one `Write(c₁ ++ … ++ cₙ)` when SetMaxStringLength is not used (`feed_eq`).
-/
namespace BfeVerif.C31
open BfeVerif.C30

theorem ite_rel {α : Type} {R : α → α → Prop} {c : Prop} [Decidable c] {a a' b b' : α} (ha : c → R a a')
    (hb : ¬ c → R b b') : R (if c then a else b) (if c then a' else b') := by
  by_cases h : c
  · rw [if_pos h, if_pos h]; exact ha h
  · rw [if_neg h, if_neg h]; exact hb h

/-- `r` is what a reader returned on an input of `n` octets, `r'` what it returns once `more` follows that input -/
def AfterR {α : Type} (n : Nat) (more : List Nat) :
    Except DErr (α × List Nat) → Except DErr (α × List Nat) → Prop
  | .ok (v, rest), r' => r' = .ok (v, rest ++ more) ∧ rest.length < n
  | .error e, r' => e ≠ .needMore → r' = .error e

theorem AfterR.mono {α : Type} {n m : Nat} {more : List Nat} {r r' : Except DErr (α × List Nat)} (hnm : n ≤ m)
    (h : AfterR n more r r') : AfterR m more r r' := by
  cases r with
  | error e => exact h
  | ok p => exact ⟨h.1, Nat.lt_of_lt_of_le h.2 hnm⟩

theorem readVarIntTail_after (more : List Nat) : ∀ (p : List Nat) (i m : Nat),
    AfterR p.length more (readVarIntTail p i m) (readVarIntTail (p ++ more) i m)
  | [], _, _ => fun h => absurd rfl h
  | b :: p, i, m => by
    simp only [List.cons_append, readVarIntTail]
    exact ite_rel (fun _ => ⟨rfl, Nat.lt_succ_self _⟩) fun _ => ite_rel (fun _ _ => rfl) fun _ =>
      (readVarIntTail_after more p _ _).mono (Nat.le_succ _)

theorem readVarInt_after (more : List Nat) (n : Nat) : ∀ (p : List Nat),
    AfterR p.length more (readVarInt n p) (readVarInt n (p ++ more))
  | [] => fun h => absurd rfl h
  | b :: p => by
    simp only [List.cons_append, readVarInt]
    exact ite_rel (fun _ => ⟨rfl, Nat.lt_succ_self _⟩) fun _ => (readVarIntTail_after more p _ _).mono (Nat.le_succ _)

theorem readString_after (T : Tables) (ms : Nat) (more : List Nat) : ∀ (p : List Nat),
    AfterR p.length more (readString T ms p) (readString T ms (p ++ more))
  | [] => fun h => absurd rfl h
  | b :: p => by
    have hv := readVarInt_after more 7 (b :: p)
    rw [List.cons_append] at hv ⊢
    rw [readString, readString]
    revert hv
    cases readVarInt 7 (b :: p) with
    | error e => exact fun hv he => by rw [hv he]
    | ok pr =>
      obtain ⟨n, p'⟩ := pr
      rintro ⟨hv, hc⟩
      rw [hv]
      dsimp only
      by_cases hm : ms ≠ 0 ∧ n > ms
      · rw [if_pos hm, if_pos hm]; exact fun _ => rfl
      · rw [if_neg hm, if_neg hm]
        by_cases hl : p'.length < n
        · rw [if_pos hl]; exact fun h => absurd rfl h
        · have hn : n ≤ p'.length := Nat.le_of_not_lt hl
          have hl2 : ¬ (p' ++ more).length < n := fun h =>
            hl (Nat.lt_of_le_of_lt (List.length_append ▸ Nat.le_add_right _ _) h)
          have hd : (p'.drop n).length < (b :: p).length := Nat.lt_of_le_of_lt (List.length_drop ▸ Nat.sub_le _ _) hc
          rw [if_neg hl, if_neg hl2, List.take_append_of_le_length hn, List.drop_append_of_le_length hn]
          split
          · exact ⟨rfl, hd⟩
          · cases liftH (huffmanDecode T ms (p'.take n)) with
            | error e => exact fun _ => rfl
            | ok s => exact ⟨rfl, hd⟩

def AfterP (d : Dec) (n : Nat) (more : List Nat) : Parsed → Parsed → Prop
  | .ok (d', rest, em), r' => r' = .ok (d', rest ++ more, em) ∧ rest.length < n ∧ d'.maxStrLen = d.maxStrLen
  | .error e, r' => e ≠ .needMore → r' = .error e

theorem AfterP.mono {d : Dec} {n m : Nat} {more : List Nat} {r r' : Parsed} (hnm : n ≤ m)
    (h : AfterP d n more r r') : AfterP d m more r r' := by
  cases r with
  | error e => exact h
  | ok p => exact ⟨h.1, Nat.lt_of_lt_of_le h.2.1 hnm, h.2.2⟩

theorem callEmit_after {d d' : Dec} {n : Nat} (more : List Nat) {rest : List Nat} (hf : HF) (h : rest.length < n)
    (hd : d'.maxStrLen = d.maxStrLen) : AfterP d n more (callEmit d' rest hf) (callEmit d' (rest ++ more) hf) :=
  ite_rel (fun _ _ => rfl) fun _ => ⟨rfl, h, hd⟩

theorem indexed_after (T : Tables) (d : Dec) (more buf : List Nat) :
    AfterP d buf.length more (parseFieldIndexed T d buf) (parseFieldIndexed T d (buf ++ more)) := by
  have hv := readVarInt_after more 7 buf
  unfold parseFieldIndexed
  revert hv
  cases readVarInt 7 buf with
  | error e => exact fun hv he => by rw [hv he]
  | ok pr =>
    rintro ⟨hv, hc⟩
    rw [hv]
    dsimp only
    cases d.at T pr.1 with
    | none => exact fun _ => rfl
    | some nv => exact callEmit_after more _ hc rfl

theorem sizeUpdate_after (d : Dec) (more buf : List Nat) :
    AfterP d buf.length more (parseDynamicTableSizeUpdate d buf) (parseDynamicTableSizeUpdate d (buf ++ more)) := by
  have hv := readVarInt_after more 5 buf
  unfold parseDynamicTableSizeUpdate
  revert hv
  cases readVarInt 5 buf with
  | error e => exact fun hv he => by rw [hv he]
  | ok pr =>
    rintro ⟨hv, hc⟩
    rw [hv]
    exact ite_rel (fun _ _ => rfl) fun _ => ⟨rfl, hc, rfl⟩

/-- name and value of a literal representation: `parseFieldLiteral` cut in two (`parseFieldLiteral_eq`) -/
def readName (T : Tables) (d : Dec) (idx : Nat) (rest : List Nat) : Except DErr (List Nat × List Nat) :=
  if idx > 0 then
    match d.at T idx with
    | none => .error .invalidIndex
    | some (nm, _) => .ok (nm, rest)
  else readString T d.maxStrLen rest

def litValue (T : Tables) (d : Dec) (it : Nat) (nm rest : List Nat) : Parsed :=
  match readString T d.maxStrLen rest with
  | .error e => .error e
  | .ok (val, rest) =>
    callEmit (if it = 0 then { d with tab := d.tab.add { name := nm, value := val } } else d) rest
      { name := nm, value := val, sensitive := it = 2 }

theorem parseFieldLiteral_eq (T : Tables) (d : Dec) (buf : List Nat) (n it : Nat) :
    parseFieldLiteral T d buf n it =
      match readVarInt n buf with
      | .error e => .error e
      | .ok (idx, rest) =>
        match readName T d idx rest with
        | .error e => .error e
        | .ok (nm, rest) => litValue T d it nm rest := rfl

/-- `rest.length + 1`: a name from the tables consumes nothing -/
theorem readName_after (T : Tables) (d : Dec) (idx : Nat) (more rest : List Nat) :
    AfterR (rest.length + 1) more (readName T d idx rest) (readName T d idx (rest ++ more)) := by
  refine ite_rel (fun _ => ?_) fun _ => (readString_after T _ more rest).mono (Nat.le_succ _)
  cases d.at T idx with
  | none => exact fun _ => rfl
  | some nv => exact ⟨rfl, Nat.lt_succ_self _⟩

theorem litValue_after (T : Tables) (d : Dec) (it : Nat) (nm more rest : List Nat) :
    AfterP d rest.length more (litValue T d it nm rest) (litValue T d it nm (rest ++ more)) := by
  have hv := readString_after T d.maxStrLen more rest
  unfold litValue
  revert hv
  cases readString T d.maxStrLen rest with
  | error e => exact fun hv he => by rw [hv he]
  | ok pv =>
    rintro ⟨hv, hc⟩
    rw [hv]
    exact callEmit_after more _ hc (by split <;> rfl)

theorem literal_after (T : Tables) (d : Dec) (n it : Nat) (more buf : List Nat) :
    AfterP d buf.length more (parseFieldLiteral T d buf n it) (parseFieldLiteral T d (buf ++ more) n it) := by
  have hv := readVarInt_after more n buf
  rw [parseFieldLiteral_eq, parseFieldLiteral_eq]
  revert hv
  cases readVarInt n buf with
  | error e => exact fun hv he => by rw [hv he]
  | ok pr =>
    rintro ⟨hv, hc⟩
    have hn := readName_after T d pr.1 more pr.2
    rw [hv]
    dsimp only
    revert hn
    cases readName T d pr.1 pr.2 with
    | error e => exact fun hn he => by rw [hn he]
    | ok pn =>
      rintro ⟨hn, hc'⟩
      rw [hn]
      exact (litValue_after T d it _ more _).mono (Nat.le_trans (Nat.le_of_lt_succ hc') (Nat.le_of_lt hc))

theorem parseRepr_after (T : Tables) (d : Dec) (more : List Nat) : ∀ (buf : List Nat),
    AfterP d buf.length more (parseRepr T d buf) (parseRepr T d (buf ++ more))
  | [] => fun h => absurd rfl h
  | b :: r => by
    rw [List.cons_append, parseRepr, parseRepr, ← List.cons_append]
    exact ite_rel (fun _ => indexed_after T d more _) fun _ =>
      ite_rel (fun _ => literal_after T d 6 0 more _) fun _ =>
      ite_rel (fun _ => literal_after T d 4 1 more _) fun _ =>
      ite_rel (fun _ => literal_after T d 4 2 more _) fun _ => sizeUpdate_after d more _

theorem parseRepr_consumes {T : Tables} {d d' : Dec} {buf rest : List Nat} {em : Option HF}
    (hp : parseRepr T d buf = .ok (d', rest, em)) : rest.length < buf.length ∧ d'.maxStrLen = d.maxStrLen := by
  have h := parseRepr_after T d [] buf
  rw [hp] at h
  exact h.2

def emitOut (out : List HF) : Option HF → List HF
  | some h => out ++ [h]
  | none => out

theorem writeLoop_succ_ok (T : Tables) (n : Nat) (d d' : Dec) (buf rest : List Nat) (em : Option HF) (out : List HF)
    (hp : parseRepr T d buf = .ok (d', rest, em)) (h0 : buf ≠ []) :
    writeLoop T (n + 1) d buf out = writeLoop T n d' rest (emitOut out em) := by
  rw [writeLoop, if_neg (mt List.eq_nil_of_length_eq_zero h0), hp]
  cases em <;> rfl

theorem writeLoop_fuel (T : Tables) : ∀ (f1 f2 : Nat) (d : Dec) (buf : List Nat) (out : List HF),
    buf.length < f1 → buf.length < f2 → writeLoop T f1 d buf out = writeLoop T f2 d buf out
  | 0, _, _, _, _, h, _ => absurd h (Nat.not_lt_zero _)
  | _, 0, _, _, _, _, h => absurd h (Nat.not_lt_zero _)
  | n + 1, m + 1, d, buf, out, h1, h2 => by
    by_cases h0 : buf = []
    · rw [h0]; rfl
    · cases hp : parseRepr T d buf with
      | error e => rw [writeLoop, writeLoop, hp]; cases e <;> rfl
      | ok pr =>
        have hc := (parseRepr_consumes hp).1
        rw [writeLoop_succ_ok T n d _ buf _ _ out hp h0, writeLoop_succ_ok T m d _ buf _ _ out hp h0]
        exact writeLoop_fuel T n m _ _ _ (Nat.lt_of_lt_of_le hc (Nat.le_of_lt_succ h1))
          (Nat.lt_of_lt_of_le hc (Nat.le_of_lt_succ h2))

/-- `Write`'s loop with enough fuel: every iteration consumes an octet (`parseRepr_consumes`) -/
def writeAll (T : Tables) (d : Dec) (buf : List Nat) (out : List HF) : DState × Option DErr :=
  writeLoop T (buf.length + 1) d buf out

theorem writeAll_ok {T : Tables} {d d' : Dec} {buf rest : List Nat} {em : Option HF} (out : List HF)
    (hp : parseRepr T d buf = .ok (d', rest, em)) : writeAll T d buf out = writeAll T d' rest (emitOut out em) := by
  have h0 : buf ≠ [] := fun h => by rw [h] at hp; cases hp
  have hc := (parseRepr_consumes hp).1
  rw [writeAll, writeLoop_succ_ok T _ d d' buf rest em out hp h0]
  exact writeLoop_fuel T _ _ _ _ _ hc (Nat.lt_succ_self _)

theorem writeAll_err {T : Tables} {d : Dec} {buf : List Nat} {e : DErr} (out : List HF) (hd : d.maxStrLen = 0)
    (h0 : buf ≠ []) (hp : parseRepr T d buf = .error e) :
    writeAll T d buf out = if e = .needMore then ({ dec := d, save := buf, out := out }, none)
      else ({ dec := d, out := out }, some e) := by
  rw [writeAll, writeLoop, if_neg (mt List.eq_nil_of_length_eq_zero h0), hp]
  cases e <;> first | rfl | exact if_neg fun h => h.1 hd

/-- the state a `Write` left behind, when the next `Write` brings `more` -/
def resume (T : Tables) (more : List Nat) : DState × Option DErr → DState × Option DErr
  | (s, none) => writeAll T s.dec (s.save ++ more) s.out
  | r => r

theorem writeAll_more (T : Tables) (more buf : List Nat) (d : Dec) (out : List HF) (hd : d.maxStrLen = 0) :
    writeAll T d (buf ++ more) out = resume T more (writeAll T d buf out) := by
  induction hn : buf.length using Nat.strongRecOn generalizing buf d out with | _ n ih
  by_cases h0 : buf = []
  · rw [h0]; rfl
  have h0' : buf ++ more ≠ [] := fun h => h0 (List.append_eq_nil_iff.mp h).1
  have hs := parseRepr_after T d more buf
  cases hp : parseRepr T d buf with
  | error e =>
    rw [hp] at hs
    rw [writeAll_err out hd h0 hp]
    by_cases he : e = .needMore
    · rw [if_pos he]; rfl
    · rw [if_neg he, writeAll_err out hd h0' (hs he), if_neg he]; rfl
  | ok pr =>
    rw [hp] at hs
    obtain ⟨hs, hc, hms⟩ := hs
    rw [writeAll_ok out hp, writeAll_ok out hs]
    exact ih _ (hn ▸ hc) _ _ _ (hms.trans hd) rfl

/-- `s` enters only through its history: it is what one `Write` of `buf` from `d` with fields `out` left (what the
    induction over the chunks carries) -/
theorem feed_eq (T : Tables) {d : Dec} (hd : d.maxStrLen = 0) (out : List HF) :
    ∀ (chunks : List (List Nat)) (s : DState) (buf : List Nat), writeAll T d buf out = (s, none) →
    feed T s chunks = writeAll T d (buf ++ chunks.flatten) out
  | [], s, buf, hw => by rw [List.flatten_nil, List.append_nil, hw]; rfl
  | c :: cs, s, buf, hw => by
    rw [List.flatten_cons, ← List.append_assoc, feed]
    by_cases hc : c = []
    · rw [hc, List.append_nil]; exact feed_eq T hd out cs s buf hw
    · have hm := writeAll_more T c buf d out hd
      rw [hw] at hm
      have hwr : s.write T c = writeAll T d (buf ++ c) out := by
        rw [hm, DState.write, if_neg (mt List.eq_nil_of_length_eq_zero hc)]; rfl
      rw [hwr]
      cases hres : writeAll T d (buf ++ c) out with
      | mk s' e' =>
        cases e' with
        | none => exact feed_eq T hd out cs s' _ hres
        | some e => rw [writeAll_more T cs.flatten _ d out hd, hres]; rfl

/-- the `match` of `decodeChunks`, as a function of what `feed` returned, to be applied to `writeAll` as well -/
def closeOutcome : DState × Option DErr → Outcome
  | (s, some e) => { fields := s.out, err := some e, tab := s.dec.tab }
  | (s, none) =>
    let (s', tr) := s.close
    { fields := s'.out, err := if tr then some .needMore else none, tab := s'.dec.tab }

theorem decodeChunks_eq (T : Tables) (c : Cfg) (hc : c.maxStr = 0) (chunks : List (List Nat)) :
    decodeChunks T c chunks = closeOutcome (writeAll T c.dec chunks.flatten []) := by
  show closeOutcome (feed T { dec := c.dec } chunks) = _
  rw [feed_eq T (d := c.dec) hc [] chunks { dec := c.dec } [] rfl, List.nil_append]

theorem decodeChunks_flatten (T : Tables) (c : Cfg) (hc : c.maxStr = 0) (chunks : List (List Nat)) :
    decodeChunks T c chunks = decodeChunks T c [chunks.flatten] := by
  rw [decodeChunks_eq T c hc, decodeChunks_eq T c hc, List.flatten_singleton]

end BfeVerif.C31
