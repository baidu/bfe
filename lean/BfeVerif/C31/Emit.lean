import BfeVerif.C31.Model
/-!
  The Write loop with an emit callback (`writeLoopE`, which the driver runs) is, for the plain callback, the loop
  the C31 theorems are about.  The other modes (`quiet`, `disableAt`, `failAt`) are exercised by the driver only.
-/
namespace BfeVerif.C31
open BfeVerif.C30

def EErr.toD : EErr → Option DErr
  | .dec e => some e
  | .emit => none

def EState.toDState (s : EState) : DState := { dec := s.dec, save := s.save, out := s.out }

def Plain {β : Type} (r : EState × Option EErr × β) (w : DState × Option DErr) : Prop :=
  r.1.enabled = true ∧ r.1.toDState = w.1 ∧ r.2.1 = w.2.map .dec

theorem writeLoopE_none (T : Tables) : ∀ (f : Nat) (st : EState) (buf : List Nat), st.enabled = true →
    Plain (writeLoopE T .none f st buf) (writeLoop T f st.dec buf st.out)
  | 0, _, _, he => ⟨he, rfl, rfl⟩
  | f + 1, st, buf, he => by
    rw [writeLoopE, writeLoop]
    by_cases h0 : buf.length = 0
    · rw [if_pos h0, if_pos h0]; exact ⟨he, rfl, rfl⟩
    rw [if_neg h0, if_neg h0, if_pos he]
    cases parseRepr T st.dec buf with
    | error e =>
      cases e with
      | needMore =>
        dsimp only
        by_cases hg : st.dec.maxStrLen ≠ 0 ∧ buf.length > 2 * (st.dec.maxStrLen + 8)
        · rw [if_pos hg, if_pos hg]; exact ⟨he, rfl, rfl⟩
        · rw [if_neg hg, if_neg hg]; exact ⟨he, rfl, rfl⟩
      | _ => exact ⟨he, rfl, rfl⟩
    | ok pr =>
      obtain ⟨d', rest, em⟩ := pr
      cases em with
      | none => exact writeLoopE_none T f { st with dec := d' } rest he
      | some hf => exact writeLoopE_none T f { st with dec := d', out := st.out ++ [hf], cnt := st.cnt + 1 } rest he

theorem feedE_none (T : Tables) : ∀ (chunks : List (List Nat)) (st : EState) (ns : List Nat), st.enabled = true →
    Plain (feedE T .none st chunks ns) (feed T st.toDState chunks)
  | [], _, _, he => ⟨he, rfl, rfl⟩
  | c :: cs, st, ns, he => by
    rw [feedE, feed, DState.write]
    by_cases hc : c.length = 0
    · rw [if_pos hc, if_pos hc]; exact feedE_none T cs st _ he
    · rw [if_neg hc, if_neg hc]
      have hw := writeLoopE_none T ((st.save ++ c).length + 1) { st with save := [] } (st.save ++ c) he
      dsimp only [EState.toDState]
      revert hw
      generalize writeLoopE T .none ((st.save ++ c).length + 1) { st with save := [] } (st.save ++ c) = r
      generalize writeLoop T ((st.save ++ c).length + 1) st.dec (st.save ++ c) st.out = w
      obtain ⟨st', e', g⟩ := r
      obtain ⟨s, e⟩ := w
      intro hw
      obtain ⟨h1, rfl, rfl⟩ : st'.enabled = true ∧ st'.toDState = s ∧ e' = e.map .dec := hw
      cases e with
      | none => exact feedE_none T cs st' _ h1
      | some e => exact ⟨h1, rfl, rfl⟩

theorem decodeChunksE_none (T : Tables) (c : Cfg) (chunks : List (List Nat)) :
    (decodeChunksE T c .none chunks).fields = (decodeChunks T c chunks).fields ∧
    (decodeChunksE T c .none chunks).err.bind EErr.toD = (decodeChunks T c chunks).err ∧
    (decodeChunksE T c .none chunks).tab = (decodeChunks T c chunks).tab := by
  have h := feedE_none T chunks { dec := c.dec, enabled := EMode.none != EMode.quiet } [] rfl
  dsimp only [EState.toDState] at h
  revert h
  unfold decodeChunksE decodeChunks
  generalize feedE T .none { dec := c.dec, enabled := EMode.none != EMode.quiet } chunks [] = r
  generalize feed T { dec := c.dec } chunks = w
  obtain ⟨st, e', ns⟩ := r
  obtain ⟨s, e⟩ := w
  intro h
  obtain ⟨-, rfl, rfl⟩ : _ ∧ st.toDState = s ∧ e' = e.map .dec := h
  cases e with
  | some e => exact ⟨rfl, rfl, rfl⟩
  | none =>
    dsimp only [DState.close, EState.toDState, Option.map]
    by_cases hs : st.save.length > 0
    · rw [if_pos hs, if_pos hs]; exact ⟨rfl, rfl, rfl⟩
    · rw [if_neg hs, if_neg hs]; exact ⟨rfl, rfl, rfl⟩

end BfeVerif.C31
