import BfeVerif.C31.Conform
import BfeVerif.C31.Emit
/-! HuffRef (Huffman reference) and Split (split invariance) carry Conform (block-level agreement); Emit is apart. -/
