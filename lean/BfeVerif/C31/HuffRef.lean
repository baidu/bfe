import BfeVerif.C31.Model
import BfeVerif.C30.Huffman
/-!
  The RFC Huffman reference `rfcHuffBits` accepts exactly the canonical streams (codes of the output, then fewer
  than 8 one-bits), which are what the decoder as coded accepts (`C30.huffman_canon`, `C30.huffman_sound`).
-/
namespace BfeVerif.C31
open BfeVerif.C30

theorem matchCode_some (bs : List Bool) (cs : List (List Bool)) (i s l : Nat)
    (h : matchCode bs cs i = some (s, l)) :
    ∃ j, ∃ (hj : j < cs.length), s = i + j ∧ l = cs[j].length ∧ cs[j] <+: bs := by
  fun_induction matchCode bs cs i with
  | case1 => nomatch h
  | case2 c cs i hp => cases h; exact ⟨0, Nat.zero_lt_succ _, rfl, rfl, List.isPrefixOf_iff_prefix.mp hp⟩
  | case3 c cs i hp ih =>
    obtain ⟨j, hj, h1, h2, h3⟩ := ih h
    exact ⟨j + 1, Nat.succ_lt_succ hj, h1.trans (Nat.add_right_comm i 1 j ▸ rfl), h2, h3⟩

theorem matchCode_hit (bs : List Bool) : ∀ (cs : List (List Bool)) (i s : Nat) (hs : s < cs.length),
    cs.Pairwise NoPre → cs[s] <+: bs → matchCode bs cs i = some (i + s, cs[s].length)
  | c :: cs, i, 0, _, _, hpre => by
    have hpre : c <+: bs := hpre
    rw [matchCode, if_pos (List.isPrefixOf_iff_prefix.mpr hpre)]; rfl
  | c :: cs, i, s + 1, hs, hp, hpre => by
    have hs' : s < cs.length := Nat.lt_of_succ_lt_succ hs
    have hc : ¬ c.isPrefixOf bs = true := fun h =>
      have hn := List.rel_of_pairwise_cons hp (List.getElem_mem hs')
      (List.prefix_or_prefix_of_prefix (List.isPrefixOf_iff_prefix.mp h) hpre).elim hn.1 hn.2
    rw [matchCode, if_neg hc, matchCode_hit bs cs (i + 1) s hs' (List.Pairwise.of_cons hp) hpre, Nat.add_right_comm]
    rfl

theorem matchCode_none (bs : List Bool) (cs : List (List Bool)) (i : Nat)
    (h : ∀ c ∈ cs, ¬ c <+: bs) : matchCode bs cs i = none := by
  fun_induction matchCode bs cs i with
  | case1 => rfl
  | case2 c cs i hp => exact absurd (List.isPrefixOf_iff_prefix.mp hp) (h c List.mem_cons_self)
  | case3 c cs i hp ih => exact ih fun d hd => h d (List.mem_cons_of_mem _ hd)

theorem rfcHuffBits_sound {T : Tables} (ok : TablesOk T) (f : Nat) (bs : List Bool) (out res : List Nat)
    (hlen : bs.length < f) (h : rfcHuffBits T f bs out = .ok res) :
    ∃ syms k, res = out ++ syms ∧ bs = encBits T syms ++ ones k ∧ k < 8 ∧ ∀ x ∈ syms, x < T.codes.length := by
  fun_induction rfcHuffBits T f bs out with
  | case1 => exact absurd hlen (Nat.not_lt_zero _)
  | case2 => nomatch h                          -- EOS
  | case3 f bs out s l hm hs ih =>              -- the symbol `s`, with a code of `l` bits
    obtain ⟨j, hj, hsj, rfl, t, ht⟩ := matchCode_some bs _ 0 s l hm
    obtain rfl : j = s := (hsj.trans (Nat.zero_add j)).symm
    have hs' : j < T.codes.length := Nat.lt_of_not_ge hs
    rw [List.getElem_append_left hs'] at h ht ih
    have hpos : 0 < T.codes[j].length := List.length_pos_iff.mpr (codes_ne_nil ok j hs')
    subst ht
    rw [List.drop_left] at h ih
    obtain ⟨syms, k, h1, h2, h3, h4⟩ :=
      ih (Nat.lt_of_lt_of_le (Nat.lt_add_of_pos_left hpos) (List.length_append ▸ Nat.le_of_lt_succ hlen)) h
    refine ⟨j :: syms, k, by rw [h1, List.append_assoc]; rfl, ?_, h3, List.forall_mem_cons.mpr ⟨hs', h4⟩⟩
    rw [h2, encBits_cons_append j hs']
  | case4 => nomatch h                          -- padding of 8 bits or more
  | case5 f bs out hm h8 ha =>                  -- padding accepted: `bs` is all ones
    cases h
    exact ⟨[], bs.length, (List.append_nil _).symm, eq_ones_of_all ha, Nat.lt_of_not_ge h8, fun _ hx => nomatch hx⟩
  | case6 => nomatch h                          -- padding with a zero bit

theorem huffman_agrees_of_rfc_ok {T : Tables} (ok : TablesOk T) (v s : List Nat) (h : rfcHuff T v = .ok s) :
    huffmanDecode T 0 v = .ok s := by
  obtain ⟨syms, k, h1, h2, h3, h4⟩ := rfcHuffBits_sound ok _ _ [] s (Nat.lt_succ_self _) h
  rw [List.nil_append] at h1
  subst h1
  exact huffman_canon ok s k h3 h4 v h2

theorem rfcHuffBits_err (T : Tables) (f : Nat) (bs : List Bool) (out : List Nat) (e : RErr)
    (h : rfcHuffBits T f bs out = .error e) : e.isHuff = true := by
  fun_induction rfcHuffBits T f bs out with
  | case1 => nomatch h
  | case2 => cases h; rfl
  | case3 _ _ _ _ _ _ _ ih => exact ih h
  | case4 => cases h; rfl
  | case5 => nomatch h
  | case6 => cases h; rfl

theorem rfcHuff_err (T : Tables) (v : List Nat) (e : RErr) (h : rfcHuff T v = .error e) : e.isHuff = true :=
  rfcHuffBits_err T _ _ _ e h

/-- the padding is a proper prefix of EOS (30 one-bits, `ok.eos`), and the codes with EOS are prefix-free -/
theorem no_code_in_padding {T : Tables} (ok : TablesOk T) {k : Nat} (hk : k < 8) :
    ∀ c ∈ T.codes ++ [T.eos], ¬ c <+: ones k := by
  intro c hc hpre
  have heos : ones k <+: T.eos := by
    rw [ok.eos]
    exact ⟨List.replicate (30 - k) true, by rw [ones, List.replicate_append_replicate]; congr 1; omega⟩
  rcases List.mem_append.mp hc with hc | hc
  · exact ((List.pairwise_append.mp ok.pairwise).2.2 c hc T.eos List.mem_cons_self).1
      (hpre.trans heos)
  · rw [List.mem_singleton.mp hc, ok.eos] at hpre
    have := hpre.length_le
    rw [List.length_replicate, length_ones] at this
    omega

theorem rfcHuffBits_complete {T : Tables} (ok : TablesOk T) (k : Nat) (hk : k < 8) :
    ∀ (syms : List Nat) (f : Nat) (out : List Nat), (∀ x ∈ syms, x < T.codes.length) →
    (encBits T syms ++ ones k).length < f →
    rfcHuffBits T f (encBits T syms ++ ones k) out = .ok (out ++ syms)
  | _, 0, _, _, hf => absurd hf (Nat.not_lt_zero _)
  | [], f + 1, out, _, _ => by
    rw [rfcHuffBits, encBits, List.nil_append, matchCode_none _ _ 0 (no_code_in_padding ok hk)]
    dsimp only
    rw [if_neg (by rw [length_ones]; exact Nat.not_le.mpr hk), if_pos (ones_all k), List.append_nil]
  | c :: syms, f + 1, out, hall, hf => by
    have hcl : c < T.codes.length := hall c List.mem_cons_self
    have hc' : c < (T.codes ++ [T.eos]).length := by rw [List.length_append]; exact Nat.lt_add_right _ hcl
    have hci : (T.codes ++ [T.eos])[c] = T.codes[c] := List.getElem_append_left hcl
    have hpos : 0 < T.codes[c].length := List.length_pos_iff.mpr (codes_ne_nil ok c hcl)
    rw [encBits_cons_append c hcl] at hf ⊢
    rw [rfcHuffBits,
      matchCode_hit _ _ 0 c hc' ok.pairwise (by rw [hci]; exact List.prefix_append _ _)]
    dsimp only
    rw [Nat.zero_add, if_neg (Nat.not_le.mpr hcl), hci, List.drop_left,
      rfcHuffBits_complete ok k hk syms f _ (List.forall_mem_cons.mp hall).2
        (Nat.lt_of_lt_of_le (Nat.lt_add_of_pos_left hpos) (List.length_append ▸ Nat.le_of_lt_succ hf)),
      List.append_assoc]
    rfl

theorem rfcHuff_canon {T : Tables} (ok : TablesOk T) {v s : List Nat} {k : Nat} (hk : k < 8)
    (hs : ∀ x ∈ s, x < T.codes.length) (hv : bytesBits v = encBits T s ++ ones k) : rfcHuff T v = .ok s := by
  rw [rfcHuff, hv]
  exact rfcHuffBits_complete ok k hk s _ [] hs (Nat.lt_succ_self _)

/-- `huffmanDecode` against RFC 7541 §5.2: both accept exactly the canonical streams -/
theorem huffman_iff_rfc {T : Tables} (ok : TablesOk T) (v s : List Nat) :
    huffmanDecode T 0 v = .ok s ↔ rfcHuff T v = .ok s :=
  ⟨fun h => let ⟨_, hk, hb, hv⟩ := huffman_sound T 0 v s h; rfcHuff_canon ok hk hv hb,
   huffman_agrees_of_rfc_ok ok v s⟩

theorem huffman_err_iff_rfc {T : Tables} (ok : TablesOk T) (v : List Nat) :
    huffmanDecode T 0 v = .error .invalid ↔ ∃ e, rfcHuff T v = .error e := by
  constructor
  · intro h
    cases hr : rfcHuff T v with
    | error e => exact ⟨e, rfl⟩
    | ok s => rw [(huffman_iff_rfc ok v s).mpr hr] at h; cases h
  · rintro ⟨e, he⟩
    cases hg : huffmanDecode T 0 v with
    | error e' => rw [huffman_err0 T v e' hg]
    | ok s => rw [(huffman_iff_rfc ok v s).mp hg] at he; cases he

end BfeVerif.C31
