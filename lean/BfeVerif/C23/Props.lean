import BfeVerif.C23.Proofs
/-!
  C23 — chunked transfer coding is decoded exactly.

  `decode`      model of bfe's `chunkedReader` (whole stream -> data delivered, final error, unread rest)
  `encode`      model of bfe's `chunkedWriter` (one `Write` per list element, then `Close`)
  `rfcDechunk`  RFC 7230 §4.1 reference decoder (the spec oracle of the driver); `rfcDechunk true` relaxes only
                the line end of size lines to `*(SP/HT/CR) LF`, which is the leniency the reader has
-/
namespace BfeVerif.C23

/-- **size lines are strict**: 1..16 hex digits, so the `uint64` never wraps around; everything else is an error. -/
theorem C23_size_line_exact (v : Bytes) (n : BitVec 64) :
    parseHexUint v = .ok n ↔
      (1 ≤ v.length ∧ v.length ≤ 16 ∧ (∀ b ∈ v, isHexDig b = true) ∧ n.toNat = hexNat v) :=
  parseHexUint_exact v n

/-- **round trip**: any writes through the chunked writer (empty ones included) followed by anything else (`rest`:
    trailer, next message) are read back as their concatenation, with a clean end and exactly `rest` unread. -/
theorem C23_roundtrip (chunks : List Bytes) (rest : Bytes) (h : ∀ c ∈ chunks, c.length < 2 ^ 64) :
    decode (encode chunks ++ rest) = ⟨chunks.flatten, .eof, rest⟩ :=
  ((roundtrip_chunks chunks _ rest h (Nat.lt_succ_self _)).mono StrictHdr.go).decode_eq

/-- **soundness**: whenever the reader reports a clean end, the RFC decoder (with the stated size-line
    line-end leniency) accepts the same stream with the same body and the same unread rest. -/
theorem C23_sound (s : Bytes) (h : (decode s).err = .eof) :
    rfcDechunk true s = .ok (decode s).body (decode s).rest :=
  ((decodeAux_chunks _ s h).mono GoHdr.rfc).rfc_eq

/-- the leniency only adds -/
theorem C23_strict_in_lenient (s b r : Bytes) (h : rfcDechunk false s = .ok b r) :
    rfcDechunk true s = .ok b r :=
  ((rfcAux_chunks false _ s b r h).mono RfcHdr.lenient).rfc_eq

/-- **strictness, stated on the reader**: a first line that is not 1..16 hex digits after trimming delivers nothing
    and ends in an error. -/
theorem C23_bad_size_line_is_error (s line r : Bytes) (hl : readLine s = .ok (line, r))
    (hbad : ¬ (1 ≤ line.length ∧ line.length ≤ 16 ∧ ∀ b ∈ line, isHexDig b = true)) :
    (decode s).err ≠ .eof ∧ (decode s).body = [] := by
  unfold decode
  simp only [decodeAux, hl]
  cases hp : parseHexUint line with
  | error e => exact ⟨parseHexUint_err_ne_eof line e hp, rfl⟩
  | ok n =>
    obtain ⟨h1, h2, h3, _⟩ := (parseHexUint_exact line n).mp hp
    exact absurd ⟨h1, h2, h3⟩ hbad

/-- **completeness** (no chunk extensions): a stream the STRICT RFC decoder accepts and whose chunk-size lines are
    `1*HEXDIG CRLF` (at most 18 bytes, far below the 4096-byte line limit) is accepted by the reader with the same
    body and rest; with `C23_sound` the reader is exact on that language. -/
theorem C23_accepts_strict (s b r r' : Bytes) (h : rfcDechunk false s = .ok b r)
    (hne : noExtChunks (s.length + 1) s = some r') : decode s = ⟨b, .eof, r⟩ :=
  (((rfcAux_chunks false _ s b r h).noExt hne).1.mono StrictHdr.go).decode_eq

/-- **segmentation independence**: `decodeSeg segs` is the chunked reader on a connection whose reads return the
    pieces `segs` one after the other (any list: cuts inside size lines, between CR and LF, empty pieces); the result
    cannot depend on how the bytes arrive.  (`readLineSeg` / `takeSeg` model ReadSlice / Read / ReadFull filling the
    buffer piece by piece.) -/
theorem C23_segmentation_independent (segs : List Bytes) : decodeSeg segs = decode segs.flatten :=
  decodeSegAux_eq _ [] segs

/-- the same with bytes already buffered, as the reader is started by ReadRequest in the middle of a connection -/
theorem C23_segmentation_independent_buf (buf : Bytes) (segs : List Bytes) :
    (decodeSegS buf segs).toRes = decode (buf ++ segs.flatten) :=
  decodeSegAux_eq _ buf segs

/-- the fuel is a device of the model: any amount above the length gives `decode` -/
theorem C23_fuel_irrelevant (s : Bytes) (f : Nat) (h : s.length < f) : decodeAux f s = decode s :=
  decodeAux_fuel f s _ h (by omega)

/-! ### the former defects (`parseHexUintOld` is the function before the fix), kept as witnesses -/

def w17 : Bytes := [49, 48, 48, 48, 48, 48, 48, 48, 48, 48, 48, 48, 48, 48, 48, 48, 53]

/-- the unfixed `parseHexUint` read the 17 digits `10000000000000005` as 5 … -/
theorem C23_witness_overflow_old : parseHexUintOld w17 = .ok 5 := by rfl
/-- … and an empty size line as 0 (= last chunk). -/
theorem C23_witness_empty_old : parseHexUintOld [] = .ok 0 := by rfl
/-- the fixed function rejects both -/
theorem C23_witness_fixed : parseHexUint w17 = .error .toolarge ∧ parseHexUint [] = .error .empty := by
  constructor <;> rfl

-- "5\r\nhello\r\n0\r\n\r\n" : body "hello", rest "\r\n"
example : decode [53, 13, 10, 104, 101, 108, 108, 111, 13, 10, 48, 13, 10, 13, 10] =
    ⟨[104, 101, 108, 108, 111], .eof, [13, 10]⟩ := by decide +kernel
-- leniency: "5 \n" size line
example : decode [53, 32, 10, 104, 101, 108, 108, 111, 13, 10, 48, 10] =
    ⟨[104, 101, 108, 108, 111], .eof, []⟩ := by decide +kernel
example : rfcDechunk false [53, 32, 10, 104, 101, 108, 108, 111, 13, 10, 48, 10] = .reject "no-crlf" := by decide +kernel
-- truncated inside the data: error, not a clean end
example : (decode [53, 13, 10, 104, 101]).err = .ueof := by decide +kernel
-- a size line that is not hex (hypothesis of C23_bad_size_line_is_error is satisfiable)
example : readLine [53, 59, 97, 13, 10] = .ok ([53, 59, 97], []) := by rfl

-- hypotheses of C23_accepts_strict are satisfiable ("5\r\nhello\r\n0\r\n\r\n"); a chunk extension is outside
example : noExtChunks 16 [53, 13, 10, 104, 101, 108, 108, 111, 13, 10, 48, 13, 10, 13, 10] = some [13, 10] := by decide +kernel
example : rfcDechunk false [53, 13, 10, 104, 101, 108, 108, 111, 13, 10, 48, 13, 10, 13, 10] =
    .ok [104, 101, 108, 108, 111] [13, 10] := by decide +kernel
example : noExtChunks 8 [53, 59, 97, 13, 10] = none := by decide +kernel

-- "5\r\nhello\r\n0\r\n\r\n" cut inside the size line, between CR and LF, inside the data, with empty pieces
example : decodeSeg [[53], [13], [], [10, 104, 101], [108, 108, 111, 13], [10, 48, 13], [10, 13, 10]] =
    ⟨[104, 101, 108, 108, 111], .eof, [13, 10]⟩ := by decide +kernel

end BfeVerif.C23
