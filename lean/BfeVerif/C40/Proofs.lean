import BfeVerif.C40.Model
/-! int32 arithmetic of `flowAdd` / `flowTake`; the trace invariant `Inv`, kept by one `step` (`stepOK_step`, which also
    shows that `step` does not panic) and by every micro-step of a handler, hence by `settle` and `runScript`. -/
namespace BfeVerif.C40

def I32 (x : Int) : Prop := -2147483648 ≤ x ∧ x ≤ 2147483647

theorem wrap32_I32 (x : Int) : I32 (wrap32 x) := by unfold I32 wrap32; omega

theorem wrap32_id (x : Int) (h : I32 x) : wrap32 x = x := by unfold I32 at h; unfold wrap32; omega

theorem flowAdd_eq_some (f n f' : Int) (hf : I32 f) (hn : I32 n) :
    flowAdd f n = some f' ↔ f' = f + n ∧ I32 (f + n) := by
  unfold flowAdd
  by_cases hs : I32 (f + n)
  · have hc : decide (f + n > n) = decide (f > 0) := decide_eq_decide.mpr (by omega)
    simp only [wrap32_id _ hs, if_pos hc, Option.some.injEq, hs, and_true, eq_comm]
  · have hc : ¬ decide (wrap32 (f + n) > n) = decide (f > 0) := by
      unfold I32 wrap32 at *
      rw [decide_eq_decide]
      omega
    simp only [if_neg hc, hs, and_false, reduceCtorEq]

theorem flowAdd_I32 {f n f' : Int} (h : flowAdd f n = some f') : I32 f' := by
  unfold flowAdd at h
  dsimp only at h
  split at h
  · cases h
    exact wrap32_I32 _
  · cases h

theorem flowAdd_none (f n : Int) (hf : I32 f) (hn : I32 n) (h : flowAdd f n = none) : ¬ I32 (f + n) := by
  intro hs
  rw [(flowAdd_eq_some f n _ hf hn).mpr ⟨rfl, hs⟩] at h
  cases h

theorem flowAdd_getD (c k : Int) (hc : I32 c) (hk : I32 k) :
    (flowAdd c k).getD c = c ∨ (flowAdd c k).getD c = c + k ∧ I32 (c + k) := by
  cases h : flowAdd c k with
  | none => exact .inl rfl
  | some v => exact .inr ((flowAdd_eq_some c k v hc hk).mp h)

theorem le_available (a c n : Int) : n ≤ available a c ↔ n ≤ a ∧ n ≤ c := by
  unfold available; split <;> omega

theorem flowTake_of_le {a c n : Int} (h : n ≤ available a c) :
    flowTake a c n = some (wrap32 (a - n), wrap32 (c - n)) :=
  if_neg (Int.not_lt.mpr h)

theorem allowed_le (s : State) (st : St) :
    allowed s st ≤ st.flow ∧ allowed s st ≤ s.connFlow ∧ allowed s st ≤ 16384 :=
  -- by definition `allowed s st` is `available (available st.flow s.connFlow) maxFrame`
  have ⟨h, hm⟩ := (le_available _ maxFrame _).mp (Int.le_refl (allowed s st))
  ⟨((le_available _ _ _).mp h).1, ((le_available _ _ _).mp h).2, hm⟩

/-- 65536 = the window granted to a new stream; `buf` = bytes accepted and not yet read by the handler -/
def StOK (st : St) : Prop := 0 ≤ st.inflow ∧ st.inflow + st.buf ≤ 65536 ∧ I32 st.flow

theorem StOK.setFlow {x : St} (hx : StOK x) {f : Int} (hf : I32 f) : StOK { x with flow := f } :=
  ⟨hx.1, hx.2.1, hf⟩

/-- `ids` bounds every id by `maxId` only so that `incr` is inductive: a new stream's id exceeds `maxId`.
    `connIn ≤ 65536` is not part of it: that needs the sum of `buf` over all streams. -/
structure Inv (s : State) : Prop where
  connIn : 0 ≤ s.connIn ∧ s.connIn ≤ 2147483647
  connFlow : I32 s.connFlow
  iws : I32 s.iws
  sts : ∀ st ∈ s.streams, StOK st
  ids : ∀ x ∈ s.opened, x ≤ s.maxId ∧ x % 2 = 1
  incr : s.opened.Pairwise (· < ·)

theorem inv_init (a : Nat) : Inv { adv := a } := by
  constructor <;> simp [I32]

/-- the six fields `Inv` reads, as one tuple equation: for an update of any other field the caller passes `rfl` -/
theorem Inv.frame {s t : State} (h : Inv s)
    (e : (t.connIn, t.connFlow, t.iws, t.streams, t.opened, t.maxId) =
      (s.connIn, s.connFlow, s.iws, s.streams, s.opened, s.maxId)) : Inv t := by
  simp only [Prod.mk.injEq] at e
  obtain ⟨e1, e2, e3, e4, e5, e6⟩ := e
  exact { connIn := e1 ▸ h.connIn, connFlow := e2 ▸ h.connFlow, iws := e3 ▸ h.iws, sts := e4 ▸ h.sts,
          ids := by rw [e5, e6]; exact h.ids, incr := e5 ▸ h.incr }

theorem sts_updSt (s : State) (id : Nat) (f : St → St) (h : ∀ st ∈ s.streams, StOK st)
    (hf : ∀ x, StOK x → StOK (f x)) : ∀ st ∈ (updSt s id f).streams, StOK st := by
  intro st hst
  obtain ⟨x, hx, rfl⟩ := List.mem_map.mp hst
  split
  · exact hf x (h x hx)
  · exact h x hx

theorem inv_updSt (s : State) (id : Nat) (f : St → St) (h : Inv s) (hf : ∀ x, StOK x → StOK (f x)) :
    Inv (updSt s id f) :=
  { h with sts := sts_updSt s id f h.sts hf }

theorem find_mem (s : State) (id : Nat) (st : St) (h : find s id = some st) : st ∈ s.streams :=
  List.mem_of_find?_eq_some h

theorem findAny_mem (s : State) (id : Nat) (st : St) (h : findAny s id = some st) : st ∈ s.streams :=
  List.mem_of_find?_eq_some h

@[simp] theorem find_kick (s : State) (b : Bool) (id : Nat) : find { s with kick := b } id = find s id := rfl

theorem connIn_add (c : Int) (k : Nat) (h : 0 ≤ c ∧ c ≤ 2147483647) (hk : (k : Int) ≤ 2147483647) :
    0 ≤ (flowAdd c k).getD c ∧ (flowAdd c k).getD c ≤ 2147483647 := by
  rcases flowAdd_getD c k ⟨by omega, h.2⟩ ⟨by omega, hk⟩ with e | ⟨e, hs⟩ <;> rw [e]
  · exact h
  · exact ⟨by omega, hs.2⟩

theorem inv_close (s : State) (id : Nat) (h : Inv s) : Inv (close s id) := by
  unfold close
  cases hf : find s id with
  | none => exact h
  | some st =>
    have hst := h.sts st (find_mem s id st hf)
    refine { h with connIn := ?_, sts := sts_updSt _ id _ h.sts fun x ⟨hin, hroom, hfl⟩ => ⟨hin, ?_, hfl⟩ }
    · show 0 ≤ ite _ _ _ ∧ ite _ _ _ ≤ _
      split
      · exact connIn_add s.connIn st.buf h.connIn (by unfold StOK at hst; omega)
      · exact h.connIn
    · show x.inflow + ((0 : Nat) : Int) ≤ 65536
      omega

theorem inv_reset (s : State) (id c : Nat) (h : Inv s) : Inv (reset s id c).st :=
  (inv_close s id h).frame rfl

theorem growAll_stOK (l : List St) (g : Int) (l' : List St) (h : ∀ st ∈ l, StOK st)
    (hr : growAll l g = some l') : ∀ st ∈ l', StOK st := by
  -- 1: `[]`; 2: alive, both `some`; 3: alive, one `none`; 4: not alive
  fun_induction growAll l g generalizing l' with
  | case1 => cases hr; exact h
  | case2 a t g hal f t' hgt hfa ih =>
    cases hr
    have ⟨ha, ht⟩ := List.forall_mem_cons.mp h
    exact List.forall_mem_cons.mpr ⟨ha.setFlow (flowAdd_I32 hfa), ih t' ht hgt⟩
  | case3 => cases hr
  | case4 a t g hal ih =>
    obtain ⟨t', hgt, rfl⟩ := Option.map_eq_some_iff.mp hr
    have ⟨ha, ht⟩ := List.forall_mem_cons.mp h
    exact List.forall_mem_cons.mpr ⟨ha, ih t' ht hgt⟩

theorem inv_newStream (s : State) (st : St) (id : Nat) (l : List H) (h : Inv s) (hst : StOK st)
    (hodd : id % 2 = 1) (hgt : s.maxId < id) :
    Inv { s with maxId := id, streams := s.streams ++ [st], handlers := l, cur := s.cur + 1,
                 opened := s.opened ++ [id] } := by
  refine { h with
    sts := List.forall_mem_append.mpr ⟨h.sts, List.forall_mem_singleton.mpr hst⟩
    ids := List.forall_mem_append.mpr ⟨fun x hx => ⟨Nat.le_trans (h.ids x hx).1 (Nat.le_of_lt hgt), (h.ids x hx).2⟩,
      List.forall_mem_singleton.mpr ⟨Nat.le_refl _, hodd⟩⟩
    incr := List.pairwise_append.mpr ⟨h.incr, List.pairwise_singleton _ _, fun a ha b hb => ?_⟩ }
  cases List.mem_singleton.mp hb
  exact Nat.lt_of_le_of_lt (h.ids a ha).1 hgt

theorem goAway_st (s : State) (c : Nat) : (goAway s c).st = s := by
  unfold goAway; split <;> rfl

theorem goAway_ne_panic (s : State) (c : Nat) : (goAway s c).status ≠ .panic := by
  unfold goAway; split <;> nofun

/-- the two halves are `inv_step` and `C40_no_panic`, proved in one walk through `step`.  Introduced by `stepOK_run`,
    `stepOK_reset`, `stepOK_goAway`; their default `h`: the result is built on `s` itself -/
def StepOK (s : State) (r : Res) : Prop := (Inv s → Inv r.st) ∧ r.status ≠ .panic

theorem stepOK_run {s t : State} {o : List Out} (h : Inv s → Inv t := by exact fun h => h) :
    StepOK s { st := t, out := o } := ⟨h, nofun⟩

theorem stepOK_reset {s t : State} {id c : Nat} (h : Inv s → Inv t := by exact fun h => h) : StepOK s (reset t id c) :=
  ⟨fun hs => inv_reset _ _ _ (h hs), nofun⟩

theorem stepOK_goAway {s t : State} {c : Nat} (h : Inv s → Inv t := by exact fun h => h) : StepOK s (goAway t c) :=
  ⟨fun hs => by rw [goAway_st]; exact h hs, goAway_ne_panic _ _⟩

theorem stepOK_step (s0 : State) (e : Ev) : StepOK s0 (step s0 e) := by
  unfold step
  -- the state with `kick` cleared stays an opaque variable: its struct update would be copied into every branch
  extract_lets s
  suffices k : StepOK s _ from ⟨fun h => k.1 (h.frame rfl), k.2⟩
  clear_value s
  -- the branches are walked with `iteInduction`, which looks at the head `if` only; `split` traverses all that is below it
  have orReset : ∀ {c : Prop} [Decidable c] {s2 : State} {id code : Nat}, (Inv s → Inv s2) →
      StepOK s (if c then reset s2 id code else { st := s2 }) :=
    fun h2 => iteInduction (fun _ => stepOK_reset h2) fun _ => stepOK_run h2
  cases e with
  | syn id fin meth cl =>
    dsimp only
    refine iteInduction (fun _ => stepOK_run) fun _ => iteInduction (fun _ => stepOK_run) fun _ =>
      iteInduction (fun _ => stepOK_goAway) fun hbad => iteInduction (fun _ => stepOK_reset) fun heq => ?_
    have hst : StOK { id, isOpen := !fin, flow := (flowAdd 0 s.iws).getD 0, hasBody := !fin,
                      decl := if !fin ∧ cl ≥ 10 then some (cl - 10) else none } := by
      refine ⟨by show (0 : Int) ≤ 65536; decide, by show (65536 : Int) + ((0 : Nat) : Int) ≤ 65536; decide, ?_⟩
      cases hfa : flowAdd 0 s.iws with
      | none => exact (⟨by decide, by decide⟩ : I32 0)
      | some f => exact flowAdd_I32 hfa
    have key := fun (h : Inv s) (l : List H) => inv_newStream s _ id l h hst (by omega) (by omega)
    exact iteInduction (fun _ => ⟨fun h => key h _, nofun⟩) fun _ => orReset fun h => key h _
  | data id len fin =>
    dsimp only
    refine iteInduction (fun _ => stepOK_run) fun _ => ?_
    cases find s id with
    | none => exact stepOK_reset
    | some st =>
      dsimp only
      -- `!isOpen`: rst 9; `overDecl`: rst 1; `len > 0`: [`available < len`: rst 7; else `?_`, frame accepted]; `len = 0`
      refine iteInduction (fun _ => stepOK_reset) fun _ => iteInduction (fun _ => stepOK_reset) fun _ =>
        iteInduction (fun _ => iteInduction (fun _ => stepOK_reset) fun hav => ?_) fun _ =>
          orReset fun h => inv_updSt _ _ _ h fun x hx => hx
      -- the only `panic` of `step` is not reached: `flow.take` comes after `available()` said the frame fits
      rw [flowTake_of_le (Int.not_lt.mp hav)]
      have hc := ((le_available _ _ _).mp (Int.not_lt.mp hav)).2
      refine orReset fun h => inv_updSt _ _ _ { h with connIn := ?_ } fun x hx => ?_
      · have hcn := h.connIn
        show 0 ≤ wrap32 (s.connIn - len) ∧ wrap32 (s.connIn - len) ≤ 2147483647
        rw [wrap32_id _ ⟨by omega, by omega⟩]
        omega
      · split
        · obtain ⟨hin, hroom, hfl⟩ := hx
          unfold StOK
          dsimp only
          rw [wrap32_id _ ⟨by omega, by omega⟩]
          exact ⟨by omega, by omega, hfl⟩
        · exact hx
  | wu id delta =>
    dsimp only
    refine iteInduction (fun _ => ?_) fun _ => ?_
    · cases find s id with
      | none => exact stepOK_run
      | some st =>
        dsimp only
        cases hfa : flowAdd st.flow ((delta % 2147483648 : Nat) : Int) with
        | none => exact stepOK_reset
        | some f =>
          exact stepOK_run fun h => (inv_updSt _ _ (fun x => { x with flow := f }) h fun x hx =>
            hx.setFlow (flowAdd_I32 hfa)).frame rfl
    · cases hfa : flowAdd s.connFlow ((delta % 2147483648 : Nat) : Int) with
      | none => exact stepOK_goAway
      | some f => exact stepOK_run fun h => { h with connFlow := flowAdd_I32 hfa }
  | rst id status =>
    exact iteInduction (fun _ => stepOK_run) fun _ => iteInduction (fun _ => stepOK_run fun h => inv_close _ _ h) fun _ =>
      iteInduction (fun _ => stepOK_run) fun _ => stepOK_goAway
  | iws val =>
    dsimp only
    -- (`{ h with iws := .. }` makes Lean evaluate `wrap32 ↑val` and runs out of stack)
    have hi (h : Inv s) : Inv { s with iws := wrap32 (val : Int) } := ⟨h.connIn, h.connFlow, wrap32_I32 _, h.sts, h.ids, h.incr⟩
    cases hg : growAll s.streams (wrap32 (wrap32 (val : Int) - s.iws)) with
    | none => exact stepOK_goAway hi
    | some l => exact stepOK_run fun h => { hi h with sts := growAll_stOK s.streams _ l h.sts hg }
  | ping id => exact iteInduction (fun _ => stepOK_run) fun _ => stepOK_run fun h => h.frame rfl
  | hcmd id c => exact stepOK_run fun h => h.frame rfl
  | graceful => exact iteInduction (fun _ => stepOK_run) fun _ => stepOK_run fun h => h.frame rfl

theorem inv_step (s : State) (e : Ev) (h : Inv s) : Inv (step s e).st := (stepOK_step s e).1 h

theorem inv_takeOut (s : State) (id c : Nat) (h : Inv s) : Inv (takeOut s id c) :=
  inv_updSt _ id _ { h with connFlow := wrap32_I32 _ } fun _ hx => hx.setFlow (wrap32_I32 _)

theorem StOK.read {x : St} (hx : StOK x) {k : Nat} (hk : k ≤ x.buf) {w : Int} (hw : w = x.inflow ∨ w = x.inflow + k) :
    StOK { x with buf := x.buf - k, inflow := w } := by
  obtain ⟨hin, hroom, hfl⟩ := hx
  exact ⟨by dsimp only; omega, by dsimp only; omega, hfl⟩

/-- (the update of `microH`, `.read` branch, verbatim) -/
theorem inv_readUpd (s : State) (id k : Nat) (h : Inv s) :
    Inv (updSt s id fun x =>
      if k ≤ x.buf then
        { x with buf := x.buf - k, inflow := if x.isOpen then (flowAdd x.inflow k).getD x.inflow else x.inflow }
      else x) := by
  refine inv_updSt s id _ h fun x hx => ?_
  split
  · next hk =>
    refine hx.read hk ?_
    unfold StOK at hx
    split
    · exact (flowAdd_getD x.inflow k ⟨by omega, by omega⟩ ⟨by omega, by omega⟩).imp_right And.left
    · exact .inl rfl
  · exact hx

def OSat (P : State → List Out → Prop) (r : Option (State × List Out)) : Prop := ∀ s' o, r = some (s', o) → P s' o

theorem osat_some {P : State → List Out → Prop} {s : State} {o : List Out} (h : P s o) : OSat P (some (s, o)) := by
  rintro _ _ ⟨⟩; exact h

theorem osat_none {P : State → List Out → Prop} : OSat P none := by
  rintro _ _ ⟨⟩

theorem inv_microH (s : State) (st : St) (hh : H) (hst : st ∈ s.streams) (h : Inv s) :
    OSat (fun s' _ => Inv s') (microH s st hh) := by
  unfold microH
  cases hh.queue with
  | nil => exact osat_none
  | cons c q =>
    cases c with
    | read n =>
      refine iteInduction (fun _ => osat_some (h.frame rfl)) fun _ => iteInduction (fun _ => ?_) fun _ =>
        iteInduction (fun _ => osat_some (h.frame rfl)) fun _ => osat_none
      have hbuf : ((min n st.buf : Nat) : Int) ≤ 2147483647 := by
        have := h.sts st hst
        unfold StOK at this
        omega
      have h2 := inv_readUpd _ hh.id (min n st.buf)
        ({ h with connIn := connIn_add s.connIn _ h.connIn hbuf } : Inv { s with connIn := _, kick := true })
      exact osat_some (iteInduction (fun _ => h2.frame rfl) fun _ => h2.frame rfl)
    | write n =>
      -- `write` changes only `handlers` and `kick`, which `Inv` does not read
      exact iteInduction (fun _ => osat_some (h.frame rfl)) fun _ => iteInduction
        (fun _ => iteInduction (fun _ => osat_some (iteInduction (fun _ => h.frame rfl) fun _ => h.frame rfl)) fun _ => osat_some (h.frame rfl))
        fun _ => iteInduction (fun _ => osat_some (h.frame rfl)) fun _ =>
          iteInduction (fun _ => osat_some (h.frame rfl)) fun _ => osat_some (h.frame rfl)
    | send r =>
      refine iteInduction (fun _ => osat_some (h.frame rfl)) fun _ => iteInduction (fun _ => ?_) fun _ => osat_none
      have h1 := inv_takeOut s hh.id (min r (allowed s st).toNat) h
      exact osat_some (iteInduction (fun _ => h1.frame rfl) fun _ => h1.frame rfl)
    | finish =>
      exact iteInduction (fun _ => osat_some (inv_close _ _ (h.frame rfl))) fun _ => osat_some (h.frame rfl)

theorem microFirst_eq (s : State) (l : List St) : microFirst s l = l.findSome? (microS s) := by
  induction l with
  | nil => rfl
  | cons a t ih =>
    rw [microFirst, List.findSome?_cons, ih]
    cases microS s a <;> rfl

theorem microFirst_some {s : State} {l : List St} {r : State × List Out} (h : microFirst s l = some r) :
    ∃ st ∈ l, ∃ hh, microH s st hh = some r := by
  rw [microFirst_eq] at h
  obtain ⟨st, hst, hs⟩ := List.exists_of_findSome?_eq_some h
  unfold microS at hs
  split at hs
  · cases hs
  · exact ⟨st, hst, _, hs⟩

theorem inv_settle (rev : Bool) (fuel : Nat) (s : State) (acc : List Out) (h : Inv s) :
    Inv (settle rev fuel s acc).1 := by
  induction fuel generalizing s acc with
  | zero => exact h
  | succ n ih =>
    unfold settle
    cases hm : microFirst s (if rev = true then s.streams.reverse else s.streams) with
    | none => exact h
    | some r =>
      obtain ⟨st, hst, hh, hr⟩ := microFirst_some hm
      refine ih _ _ (inv_microH s st hh ?_ h r.1 r.2 hr)
      split at hst
      · exact List.mem_reverse.mp hst
      · exact hst

theorem inv_stepQ (rev : Bool) (s : State) (e : Ev) (h : Inv s) : Inv (stepQ rev s e).st := by
  have hs := inv_step s e h
  cases hstat : (step s e).status <;> simp only [stepQ, hstat]
  · exact inv_settle rev settleFuel _ _ hs
  all_goals exact hs

theorem inv_run (rev : Bool) (s : State) (evs : List Ev) (h : Inv s) : Inv (runScript rev s evs).2.2 := by
  induction evs generalizing s with
  | nil => exact h
  | cons e t ih =>
    have hq := inv_stepQ rev s e h
    cases hstat : (stepQ rev s e).status <;> simp only [runScript, hstat]
    · exact ih _ hq
    all_goals exact hq

theorem step_graceful (s : State) (hg : s.inGoAway = false) :
    step s .graceful = { st := { s with inGoAway := true, kick := true }, out := [.goaway s.maxId 0] } :=
  if_neg (ne_true_of_eq_false hg)

end BfeVerif.C40
