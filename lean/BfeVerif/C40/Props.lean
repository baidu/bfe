import BfeVerif.C40.Proofs
import BfeVerif.C40.PanicSites
/-!
  C40 — the SPDY server enforces stream and flow-control rules.
  `runScript` = any sequence of client frames and (scripted) handler commands, each run to quiescence; the
  correspondence run ties it to a real server connection driven over net.Pipe, and the driver's client-side monitor
  judges the same rules on the implementation's own output.
-/
namespace BfeVerif.C40

/-- **flow.add (fixed)**: it succeeds exactly when the sum is representable (so a window never exceeds 2^31-1 and
    never wraps), and then the window is exactly the sum — for every int32 window, negative ones included. -/
theorem C40_flow_add_exact (f n f' : Int) (hf : I32 f) (hn : I32 n) :
    flowAdd f n = some f' ↔ (f' = f + n ∧ I32 (f + n)) :=
  flowAdd_eq_some f n f' hf hn

/-- **Witness of the fixed defect** (`flow-add-negative-window`): the old test `n > (1<<31-1) - f.n` wraps for a
    negative window and refused every update, e.g. window -1, update 1; the fixed code accepts it. -/
theorem C40_witness_flow_add_old_negative : flowAddOld (-1) 1 = none ∧ flowAdd (-1) 1 = some 0 := by
  constructor <;> decide

/-- **Trace invariant**: after ANY sequence of client frames and handler commands (any visiting order of the
    scheduler), on every stream the advertised inbound window is never negative and, together with the bytes
    accepted and not yet read, never exceeds the 65536 granted; every outbound window and the connection windows
    are int32 values (no wrap-around, never above 2^31-1); the ids of the streams created are odd, bounded by the
    highest id seen, and strictly increasing. -/
theorem C40_trace_invariant (adv : Nat) (rev : Bool) (evs : List Ev) :
    Inv (runScript rev { adv := adv } evs).2.2 :=
  inv_run rev _ evs (inv_init adv)

/-- **Stream ids** (corollary): over any trace the created stream ids are strictly increasing and odd. -/
theorem C40_ids (adv : Nat) (rev : Bool) (evs : List Ev) :
    (runScript rev { adv := adv } evs).2.2.opened.Pairwise (· < ·) ∧
      ∀ x ∈ (runScript rev { adv := adv } evs).2.2.opened, x % 2 = 1 :=
  ⟨(C40_trace_invariant adv rev evs).incr, fun x hx => ((C40_trace_invariant adv rev evs).ids x hx).2⟩

/-- a SYN_STREAM with an even id or an id below the highest seen is a connection error (GOAWAY PROTOCOL_ERROR),
    and creates nothing. -/
theorem C40_bad_id_rejected (s : State) (id : Nat) (fin : Bool) (meth cl : Nat) (h0 : id ≠ 0)
    (hg : s.inGoAway = false) (hb : id % 2 ≠ 1 ∨ id < s.maxId) :
    (step s (.syn id fin meth cl)).out = [.goaway s.maxId 1] ∧ (step s (.syn id fin meth cl)).st.opened = s.opened := by
  simp only [step, h0, hb, hg, goAway, if_false, if_true, Bool.false_eq_true, and_self]

/-- **Request headers**: a SYN_STREAM that announces a body (no FIN) with method HEAD, or with a Content-Length
    that is not a non-negative number, is answered with RST_STREAM(PROTOCOL_ERROR) (no handler is started: `handlers`
    is left as it was before the reset). -/
theorem C40_malformed_request_reset (s : State) (id : Nat) (meth cl : Nat) (h0 : id ≠ 0) (hodd : id % 2 = 1)
    (hg : s.inGoAway = false) (hgt : s.maxId < id) (hadv : s.cur + 1 ≤ s.adv)
    (hbad : meth = 2 ∨ cl = 1 ∨ cl = 2) :
    (step s (.syn id false meth cl)).out.head? = some (.rst id 1) := by
  have h1 : ¬ (id % 2 ≠ 1 ∨ id < s.maxId) := by omega
  have h2 : ¬ id = s.maxId := by omega
  have h3 : ¬ (s.cur + 1 > s.adv) := by omega
  have hb : (!false && (meth == 2 || cl == 1 || cl == 2)) = true := by
    rcases hbad with h | h | h <;> simp [h]
  simp only [step, h0, if_false, h1, h2, h3, hb, if_true, reset, hg, Bool.false_eq_true]
  rfl

/-- **Declared length**: DATA beyond the announced Content-Length, and END_STREAM before it is reached, reset the
    stream with PROTOCOL_ERROR (the latter after the frame itself was accepted). -/
theorem C40_content_length (s : State) (id len : Nat) (fin : Bool) (st : St) (hid : id ≠ 0)
    (hf : find s id = some st) (ho : st.isOpen = true) :
    (overDecl st len = true → (step s (.data id len fin)).out.head? = some (.rst id 1)) := by
  intro hov
  simp [step, hid, hf, ho, hov, reset]

/-- **No panic in `flow.take` from client frames**: processData never calls `take` with more than `available()`. -/
theorem C40_no_panic (s : State) (e : Ev) : (step s e).status ≠ .panic :=
  (stepOK_step s e).2

/-- **Inbound windows**: a DATA frame with payload that is accepted (no RST_STREAM) fits the stream's and the
    connection's advertised window (with the trace invariant: both stay non-negative). -/
theorem C40_in_window (s : State) (id len : Nat) (fin : Bool) (st : St)
    (hid : id ≠ 0) (hf : find s id = some st) (ho : st.isOpen = true) (hl : len > 0)
    (hacc : (step s (.data id len fin)).out = []) :
    (len : Int) ≤ st.inflow ∧ (len : Int) ≤ s.connIn := by
  simp only [step, hid, if_false, find_kick, hf, ho, Bool.not_true, Bool.false_eq_true, hl, if_true, reset] at hacc
  cases hov : overDecl st len with
  | true => simp [hov] at hacc
  | false =>
    by_cases hav : available st.inflow s.connIn < (len : Int)
    · simp [hov, hav] at hacc
    · exact (le_available _ _ _).mp (Int.not_lt.mp hav)

/-- **Frames for closed / never opened streams** are answered with RST_STREAM(INVALID_STREAM), half-closed
    (remote) ones with RST_STREAM(STREAM_ALREADY_CLOSED); no window is debited. -/
theorem C40_closed_streams (s : State) (id len : Nat) (fin : Bool) (hid : id ≠ 0) :
    (find s id = none → (step s (.data id len fin)).out = [.rst id 2] ∧
        (step s (.data id len fin)).st.connIn = s.connIn) ∧
    (∀ st, find s id = some st → st.isOpen = false → (step s (.data id len fin)).out.head? = some (.rst id 9)) := by
  constructor
  · intro hf
    simp [step, hid, hf, reset, close, closeOut]
  · intro st hf ho
    simp [step, hid, hf, ho, reset]

/-- **C40_out_window**: whenever the scheduler emits a DATA chunk for a handler's queued write, the chunk is
    positive, at most 16384, and at most BOTH the stream's and the connection's outbound window at that moment
    (so `flow.take` cannot panic and the client's windows are never overdrawn); for every state, hence on every trace. -/
theorem C40_out_window (s : State) (st : St) (h : H) (r : Nat) (q : List Cmd) (s' : State) (o : List Out)
    (hq : h.queue = .send r :: q) (hr : 0 < r) (ha : st.alive = true)
    (hm : microH s st h = some (s', o)) :
    ∃ c : Nat, o = [.data h.id c false] ∧ 0 < c ∧ (c : Int) ≤ st.flow ∧ (c : Int) ≤ s.connFlow ∧ (c : Int) ≤ 16384 ∧
      c ≤ r := by
  unfold microH at hm
  rw [hq] at hm
  simp only [ha, Bool.not_true, Bool.false_eq_true, if_false] at hm
  by_cases hk : s.kick = true ∧ allowed s st > 0
  · rw [if_pos hk] at hm
    cases hm
    have := allowed_le s st
    exact ⟨_, rfl, by omega⟩
  · rw [if_neg hk] at hm
    cases hm

/-- **Replenishment**: a handler read of `k` bytes (`read` = what the handler got) emits WINDOW_UPDATE(connection, k),
    and for a stream that is still open WINDOW_UPDATE(stream, k), with `k` at most what is buffered: the windows are
    replenished by exactly the bytes consumed.  It holds in EVERY state, in particular with `s.inGoAway`: after a
    graceful GOAWAY uploads in progress keep their windows open. -/
theorem C40_replenish (s : State) (st : St) (h : H) (n : Nat) (q : List Cmd) (s' : State) (o : List Out)
    (hq : h.queue = .read n :: q) (hn : n ≠ 0) (hb : st.hasBody = true) (ha : st.alive = true) (hbuf : st.buf > 0)
    (hm : microH s st h = some (s', o)) :
    o = [.read h.id (min n st.buf), .wu 0 (min n st.buf)] ++ (if st.isOpen then [.wu h.id (min n st.buf)] else []) ++
        (if n - min n st.buf = 0 then [.rend h.id 0] else []) ∧
      min n st.buf ≤ st.buf := by
  unfold microH at hm
  simp only [hq, hn, hb, ha, Bool.not_true, Bool.false_eq_true, or_self, if_false, hbuf, if_true, Option.some.injEq,
    Prod.mk.injEq] at hm
  exact ⟨hm.2.symm, Nat.min_le_right _ _⟩

/-- `C40_replenish` read off for a connection in GOAWAY; `_hg` is not used, `microH` does not look at `inGoAway`. -/
theorem C40_replenish_during_goaway (s : State) (st : St) (h : H) (n : Nat) (q : List Cmd) (s' : State)
    (o : List Out) (_hg : s.inGoAway = true)
    (hq : h.queue = .read n :: q) (hn : n ≠ 0) (hb : st.hasBody = true) (ha : st.alive = true) (hbuf : st.buf > 0)
    (hm : microH s st h = some (s', o)) :
    Out.wu 0 (min n st.buf) ∈ o ∧ (st.isOpen = true → Out.wu h.id (min n st.buf) ∈ o) := by
  have := (C40_replenish s st h n q s' o hq hn hb ha hbuf hm).1
  subst this
  constructor
  · simp
  · intro ho; simp [ho]

/-- **The request body's Read contract**: a read command of a handler ends with io.EOF only if the client has ended
    the body (FIN seen) or the request has none, and with an error only if the stream has been closed. -/
theorem C40_read_end (s : State) (st : St) (h : H) (n : Nat) (q : List Cmd) (s' : State) (o : List Out)
    (hq : h.queue = .read n :: q) (hm : microH s st h = some (s', o)) :
    (Out.rend h.id 1 ∈ o → st.eof = true ∨ st.hasBody = false) ∧ (Out.rend h.id 2 ∈ o → st.alive = false) := by
  revert s' o
  show OSat _ (microH s st h)
  unfold microH
  rw [hq]
  refine iteInduction (fun hc => osat_some ?_) fun _ => iteInduction (fun _ => osat_some ?_) fun _ =>
    iteInduction (fun he => osat_some ?_) fun _ => osat_none
  · -- by the guard `hc`, the kind reported is 1 only without a body, and 2 only if neither `n = 0` nor `!st.hasBody` holds
    simp only [List.mem_singleton, Out.rend.injEq, true_and]
    grind
  · simp
  · simp [he]

/-- a graceful shutdown sends GOAWAY(last stream id, OK) once and leaves every window and stream as it is. -/
theorem C40_graceful (s : State) (hg : s.inGoAway = false) :
    (step s .graceful).out = [.goaway s.maxId 0] ∧ (step s .graceful).st.streams = s.streams ∧
      (step s .graceful).st.connIn = s.connIn ∧ (step s .graceful).status = .run := by
  rw [step_graceful s hg]
  exact ⟨rfl, rfl, rfl, rfl⟩

/-- every `panic(...)` call of the CURRENT package bfe_spdy (regenerated list) has a disposition in `panicTable`:
    modelled and shown unreachable, or outside this model for the recorded reason.  A new or reworded panic site
    makes this theorem fail until it is looked at. -/
theorem C40_panic_sites_classified :
    BfeVerif.Generated.C40.panicSites.all classifySite = true := by
  -- the regenerated list is, entry by entry, the keys of the rows `siteRows`: literal against literal, where
  -- `decide` would have the kernel search the table with `String` comparisons
  have e : Generated.C40.panicSites = (siteRows.filterMap (panicTable[·]?)).map fun e => (e.1, e.2.1) := rfl
  rw [e, List.all_map]
  refine List.all_eq_true.mpr fun e he => ?_
  obtain ⟨i, _, hi⟩ := List.mem_filterMap.mp he
  exact classifySite_row (List.mem_of_getElem? hi)

example : (stepQ false (stepQ false {} (.syn 1 false)).st (.hcmd 1 (.write 10))).out = [.reply 1 false, .data 1 10 false] := by
  decide +kernel
example : (stepQ false (stepQ false {} (.syn 1 false)).st (.data 1 65537 false)).out = [.rst 1 7] := by decide +kernel
-- the initial windows of `State` are int32 values
example : I32 65536 := by unfold I32; omega

end BfeVerif.C40
