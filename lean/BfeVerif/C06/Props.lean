import BfeVerif.C06.Proofs
/-!
  C06 — backend health state machine follows the configured thresholds.
  `Reach s evs` ranges over EVERY interleaving of atomic steps
  (lock-protected `BfeBackend` methods) of any number of request threads, reloads (`release`) and the
  checker goroutines the model itself spawns; thresholds may change from step to step (the code
  re-reads the health-check conf on every use).  `evs` is the observable history, newest first.
-/
namespace BfeVerif.C06

/-- `failNum` is, in every interleaving, the number of request failures since the last request success /
    the last return to rotation. -/
theorem C06_failNum_counts {s : St} {evs : List Ev} (h : Reach s evs) : s.failNum = consecFails evs :=
  (inv_of_reach h).fail

/-- Taken out of rotation EXACTLY at an `UpdateStatus(th)` step at which the consecutive request
    failures have reached the threshold `th` in force at that step — and at no other step. -/
theorem C06_down_iff {s : St} {evs : List Ev} (h : Reach s evs) (hav : s.avail = true) (l : Lab) :
    (step s l).1.avail = false ↔ ∃ th, l = Lab.updStatus th ∧ th ≤ consecFails evs := by
  rw [step_avail, ← (inv_of_reach h).fail]
  cases l <;> simp [hav]

/-- the `UpdateStatus` step reports the flip (and so starts a checker) exactly when it caused it -/
theorem C06_flip_reported {s : St} (th : Int) :
    (step s (Lab.updStatus th)).2 = Ev.upd th true ↔ (s.avail = true ∧ (step s (Lab.updStatus th)).1.avail = false) := by
  simp only [step]
  by_cases hth : s.failNum ≥ th <;> by_cases hav : s.avail = true <;> simp [hth, hav]

/-- Sequential request history (one request thread, threshold `th` constant, checker not yet successful):
    the backend is down afterwards iff the run-length spec says a run of `th` consecutive failures occurred. -/
theorem C06_down_exact_seq (th : Int) (outs : List Bool) :
    (exec init [] (seqLabs th outs)).1.avail = !(specDownSeq th outs 0 false) := by
  simpa [init] using exec_seqLabs_avail th outs init []

/-- AT MOST ONE health checker, in every interleaving; one is live only while the backend is out of
    rotation, and while it is out of rotation and not released one IS live. -/
theorem C06_one_checker {s : St} {evs : List Ev} (h : Reach s evs) :
    liveCount s ≤ 1 ∧ (liveCount s = 1 → s.avail = false) ∧
    (s.avail = false → s.closed = false → liveCount s = 1) := by
  unfold liveCount
  rcases (inv_of_reach h).cks with ⟨h0, hdc, _⟩ | ⟨p, hl, hav, _⟩
  · rw [h0]
    exact ⟨Nat.zero_le 1, nofun, fun ha hc => by rw [hdc ha] at hc; cases hc⟩
  · rw [hl]
    exact ⟨Nat.le_refl 1, fun _ => hav, fun _ _ => rfl⟩

/-- Back into rotation ONLY by the checker's `SetAvail(true)` step, and only when the most recent
    health checks were at least `t` consecutive successes, `t` being the healthy-threshold read for the
    last of them (no failed check in between, none counted from an earlier outage). -/
theorem C06_up_after {s : St} {evs : List Ev} (h : Reach s evs) (hav : s.avail = false) (l : Lab)
    (hup : (step s l).1.avail = true) :
    ∃ i ok th, l = Lab.ck i ok th ∧ (step s l).2 = Ev.setUp i ∧
      ∃ t, healthTh evs = some t ∧ t ≤ healthRun evs := by
  rw [step_avail] at hup
  cases l with
  | ck i ok th =>
    have hi : s.cks[i]? = some .setAvail := by simpa [hav] using hup
    obtain ⟨_, _, _, hrun⟩ := (inv_of_reach h).live_at hi nofun
    exact ⟨i, ok, th, rfl, step_setAvail hi ok th, hrun⟩
  | _ => simp [hav] at hup

/-- the healthy-threshold test itself: `CheckAvail(t)` answers true only after `t` consecutive successes -/
theorem C06_checkAvail_true {s : St} {evs : List Ev} (h : Reach s evs) (l : Lab) (i : Nat) (t : Int)
    (hev : (step s l).2 = Ev.chkAvail i t true) : t ≤ healthRun evs ∧ healthTh evs = some t := by
  obtain ⟨hi, hge⟩ := step_chkAvail hev
  obtain ⟨_, _, hrun, hth⟩ := (inv_of_reach h).live_at hi nofun
  exact ⟨hrun ▸ hge, hth⟩

/-- A released backend stops being checked: after `Release`, over all checkers together (the one that
    was running and any that a late request failure starts), at most ONE more health-check connect
    is made (the one the checker was already committed to). -/
theorem C06_release_stops {s : St} {evs : List Ev} (h : Reach s evs) (hc : s.closed = true) :
    connSince evs ≤ 1 :=
  (inv_of_reach h).rel hc

/-- …and the bound 1 is reached: the running checker may make one connect after the release. -/
theorem C06_release_one_more_possible :
    ∃ s evs, Reach s evs ∧ s.closed = true ∧ connSince evs = 1 := by
  let ls := [Lab.addFail, Lab.updStatus 1, Lab.ck 0 true 1, Lab.release, Lab.ck 0 true 1]
  exact ⟨(exec init [] ls).1, (exec init [] ls).2, reach_exec Reach.init ls, by decide +kernel, by decide +kernel⟩

/-- two request threads fail concurrently (both `addFail` before either `updStatus`): one checker;
    two successful checks under threshold 2 bring the backend back and reset `failNum`. -/
example :
    let r := exec init [] [Lab.addFail, Lab.addFail, Lab.updStatus 2, Lab.updStatus 2,
      Lab.ck 0 true 2, Lab.ck 0 true 2, Lab.ck 0 true 2, Lab.ck 0 true 2, Lab.ck 0 true 2,
      Lab.ck 0 true 2, Lab.ck 0 true 2, Lab.ck 0 true 2, Lab.ck 0 true 2, Lab.ck 0 true 2]
    r.1.avail = true ∧ r.1.failNum = 0 ∧ r.1.cks = [Pc.done] ∧ r.1.restarted = true := by decide +kernel

example : (exec init [] [Lab.addFail, Lab.addFail, Lab.updStatus 2, Lab.updStatus 2]).1.cks = [Pc.top] := by
  decide +kernel

example : (exec init [] (seqLabs 3 [true, true, false, true, true, true, false])).1.avail = false := by decide +kernel
example : (exec init [] (seqLabs 3 [true, true, false, true, true, false])).1.avail = true := by decide +kernel

end BfeVerif.C06
