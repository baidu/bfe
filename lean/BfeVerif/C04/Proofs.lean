import BfeVerif.C04.Model
/-
  `leR` is a total preorder on the eligible backends; the first pass keeps `Pass1Inv`, whose last clause makes the
  `single` flag a shortcut for the second pass (`leastConnsE_eq`); the second pass from a least backend is `minimisers`
  (`pass2_least`), so `leastConns` is `minimisers` (`leastConns_eq`).  Last: what `smooth` can return.
-/
namespace BfeVerif.C04

theorem leR_refl (a : B) : leR a a := Int.le_refl _

theorem leR_total (a b : B) : leR a b ∨ leR b a := by unfold leR; omega

theorem leR_trans {a b c : B} (hb : 0 < b.w) (ha : 0 ≤ a.w) (hc : 0 ≤ c.w)
    (h1 : leR a b) (h2 : leR b c) : leR a c := by
  unfold leR at *
  have e1 : a.conn * b.w * c.w ≤ b.conn * a.w * c.w := Int.mul_le_mul_of_nonneg_right h1 hc
  have e2 : b.conn * c.w * a.w ≤ c.conn * b.w * a.w := Int.mul_le_mul_of_nonneg_right h2 ha
  rw [Int.mul_right_comm a.conn, Int.mul_right_comm b.conn] at e1
  rw [Int.mul_right_comm c.conn] at e2
  exact Int.le_of_mul_le_mul_right (Int.le_trans e1 e2) hb

theorem compLC_pos (a b : B) : compLC a b > 0 ↔ ¬ leR a b := by
  unfold compLC leR
  dsimp only
  omega

theorem compLC_zero (a b : B) : compLC a b = 0 ↔ (leR a b ∧ leR b a) := by
  unfold compLC leR
  dsimp only
  omega

theorem compLC_self (a : B) : compLC a a = 0 := (compLC_zero a a).mpr ⟨leR_refl a, leR_refl a⟩

theorem elig_pos {b : B} (h : elig b = true) : 0 < b.w :=
  of_decide_eq_true (Bool.and_eq_true_iff.mp h).2

theorem leR_trans_elig {a b c : B} (ha : elig a = true) (hb : elig b = true) (hc : elig c = true)
    (h1 : leR a b) (h2 : leR b c) : leR a c :=
  leR_trans (elig_pos hb) (Int.le_of_lt (elig_pos ha)) (Int.le_of_lt (elig_pos hc)) h1 h2

theorem pass2_append (b : B) (l l' : List (Nat × B)) : pass2 b (l ++ l') = pass2 b l ++ pass2 b l' := by
  rw [pass2, List.filter_append, List.map_append]
  rfl

theorem mem_pass2_self {x : Nat × B} {l : List (Nat × B)} (h : x ∈ l) (he : elig x.2 = true) :
    x.1 ∈ pass2 x.2 l :=
  List.mem_map_of_mem (List.mem_filter.mpr ⟨h, by rw [he, compLC_self]; rfl⟩)

theorem pass2_eq_nil {b : B} {l : List (Nat × B)} (h : ∀ y ∈ l, ¬ (elig y.2 = true ∧ compLC b y.2 = 0)) :
    pass2 b l = [] := by
  rw [pass2, List.map_eq_nil_iff, List.filter_eq_nil_iff]
  simpa only [Bool.and_eq_true, decide_eq_true_eq] using h

/-- what the first pass knows after the prefix `pre`: `best` is least among the eligible backends of `pre`, and while
    `single` is set the second pass over `pre` would find `best` alone -/
def Pass1Inv (pre : List (Nat × B)) : Option (Nat × B) × Bool → Prop
  | (none, _) => ∀ y ∈ pre, elig y.2 = false
  | (some x, s) => x ∈ pre ∧ elig x.2 = true ∧ (∀ y ∈ pre, elig y.2 = true → leR x.2 y.2) ∧
      (s = true → pass2 x.2 pre = [x.1])

theorem pass1Inv_new {pre : List (Nat × B)} {x : Nat × B} (he : elig x.2 = true)
    (h : ∀ y ∈ pre, elig y.2 = true → leR x.2 y.2 ∧ ¬ leR y.2 x.2) : Pass1Inv (pre ++ [x]) (some x, true) := by
  refine ⟨List.mem_append_right _ (List.mem_singleton_self x), he,
    List.forall_mem_append.mpr ⟨fun y hy hye => (h y hy hye).1, List.forall_mem_singleton.mpr fun _ => leR_refl _⟩,
    fun _ => ?_⟩
  rw [pass2_append, pass2_eq_nil fun y hy ⟨hye, hz⟩ => (h y hy hye).2 ((compLC_zero _ _).mp hz).2]
  rw [pass2, List.filter_cons_of_pos (by rw [he, compLC_self]; rfl)]
  rfl

theorem pass1Inv_keep {pre : List (Nat × B)} {x bb : Nat × B} {s s' : Bool} (h : Pass1Inv pre (some bb, s))
    (hx : elig x.2 = true → leR bb.2 x.2)
    (hs : s' = true → s = true ∧ ¬ (elig x.2 = true ∧ compLC bb.2 x.2 = 0)) :
    Pass1Inv (pre ++ [x]) (some bb, s') := by
  obtain ⟨hmem, hbe, hall, hone⟩ := h
  refine ⟨List.mem_append_left _ hmem, hbe, List.forall_mem_append.mpr ⟨hall, List.forall_mem_singleton.mpr hx⟩,
    fun h' => ?_⟩
  rw [pass2_append, hone (hs h').1, pass2_eq_nil (List.forall_mem_singleton.mpr (hs h').2)]
  rfl

theorem pass1_inv (rest pre : List (Nat × B)) (st : Option (Nat × B) × Bool) (h : Pass1Inv pre st) :
    Pass1Inv (pre ++ rest) (pass1 rest st) := by
  fun_induction pass1 rest st generalizing pre with
  | case1 => rwa [List.append_nil]
  | case2 x _ best _ he ih =>
    have he : elig x.2 = false := by simpa using he
    rw [List.append_cons]
    refine ih _ ?_
    cases best with
    | none => exact List.forall_mem_append.mpr ⟨h, List.forall_mem_singleton.mpr he⟩
    | some bb =>
      exact pass1Inv_keep h (fun hxe => nomatch he.symm.trans hxe) fun hs =>
        ⟨hs, fun hx => nomatch he.symm.trans hx.1⟩
  | case3 x _ _ he ih =>
    rw [List.append_cons]
    exact ih _ (pass1Inv_new (by simpa using he) fun y hy hye => nomatch (h y hy).symm.trans hye)
  | case4 x _ _ he bb _ hpos ih =>
    -- `x` is strictly better than `best`, hence than everything before it
    have ⟨_, hbe, hall, _⟩ := h
    have he : elig x.2 = true := by simpa using he
    have hnle := (compLC_pos _ _).mp hpos
    have hxb : leR x.2 bb.2 := (leR_total x.2 bb.2).resolve_right hnle
    rw [List.append_cons]
    exact ih _ (pass1Inv_new he fun y hy hye =>
      ⟨leR_trans_elig he hbe hye hxb (hall y hy hye),
       fun hle => hnle (leR_trans_elig hbe hye he (hall y hy hye) hle)⟩)
  | case5 x _ _ _ bb _ hpos hz ih =>
    -- a tie: `best` stays, no longer alone
    have hle : leR bb.2 x.2 := Decidable.not_not.mp (mt (compLC_pos _ _).mpr hpos)
    rw [List.append_cons]
    exact ih _ (pass1Inv_keep h (fun _ => hle) fun hs => nomatch hs)
  | case6 x _ _ _ bb _ hpos hz ih =>
    -- `x` is strictly worse
    have hle : leR bb.2 x.2 := Decidable.not_not.mp (mt (compLC_pos _ _).mpr hpos)
    rw [List.append_cons]
    exact ih _ (pass1Inv_keep h (fun _ => hle) fun hs => ⟨hs, fun hx => hz hx.2⟩)

theorem leastConnsE_eq (en : List (Nat × B)) :
    ∃ best single, Pass1Inv en (best, single) ∧ leastConnsE en = best.map fun bb => pass2 bb.2 en := by
  have hfin : Pass1Inv en (pass1 en (none, true)) := pass1_inv en [] (none, true) fun _ hy => nomatch hy
  refine ⟨_, _, hfin, ?_⟩
  rw [leastConnsE]
  generalize pass1 en (none, true) = st at hfin
  obtain ⟨_ | bb, _ | _⟩ := st
  · rfl
  · rfl
  · rfl
  · exact congrArg some (hfin.2.2.2 rfl).symm

theorem forall_mem_iff_getElem? {α : Type} {l : List α} {P : α → Prop} :
    (∀ a ∈ l, P a) ↔ ∀ (i : Nat) a, l[i]? = some a → P a :=
  ⟨fun h _ a hi => h a (List.mem_of_getElem? hi), fun h a ha => (List.getElem?_of_mem ha).elim fun i hi => h i a hi⟩

theorem isMinB_iff (bs : List B) (i : Nat) : isMinB bs i = true ↔ IsMin bs i := by
  unfold isMinB IsMin
  cases hb : bs[i]? with
  | none => exact ⟨fun h => (nomatch h), fun ⟨_, h, _⟩ => nomatch h⟩
  | some b =>
    -- `all` ranges over members, `IsMin` over positions; the last two turn `elig b' = false ∨ _` into `elig b' = true → _`
    simp only [Option.some.injEq, Bool.and_eq_true, List.all_eq_true, Bool.or_eq_true,
      Bool.not_eq_true', decide_eq_true_eq, exists_eq_left', forall_mem_iff_getElem?,
      ← Bool.not_eq_true, ← Decidable.imp_iff_not_or]

theorem mem_minimisers (bs : List B) (i : Nat) : i ∈ minimisers bs ↔ IsMin bs i := by
  rw [minimisers, List.mem_filter, isMinB_iff, List.mem_range]
  exact and_iff_right_of_imp fun ⟨_, hb, _⟩ => (List.getElem?_eq_some_iff.mp hb).1

theorem anyElig_eq_false (bs : List B) : anyElig bs = false ↔ ∀ b ∈ bs, elig b = false := by
  simp only [anyElig, List.any_eq_false, Bool.not_eq_true]

theorem mem_enum {bs : List B} {i : Nat} {b : B} : (i, b) ∈ enum bs ↔ bs[i]? = some b := by
  rw [← List.mem_zipIdx_iff_getElem? (x := (b, i)), enum, List.mem_map]
  constructor
  · rintro ⟨p, hp, h⟩
    cases h
    exact hp
  · exact fun h => ⟨(b, i), h, rfl⟩

theorem enum_fst (bs : List B) : (enum bs).map (·.1) = List.range' 0 bs.length := by
  rw [enum, List.map_map]
  exact List.zipIdx_map_snd 0 bs

theorem minimisers_eq (bs : List B) : minimisers bs = ((enum bs).filter fun x => isMinB bs x.1).map (·.1) := by
  rw [minimisers, List.range_eq_range', ← enum_fst, List.filter_map]
  rfl

/-- the second pass from a least eligible backend collects the minimisers: a backend ties with a least one iff it is
    least itself, and both lists filter the same positions -/
theorem pass2_least {bs : List B} {bb : Nat × B} {s : Bool} (h : Pass1Inv (enum bs) (some bb, s)) :
    pass2 bb.2 (enum bs) = minimisers bs := by
  obtain ⟨hmem, hbe, hall, _⟩ := h
  rw [minimisers_eq, pass2]
  refine congrArg _ (List.filter_congr fun y hy => ?_)
  rw [Bool.eq_iff_iff, isMinB_iff, Bool.and_eq_true, decide_eq_true_eq, compLC_zero]
  constructor
  · rintro ⟨hye, _, hyb⟩
    exact ⟨y.2, mem_enum.mp hy, hye, fun j b' hj hbe' =>
      leR_trans_elig hye hbe hbe' hyb (hall (j, b') (mem_enum.mpr hj) hbe')⟩
  · rintro ⟨b, hb, hbe', hmin⟩
    cases Option.some.inj (hb.symm.trans (mem_enum.mp hy))
    exact ⟨hbe', hall y hy hbe', hmin bb.1 bb.2 (mem_enum.mp hmem) hbe⟩

theorem leastConns_eq (bs : List B) : leastConns bs = if anyElig bs then some (minimisers bs) else none := by
  obtain ⟨_ | bb, s, hinv, heq⟩ := leastConnsE_eq (enum bs)
  · have : anyElig bs = false := (anyElig_eq_false bs).mpr fun b hb =>
      (List.getElem?_of_mem hb).elim fun i hi => hinv (i, b) (mem_enum.mpr hi)
    rw [leastConns, heq, this]
    rfl
  · have : anyElig bs = true := List.any_eq_true.mpr ⟨bb.2, List.mem_of_getElem? (mem_enum.mp hinv.1), hinv.2.1⟩
    rw [leastConns, heq, this, Option.map_some, pass2_least hinv]
    rfl

theorem leastConns_none (bs : List B) : leastConns bs = none ↔ anyElig bs = false := by
  rw [leastConns_eq]
  cases anyElig bs
  · exact ⟨fun _ => rfl, fun _ => rfl⟩
  · exact ⟨fun h => (nomatch h), fun h => nomatch h⟩

theorem leastConns_some {bs : List B} {cs : List Nat} (h : leastConns bs = some cs) : cs = minimisers bs := by
  rw [leastConns_eq] at h
  split at h
  · exact (Option.some.inj h).symm
  · exact nomatch h

theorem not_skip {s e : Bool} : ¬ (!s || !e) = true ↔ s = true ∧ e = true := by
  cases s <;> cases e <;> decide

theorem smoothLoop_some (sel : Nat → Bool) (en : List (Nat × B)) (best : Option Nat) (mx total : Int) (j : Nat)
    (h : (smoothLoop sel en best mx total).1 = some j) :
    best = some j ∨ ∃ b, (j, b) ∈ en ∧ sel j = true ∧ elig b = true := by
  fun_induction smoothLoop sel en best mx total with
  | case1 => exact Or.inl h
  | case2 _ _ _ _ _ _ _ ih => exact (ih h).imp_right fun ⟨b, hb, hs⟩ => ⟨b, List.mem_cons_of_mem _ hb, hs⟩
  | case3 x _ _ _ _ hc bm _ ih =>
    rcases ih h with h' | ⟨b, hb, hs⟩
    · dsimp only [bm] at h'
      split at h'
      · -- `x` became the best
        cases Option.some.inj h'
        exact Or.inr ⟨x.2, List.mem_cons_self, not_skip.mp hc⟩
      · exact Or.inl h'
    · exact Or.inr ⟨b, List.mem_cons_of_mem _ hb, hs⟩

theorem smoothLoop_none (sel : Nat → Bool) (en : List (Nat × B)) (best : Option Nat) (mx total : Int)
    (h : (smoothLoop sel en best mx total).1 = none) :
    best = none ∧ ∀ y ∈ en, ¬ (sel y.1 = true ∧ elig y.2 = true) := by
  fun_induction smoothLoop sel en best mx total with
  | case1 => exact ⟨h, fun _ hy => nomatch hy⟩
  | case2 _ _ _ _ _ hc _ ih =>
    exact ⟨(ih h).1, List.forall_mem_cons.mpr ⟨fun hse => not_skip.mpr hse hc, (ih h).2⟩⟩
  | case3 x _ best _ _ hc bm _ ih =>
    -- `x` counts, so the best handed on is `some _`
    have h1 := (ih h).1
    dsimp only [bm] at h1
    split at h1
    · exact nomatch h1
    · rename_i hn
      cases (h1 : best = none)
      exact absurd rfl hn

theorem smooth_some (bs : List B) (sel : Nat → Bool) (j : Nat) (h : (smooth bs sel).1 = some j) :
    ∃ b, bs[j]? = some b ∧ sel j = true ∧ elig b = true := by
  rw [smooth] at h
  split at h
  · exact nomatch h
  · rename_i j' hj
    cases Option.some.inj h
    rcases smoothLoop_some _ _ _ _ _ _ hj with h' | ⟨b, hb, hs⟩
    · exact nomatch h'
    · exact ⟨b, mem_enum.mp hb, hs⟩

theorem smooth_none (bs : List B) (sel : Nat → Bool) (h : (smooth bs sel).1 = none) :
    ∀ i b, bs[i]? = some b → ¬ (sel i = true ∧ elig b = true) := by
  rw [smooth] at h
  split at h
  · rename_i hn
    exact fun i b hb => (smoothLoop_none _ _ _ _ _ hn).2 (i, b) (mem_enum.mpr hb)
  · exact nomatch h

end BfeVerif.C04
