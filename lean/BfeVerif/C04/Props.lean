import BfeVerif.C04.Proofs
import Mathlib.Algebra.Order.Field.Rat
/-!
  C04 — weighted-least-connection mode picks a backend minimising connections/weight: `IsMin bs i` says that
  backend `i` is eligible (available, weight > 0) and `conn_i * w_j ≤ conn_j * w_i` for every eligible `j`.
  The model assumes that both passes of one call read the same counters.
-/
namespace BfeVerif.C04

/-- The cross-multiplied comparison of `compLCWeight` is the comparison of the quotients connections/weight,
    so `IsMin` really is "minimal conn/weight". -/
theorem C04_cross_mul_is_ratio (a b : B) (ha : 0 < a.w) (hb : 0 < b.w) :
    leR a b ↔ (a.conn : ℚ) / (a.w : ℚ) ≤ (b.conn : ℚ) / (b.w : ℚ) := by
  unfold leR
  have ha' : (0 : ℚ) < (a.w : ℚ) := by exact_mod_cast ha
  have hb' : (0 : ℚ) < (b.w : ℚ) := by exact_mod_cast hb
  rw [div_le_div_iff₀ ha' hb']
  exact_mod_cast Iff.rfl

/-- **Candidates = exactly the minimisers** of connections/weight among the eligible backends. -/
theorem C04_candidates_exact (bs : List B) (cs : List Nat) (h : leastConns bs = some cs) :
    ∀ i, i ∈ cs ↔ IsMin bs i :=
  leastConns_some h ▸ mem_minimisers bs

/-- `leastConnsBalance` reports "all backend is down" exactly when no backend is eligible. -/
theorem C04_error_iff (bs : List B) : leastConns bs = none ↔ ∀ b ∈ bs, elig b = false :=
  (leastConns_none bs).trans (anyElig_eq_false bs)

/-- The error return of `randomBalance` on an empty candidate list is dead. -/
theorem C04_candidates_nonempty (bs : List B) (cs : List Nat) (h : leastConns bs = some cs) : cs ≠ [] := by
  obtain ⟨_ | bb, _, hinv, heq⟩ := leastConnsE_eq (enum bs)
  · exact nomatch heq.symm.trans h
  · -- the `best` of the first pass ties with itself, so the second pass collects it
    cases Option.some.inj (heq.symm.trans h)
    exact List.ne_nil_of_mem (mem_pass2_self hinv.1 hinv.2.1)

/-- **The choice is a minimiser** in both WLC modes, whatever `smoothBalance` does among the tied candidates and
    whatever value `rand.Int()` returns. -/
theorem C04_choice (m : Mode) (bs : List B) (n i : Nat) (h : (wlc m bs n).1 = some i) : IsMin bs i := by
  unfold wlc at h
  split at h
  · exact nomatch h
  · rename_i c hc
    cases Option.some.inj h
    exact (C04_candidates_exact bs _ hc _).mp List.mem_cons_self
  · rename_i cs _ hcs
    refine (C04_candidates_exact bs cs hcs i).mp ?_
    cases m with
    | smoothTie =>
      obtain ⟨_, _, hs, _⟩ := smooth_some _ _ _ h
      exact List.contains_iff_mem.mp hs
    | randomTie => exact List.mem_of_getElem? h

/-- No spurious "all backend is down" from a WLC call. -/
theorem C04_wlc_error_iff (m : Mode) (bs : List B) (n : Nat) :
    (wlc m bs n).1 = none ↔ ∀ b ∈ bs, elig b = false := by
  refine ⟨fun h => ?_, fun h => by rw [wlc, (C04_error_iff bs).mpr h]⟩
  unfold wlc at h
  split at h
  · exact (C04_error_iff bs).mp ‹_›
  · exact nomatch h
  · -- both tie-breaks hand out some candidate
    rename_i cs _ hcs
    obtain ⟨c, hc⟩ := List.exists_mem_of_ne_nil cs (C04_candidates_nonempty bs cs hcs)
    cases m with
    | smoothTie =>
      obtain ⟨b, hb, he, _⟩ := (C04_candidates_exact bs cs hcs c).mp hc
      exact absurd ⟨List.contains_iff_mem.mpr hc, he⟩ (smooth_none _ _ h c b hb)
    | randomTie =>
      have := Nat.mod_lt n (List.length_pos_of_mem hc)
      rw [List.getElem?_eq_none_iff] at h
      omega

/-- The executable oracle the driver applies to the implementation's answers decides `IsMin`. -/
theorem C04_oracle_sound (bs : List B) (i : Nat) : isMinB bs i = true ↔ IsMin bs i := isMinB_iff bs i

/-- `minimisers` is what the driver prints as the expected candidate list. -/
theorem C04_minimisers (bs : List B) (i : Nat) : i ∈ minimisers bs ↔ IsMin bs i := mem_minimisers bs i

/-- **WlcSimple maps the random draw onto the minimisers uniformly**: the backend handed out is the `(n mod k)`-th
    of the `k` candidates, so each minimiser owns exactly one residue class of `n = rand.Int()`. -/
theorem C04_random_nth (bs : List B) (cs : List Nat) (n : Nat) (h : leastConns bs = some cs) :
    (wlc .randomTie bs n).1 = cs[n % cs.length]? := by
  rw [wlc, h]
  obtain _ | ⟨c, _ | ⟨d, t⟩⟩ := cs
  · rfl
  · -- `[c]`: no draw
    rw [List.length_singleton, Nat.mod_one]
    rfl
  · rfl

/-- so the `k` residue classes of `C04_random_nth` belong to `k` different backends -/
theorem C04_candidates_nodup (bs : List B) (cs : List Nat) (h : leastConns bs = some cs) : cs.Nodup :=
  leastConns_some h ▸ List.nodup_range.filter _

/-! Non-vacuity: exact rational ties 2/400 = 3/600 beat 1/100, the unavailable and the weight-0 one. -/
def ex1 : List B :=
  [⟨100, 100, 1, true⟩, ⟨400, 400, 2, true⟩, ⟨600, 600, 3, true⟩, ⟨300, 300, 0, false⟩, ⟨0, 0, 0, true⟩]
example : leastConns ex1 = some [1, 2] := by decide
example : (wlc .smoothTie ex1 0).1 = some 2 := by decide
example : (wlc .randomTie ex1 7).1 = some 2 := by decide
example : IsMin ex1 1 := (C04_oracle_sound ex1 1).mp (by decide)
example : ¬ IsMin ex1 0 := fun h => absurd ((C04_oracle_sound ex1 0).mpr h) (by decide)
example : leastConns [⟨100, 100, 0, false⟩, ⟨-100, -100, 0, true⟩] = none := by decide

end BfeVerif.C04
