import BfeVerif.C12.Model
/-! C12: `firstMatch` is a `find?`; `lookupCluster` depends on `basic` only through `basic.join`; under `WF` the
    advanced part is the specification's (`advancedPart_toOption`). -/
namespace BfeVerif.C12

theorem firstMatch_eq_find (rules : List Rule) :
    firstMatch rules = ((rules.find? (fun r => r.cond)).map (fun r => r.cluster)).getD "" := by
  induction rules with
  | nil => rfl
  | cons r rs ih =>
    unfold firstMatch
    by_cases h : r.cond <;> simp [h, List.find?, ih]

/-- here `some none` (`Get`: not found) and `none` (no basic tree) merge -/
theorem lookupCluster_eq_match_join (basic : Basic) (adv : Option (List Rule)) :
    lookupCluster basic adv =
      match basic.join with
      | some c => if c = advancedMode then advancedPart adv else .cluster c
      | none => advancedPart adv := by
  rcases basic with _ | _ | c
  · rfl
  · rfl
  · by_cases h : c = advancedMode <;> simp [lookupCluster, h]

theorem lookupCluster_falls_through (basic : Basic) (adv : Option (List Rule))
    (hb : basic.join = none ∨ basic.join = some advancedMode) : lookupCluster basic adv = advancedPart adv := by
  rw [lookupCluster_eq_match_join]
  rcases hb with hb | hb <;> rw [hb]
  exact if_pos rfl

theorem advancedPart_no_match (adv : Option (List Rule)) (hn : ∀ r ∈ adv.getD [], r.cond = false) :
    advancedPart adv = if adv.isSome then .errNoMatchRule else .errNoProductRule := by
  cases adv with
  | none => rfl
  | some rules =>
    have : rules.find? (fun r => r.cond) = none :=
      List.find?_eq_none.mpr fun r hr => by rw [hn r hr]; exact Bool.false_ne_true
    rw [advancedPart, firstMatch_eq_find, this]
    rfl

theorem Res.clusterName_of_not_ok (res : Res) (h : res.isOk = false) : res.clusterName = "" := by
  cases res with
  | cluster c => cases h
  | errNoProductRule | errNoMatchRule => rfl

theorem wfB_iff (rules : List Rule) : wfB rules = true ↔ WF rules := by
  unfold wfB WF
  simp [List.all_eq_true]

theorem advancedPart_toOption (adv : Option (List Rule)) (hwf : WF (adv.getD [])) :
    (advancedPart adv).toOption = specAdvanced (adv.getD []) := by
  cases adv with
  | none => simp [advancedPart, Res.toOption, specAdvanced]
  | some rules =>
    simp only [advancedPart, Option.getD_some, specAdvanced] at hwf ⊢
    rw [firstMatch_eq_find]
    cases hf : rules.find? (fun r => r.cond) with
    | none => simp [Res.toOption]
    | some r =>
      have hne : r.cluster ≠ "" := hwf r (List.mem_of_find?_eq_some hf)
      simp [Res.toOption, hne]

end BfeVerif.C12
