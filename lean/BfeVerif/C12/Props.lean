import BfeVerif.C12.Proofs
import BfeVerif.C12.ComposeProofs
import BfeVerif.C10.Props
import BfeVerif.C11.Props
import BfeVerif.C12.FullProofs
/-! C12 — cluster lookup combines basic and advanced rules as documented. -/
namespace BfeVerif.C12

/-- Refinement: for every basic-table answer and every advanced table with non-empty cluster names,
    `LookupCluster`'s destination is exactly the documented one (basic hit on a real cluster, else the
    first advanced rule in order whose condition holds, else none). -/
theorem C12_refines (basic : Basic) (adv : Option (List Rule)) (hwf : WF (adv.getD [])) :
    (lookupCluster basic adv).toOption = specLookup basic.join (adv.getD []) := by
  rw [lookupCluster_eq_match_join]
  unfold specLookup
  cases basic.join with
  | none => exact advancedPart_toOption adv hwf
  | some c =>
    dsimp only
    split
    · exact advancedPart_toOption adv hwf
    · rfl

/-- A basic hit naming a real cluster decides, whatever the advanced table contains. -/
theorem C12_basic_wins (c : String) (adv : Option (List Rule)) (h : c ≠ advancedMode) :
    lookupCluster (some (some c)) adv = .cluster c := by
  simp [lookupCluster, h]

/-- `ADVANCED_MODE`, a basic miss and a product without basic tree all hand over to the advanced table. -/
theorem C12_adv_mode_falls_through (adv : Option (List Rule)) :
    lookupCluster (some (some advancedMode)) adv = advancedPart adv ∧
    lookupCluster (some none) adv = advancedPart adv ∧
    lookupCluster none adv = advancedPart adv := by
  simp [lookupCluster]

/-- The advanced answer is the cluster of the index-minimal satisfied rule. -/
theorem C12_first_match (rules : List Rule) (c : String) (hwf : WF rules)
    (h : advancedPart (some rules) = .cluster c) :
    ∃ i, ∃ hi : i < rules.length, rules[i].cond = true ∧ rules[i].cluster = c ∧
      ∀ j, ∀ hj : j < rules.length, j < i → rules[j].cond = false := by
  have hs := advancedPart_toOption (some rules) hwf
  rw [h] at hs
  obtain ⟨r, hf, hrc⟩ := Option.map_eq_some_iff.mp hs.symm
  obtain ⟨hc, i, hi, rfl, hlt⟩ := List.find?_eq_some_iff_getElem.mp hf
  exact ⟨i, hi, hc, hrc, fun j hj hji => by simpa using hlt j hji⟩

/-- If no advanced condition holds (or the product has no advanced table) and the basic table does not
    decide, the request gets an error and `ClusterName` is empty: it is not forwarded. -/
theorem C12_no_match_error (basic : Basic) (adv : Option (List Rule))
    (hb : basic.join = none ∨ basic.join = some advancedMode)
    (hn : ∀ r ∈ adv.getD [], r.cond = false) :
    (lookupCluster basic adv).isOk = false ∧ (lookupCluster basic adv).clusterName = "" ∧
    (lookupCluster basic adv = .errNoMatchRule ∨ lookupCluster basic adv = .errNoProductRule) := by
  rw [lookupCluster_falls_through basic adv hb, advancedPart_no_match adv hn]
  cases adv with
  | none => exact ⟨rfl, rfl, .inr rfl⟩
  | some rules => exact ⟨rfl, rfl, .inl rfl⟩

/-- Every error leaves `ClusterName` empty (nothing to forward to). -/
theorem C12_error_not_forwarded (basic : Basic) (adv : Option (List Rule))
    (h : (lookupCluster basic adv).isOk = false) : (lookupCluster basic adv).clusterName = "" :=
  Res.clusterName_of_not_ok _ h

/-- The hypothesis `WF` of `C12_refines` is needed: the code turns a *matching* rule whose cluster name
    is the empty string into `ErrNoMatchRule` (and does not look at later rules). -/
theorem C12_witness_empty_cluster :
    ¬ ∀ (basic : Basic) (adv : Option (List Rule)),
        (lookupCluster basic adv).toOption = specLookup basic.join (adv.getD []) := by
  intro h
  have := h none (some [⟨true, ""⟩, ⟨true, "c"⟩])
  revert this; decide +kernel

/-- C12 ∘ C18 (end to end): when the advanced conditions are trees over primitives the C18 model covers
    (every condition evaluates), `LookupCluster` with the MODELLED condition values sends the request to the
    basic hit naming a real cluster, else to the first rule in order whose condition holds on the request,
    else nowhere. -/
theorem C12_compose_C18 (o : C18.Orc) (basic : Basic) (es : List ERule) (r : C18.Req)
    (hev : ∀ e ∈ es, (eval o r e.cond).isSome = true) (hwf : ∀ e ∈ es, e.cluster ≠ "") :
    ∃ res, lookupClusterE o basic (some es) r = some res ∧ res.toOption = specLookupE o basic.join es r := by
  have hwf' : WF ((some (es.map (bit o r))).getD []) := fun b hbm => by
    obtain ⟨e, he, rfl⟩ := List.mem_map.mp hbm
    exact hwf e he
  refine ⟨_, by rw [lookupClusterE, bitsOf_eq_map o r es hev]; rfl, ?_⟩
  rw [C12_refines basic _ hwf', specLookupE_eq]
  rfl

/-- … and for condition trees over the primitives whose C18 model is proved equal to the documentation
    (C18's list `unconditional`: path, method, cookie, query-key, tag, IP-range … primitives), "holds" is the
    DOCUMENTED meaning of the condition. -/
theorem C12_compose_documented (o : C18.Orc) (r : C18.Req) (c : Cond) (h : c.overProved) : eval o r c = evalSpec o r c := by
  induction c with
  | tt => rfl
  | prim n a0 a1 f => exact C18.C18_unconditional n h o a0 a1 f r
  | not c ih => rw [eval, evalSpec, ih h]
  | and a b iha ihb => rw [eval, evalSpec, iha h.1, ihb h.2]; rfl
  | or a b iha ihb => rw [eval, evalSpec, iha h.1, ihb h.2]; rfl

/-- C12 ∘ C11 (end to end on the basic side): for every basic rule file the loader accepts and every request host
    and path, `LookupCluster` fed with the answer of the basic TREE (C11's radix-contract model, port stripped
    first) sends the request to the rule the DOCUMENTED basic precedence selects (`C11.specLookupBasic`) when that
    names a real cluster, else to the first advanced rule in order whose condition holds, else nowhere. -/
theorem C12_compose_C11 (rules : List C11.Rule) (hok : C11.loadOk rules = true) (host path : List Char)
    (adv : Option (List Rule)) (hwf : WF (adv.getD [])) :
    (lookupCluster (some (C11.lookupBasic ((C11.expand rules).map C11.flat) host path)) adv).toOption =
      specLookup (C11.specLookupBasic (C11.expand rules) host path) (adv.getD []) := by
  rw [C12_refines _ adv hwf, C11.C11_lookup_refines rules hok host path]
  rfl

/-- C12 ∘ C11 ∘ C18: nothing taken from the implementation — basic answer from the C11 model, condition values
    from the C18 model. -/
theorem C12_compose_C11_C18 (o : C18.Orc) (rules : List C11.Rule) (hok : C11.loadOk rules = true)
    (host path : List Char) (es : List ERule) (r : C18.Req)
    (hev : ∀ e ∈ es, (eval o r e.cond).isSome = true) (hwf : ∀ e ∈ es, e.cluster ≠ "") :
    ∃ res, lookupClusterE o (some (C11.lookupBasic ((C11.expand rules).map C11.flat) host path)) (some es) r = some res ∧
      res.toOption = specLookupE o (C11.specLookupBasic (C11.expand rules) host path) es r := by
  obtain ⟨res, h1, h2⟩ := C12_compose_C18 o (some (C11.lookupBasic ((C11.expand rules).map C11.flat) host path)) es r hev hwf
  refine ⟨res, h1, ?_⟩
  rw [h2, C11.C11_lookup_refines rules hok host path]
  rfl

/-- The whole route through one loaded configuration (`HostTable.Lookup`): for a well-formed host table (`C10.WF`), a
    request host that is not a bracketed IPv6 literal, loader-accepted basic rules and advanced rules with non-empty
    cluster names (what C12's own `WF` asks of `Rule`s) whose conditions C18 models,
    the product is the documented one (host table > VIP > default) and the cluster is the documented one for THAT
    product's tables (documented basic precedence, else first matching advanced rule, else none). -/
theorem C12_full_lookup (lc : Char → Char) (o : C18.Orc) (c : Conf) (q : Query)
    (hwf : C10.WF lc c.entries) (hb : (C10.lower lc q.host).head? ≠ some '[')
    (hbasic : ∀ p pr rules, c.routes.lookup p = some pr → pr.basic = some rules → C11.loadOk rules = true)
    (hadv : ∀ p pr es, c.routes.lookup p = some pr → pr.adv = some es →
      (∀ e ∈ es, (eval o q.req e.cond).isSome = true) ∧ (∀ e ∈ es, e.cluster ≠ "")) :
    ∃ res, fullLookup lc o c q = some res ∧
      res.map (fun x => (x.1, x.2.toOption)) = fullSpec lc o c q := by
  unfold fullLookup fullSpec
  rw [C10.C10_chain_partial lc c.entries c.vipTable c.dflt q.host q.vip hwf hb]
  cases C10.specLookup lc c.entries c.vipTable c.dflt q.host q.vip with
  | none => exact ⟨none, rfl, rfl⟩
  | some r =>
    dsimp only
    -- from here on only the route of `r.product` matters
    have hbasic := hbasic r.product
    have hadv := hadv r.product
    generalize c.routes.lookup r.product = pr at hbasic hadv ⊢
    -- the basic answer joins to the documented one, by C11
    have hbas : (basicOf pr q).join = specBasicOf pr q := by
      unfold basicOf specBasicOf
      cases hbs : pr.bind (·.basic) with
      | none => rfl
      | some rules =>
        obtain ⟨p, hpr, hrs⟩ := Option.bind_eq_some_iff.mp hbs
        exact C11.C11_lookup_refines rules (hbasic p rules hpr hrs) q.host (q.path.getD [])
    rw [← hbas]
    -- no advanced table: nothing is evaluated; else `C12_compose_C18`
    cases hadvo : pr.bind (·.adv) with
    | none =>
      refine ⟨some (r, lookupCluster (basicOf pr q) none), rfl, ?_⟩
      simp only [Option.map_some, Option.getD_none, specLookupE_eq]
      rw [C12_refines _ none fun _ hx => absurd hx List.not_mem_nil]
      rfl
    | some es =>
      obtain ⟨p, hpr, hes⟩ := Option.bind_eq_some_iff.mp hadvo
      obtain ⟨hev, hne⟩ := hadv p es hpr hes
      obtain ⟨res, h1, h2⟩ := C12_compose_C18 o (basicOf pr q) es q.req hev hne
      refine ⟨some (r, res), by simp [h1], ?_⟩
      simp only [Option.map_some, Option.getD_some, h2]

/-- Reload histories: after ANY sequence of reloads (same object), fresh loads (new object) and queries, the
    current tables are those of the LAST ACCEPTED configuration — a rejected reload (undecodable file, loader
    error, failed cross-file check) changes nothing, a query changes nothing, nothing of earlier configurations
    survives an accepted one. -/
theorem C12_history_last_accepted (s : HState) (steps : List Step) :
    (runSteps s steps).cur =
      match (steps.filterMap accepts).getLast? with
      | some c => some c
      | none => s.cur := by
  induction steps generalizing s with
  | nil => rfl
  | cons st rest ih =>
    rw [runSteps, List.foldl_cons, ← runSteps, ih (step s st), List.filterMap_cons]
    cases ha : accepts st with
    | none => rw [step_rejected s st ha]
    | some c =>
      dsimp only
      rw [List.getLast?_cons, step_accepted s st c ha]
      cases (rest.filterMap accepts).getLast? <;> rfl

/-- `accepts st = none`: a reload or fresh load that fails its checks, or a query. -/
theorem C12_rejected_reload_changes_nothing (s : HState) (st : Step) (h : accepts st = none) : step s st = s :=
  step_rejected s st h

/-- The object replaced by an accepted fresh load keeps ITS tables: a request still holding it is answered from
    the old configuration, whatever is loaded into the new object afterwards by reloads. -/
theorem C12_held_tables_stable (s : HState) (c : Conf) (h : (c.loadOk && c.checkOk) = true) (later : List Conf) :
    (runSteps (step s (.fresh c)) (later.map Step.reload)).held = s.cur := by
  rw [runSteps_held _ _ fun st hst c' => by
    obtain ⟨x, _, rfl⟩ := List.mem_map.mp hst
    exact Step.noConfusion]
  exact congrArg HState.held (if_pos h)

/-! non-vacuity: the documented example of route.md (www.c.com → ADVANCED_MODE → Demo-D1 / Demo-D / Demo-E) -/
example : WF [⟨false, "Demo-D1"⟩, ⟨true, "Demo-D"⟩, ⟨true, "Demo-E"⟩] := (wfB_iff _).mp (by decide)
example : lookupCluster (some (some advancedMode)) (some [⟨false, "Demo-D1"⟩, ⟨true, "Demo-D"⟩, ⟨true, "Demo-E"⟩])
    = .cluster "Demo-D" := by decide +kernel
example : lookupCluster (some (some "Demo-A")) (some [⟨true, "Demo-E"⟩]) = .cluster "Demo-A" := by decide +kernel
example : lookupCluster (some none) (some [⟨false, "x"⟩]) = .errNoMatchRule := by decide +kernel
example : lookupCluster none none = .errNoProductRule := by decide +kernel

/-- end-to-end example: `req_path_prefix_in("/a", false) -> A ; default_t() -> E` behind an ADVANCED_MODE basic hit -/
def exRules : List ERule :=
  [⟨.prim "req_path_prefix_in" [47, 97] [] false, "A"⟩, ⟨.tt, "E"⟩]
def exOrc : C18.Orc :=
  { x := { regexOk := fun _ => true, parseIP := fun _ => none, parseTime := fun _ => none, sscanf6 := fun _ => none },
    reMatch := fun _ _ => false, bucket := fun _ => 0 }
def exReq (p : List UInt8) : C18.Req :=
  { host := [], path := p, method := [71, 69, 84], query := [], headers := [], cookies := [],
    tags := [], cip := none, vip := none }
example : lookupClusterE exOrc (some (some advancedMode)) (some exRules) (exReq [47, 97, 47, 98]) = some (.cluster "A") := by decide +kernel
example : lookupClusterE exOrc (some (some advancedMode)) (some exRules) (exReq [47, 98]) = some (.cluster "E") := by decide +kernel
example : ∀ e ∈ exRules, (eval exOrc (exReq [47, 98]) e.cond).isSome = true := by decide +kernel

/-- the shape of seeded change C12-b: `*` and `*.foo.com` in one product, request two labels below foo.com —
    the documented precedence (and the tree model) give the any-host rule, not a miss -/
def starRules : List C11.Rule :=
  [⟨["*".toList], ["*".toList], "ANY"⟩, ⟨["*.foo.com".toList], ["*".toList], "FOO"⟩]
-- literals under `.toList` are read as character lists first: the kernel is slow to decode their UTF-8 bytes
example : C11.loadOk starRules = true := by
  unfold starRules
  repeat rewrite [String.toList_ofList]
  decide +kernel
example : lookupCluster (some (C11.lookupBasic ((C11.expand starRules).map C11.flat) "a.img.foo.com:80".toList "/".toList))
    (some [⟨true, "ADV"⟩]) = .cluster "ANY" := by
  unfold starRules
  repeat rewrite [String.toList_ofList]
  decide +kernel
example : lookupCluster (some (C11.lookupBasic ((C11.expand starRules).map C11.flat) "img.foo.com".toList "/".toList))
    (some [⟨true, "ADV"⟩]) = .cluster "FOO" := by
  unfold starRules
  repeat rewrite [String.toList_ofList]
  decide +kernel

end BfeVerif.C12
