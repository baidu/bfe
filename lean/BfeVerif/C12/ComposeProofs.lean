import BfeVerif.C12.Compose
import BfeVerif.C18.Props
/-! C12: when every condition evaluates, `bitsOf` is a map, and the composed specification is `specLookup` on the same
    bits (for `C12_compose_C18`); then the notions in which `C12_compose_documented` is stated: `Cond.overProved`,
    `evalSpec`. -/
namespace BfeVerif.C12

/-- the rule `LookupCluster` sees for `e` -/
def bit (o : C18.Orc) (r : C18.Req) (e : ERule) : Rule := ⟨eval o r e.cond == some true, e.cluster⟩

theorem bitsOf_eq_map (o : C18.Orc) (r : C18.Req) (es : List ERule) (hev : ∀ e ∈ es, (eval o r e.cond).isSome = true) :
    bitsOf o r es = some (es.map (bit o r)) := by
  induction es with
  | nil => rfl
  | cons e es ih =>
    obtain ⟨b, hb⟩ := Option.isSome_iff_exists.mp (hev e List.mem_cons_self)
    rw [bitsOf, ih fun x hx => hev x (List.mem_cons_of_mem e hx), List.map_cons, bit, hb]
    cases b <;> rfl

theorem specLookupE_eq (o : C18.Orc) (b : Option String) (es : List ERule) (r : C18.Req) :
    specLookupE o b es r = specLookup b (es.map (bit o r)) := by
  -- `List.find?_map` composes the predicate with the bit
  simp only [specLookup, specLookupE, specAdvanced, List.find?_map, Option.map_map]
  cases b <;> rfl

/-- condition trees over primitives whose C18 model is PROVED equal to the documented meaning -/
def provedPrims : List String := C18.unconditional

def Cond.overProved : Cond → Prop
  | .tt => True
  | .prim n _ _ _ => n ∈ provedPrims
  | .not c => c.overProved
  | .and a b => a.overProved ∧ b.overProved
  | .or a b => a.overProved ∧ b.overProved

/-- the documented meaning of a condition tree (C18's `specPrim`) -/
def evalSpec (o : C18.Orc) (r : C18.Req) : Cond → Option Bool
  | .tt => some true
  | .prim n a0 a1 f => C18.specPrim o n a0 a1 f r
  | .not c => (evalSpec o r c).map (!·)
  | .and a b => match evalSpec o r a, evalSpec o r b with
    | some x, some y => some (x && y)
    | _, _ => none
  | .or a b => match evalSpec o r a, evalSpec o r b with
    | some x, some y => some (x || y)
    | _, _ => none

end BfeVerif.C12
