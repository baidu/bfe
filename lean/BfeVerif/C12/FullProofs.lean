import BfeVerif.C12.Full
/-! C12: what a step installs (`accepts`); `cur` and `held` after a step and a run. -/
namespace BfeVerif.C12

/-- the conf a step installs, if it is accepted -/
def accepts : Step → Option Conf
  | .reload c => if c.loadOk then some c else none
  | .fresh c => if c.loadOk && c.checkOk then some c else none
  | .query _ _ => none

theorem step_rejected (s : HState) (st : Step) (h : accepts st = none) : step s st = s := by
  cases st with
  | reload c | fresh c => exact if_neg fun hc => by rw [accepts, if_pos hc] at h; cases h
  | query hd q => rfl

theorem step_accepted (s : HState) (st : Step) (c : Conf) (h : accepts st = some c) : (step s st).cur = some c := by
  cases st with
  | reload c' | fresh c' =>
    rw [accepts] at h
    split at h
    · next hc => exact (congrArg HState.cur (if_pos hc)).trans h
    · cases h
  | query hd q => cases h

theorem step_held (s : HState) (st : Step) (h : ∀ c, st ≠ .fresh c) : (step s st).held = s.held := by
  cases st with
  | reload c =>
    rw [step]
    split <;> rfl
  | fresh c => exact absurd rfl (h c)
  | query hd q => rfl

theorem runSteps_held (s : HState) (steps : List Step) (h : ∀ st ∈ steps, ∀ c, st ≠ .fresh c) :
    (runSteps s steps).held = s.held :=
  List.foldlRecOn (motive := fun b => b.held = s.held) steps step rfl
    fun b hb st hst => (step_held b st (h st hst)).trans hb

end BfeVerif.C12
