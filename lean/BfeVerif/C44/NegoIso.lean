import BfeVerif.C41.Model
import BfeVerif.C44.Nego
/-!
  The negotiation model of `Nego.lean` and C41's `Model.lean` are the same model: `to41` maps each type of the one onto
  the type of the same name of the other, and every function commutes with it (`*_to41`, up to
  `readClientHello_to41`).  So whatever C41 proves of `C41.readClientHello` holds of `readClientHello` here: apply the
  C41 theorem to `to41_ok hr`.  A function of `cfg`, `h` without recursion whose result has a type both models share
  (`Nat`, `Bool`, `String`, lists of them) needs no lemma: `C41.f cfg.to41 h.to41` unfolds to `f cfg h`.  One of `rule`
  does (`gradeOf_to41` ..): `rule.map Rule.to41` is stuck until `rule` is split.

  The constants and the suite table of `Generated.C44` and `Generated.C41` are compared by unfolding (the `rfl`s below);
  both are extracted from the same source files, and a tree on which the two extractions differ stops the build here.
-/
namespace BfeVerif.C44

def Suite.to41 (s : Suite) : C41.Suite := ⟨s.id, s.flags⟩
def Rule.to41 (r : Rule) : C41.Rule := ⟨r.grade, r.clientAuth, r.chacha20, r.nextProtos⟩
def Config.to41 (c : Config) : C41.Config :=
  ⟨c.minVersionRaw, c.maxVersionRaw, c.cipherSuitesRaw, c.priority, c.preferServer, c.ssl3PoodleProofed,
    c.ticketsDisabled, c.cacheEnabled, c.nextProtos, c.clientAuth, c.curvePrefsRaw, c.hasCert, c.certEcdsa⟩
def Session.to41 (s : Session) : C41.Session := ⟨s.vers, s.suite, s.hasCerts⟩
def Hello.to41 (h : Hello) : C41.Hello :=
  ⟨h.vers, h.suites, h.compression, h.curves, h.points, h.alpn, h.npn, h.ticketSupported, h.ticketPresent,
    h.sessionIdPresent⟩
def Lookups.to41 (l : Lookups) : C41.Lookups := ⟨l.ticket.map Session.to41, l.cache.map Session.to41⟩
def Alert.to41 : Alert → C41.Alert
  | .protocolVersion => .protocolVersion
  | .handshakeFailure => .handshakeFailure
  | .internalError => .internalError
  | .inappropriateFallback => .inappropriateFallback
def RC4Mode.to41 : RC4Mode → C41.RC4Mode
  | .disable => .disable
  | .enable => .enable
  | .only => .only
def Params.to41 (p : Params) : C41.Params :=
  ⟨p.resume, p.vers, p.suite.to41, p.alpn, p.clientProto, p.npn, p.clientAuth, p.ecdheNoExt, p.sess.map Session.to41⟩

theorem Suite.to41_inj {a b : Suite} (hab : a.to41 = b.to41) : a = b := by
  cases a; cases b; cases hab; rfl

theorem Session.to41_inj {a b : Session} (hab : a.to41 = b.to41) : a = b := by
  cases a; cases b; cases hab; rfl

abbrev Try.to41 (t : Option (Suite × Nat)) : Option (C41.Suite × Nat) := t.map fun p => (p.1.to41, p.2)

variable {cfg : Config} {rule : Option Rule} {h : Hello} {lk : Lookups} {p : Params}
  {v id : Nat} {e ec ch : Bool} {rc : RC4Mode} {s : Suite} {try_ : Nat → Option (Suite × Nat)}

theorem table_to41 : table.map Suite.to41 = C41.table := rfl

theorem lookupSuite_to41 : C41.lookupSuite id = (lookupSuite id).map Suite.to41 := by
  rw [C41.lookupSuite, ← table_to41, List.find?_map]; rfl

theorem suiteOk_to41 : C41.suiteOk s.to41 v e ec ch rc.to41 = suiteOk s v e ec ch rc := by
  cases rc <;> rfl

theorem tryLoop_to41 (sup : List Nat) (i : Nat) :
    C41.tryLoop id v e ec ch rc.to41 sup i = Try.to41 (tryLoop id v e ec ch rc sup i) := by
  induction sup generalizing i with
  | nil => rfl
  | cons a rest ih =>
    unfold tryLoop C41.tryLoop
    rw [lookupSuite_to41]
    cases lookupSuite id with
    | none => simp only [Option.map_none, ih, ite_self]
    | some c => simp only [Option.map_some, suiteOk_to41, ih, apply_ite Try.to41]

theorem tryCipherSuite_to41 (sup : List Nat) :
    C41.tryCipherSuite id sup v e ec ch rc.to41 = Try.to41 (tryCipherSuite id sup v e ec ch rc) :=
  tryLoop_to41 sup 0

theorem pickLoop_to41 (ids : List Nat) (cur : Option Suite) :
    C41.pickLoop (fun id => Try.to41 (try_ id)) ids (cur.map Suite.to41) = (pickLoop try_ ids cur).map Suite.to41 := by
  induction ids generalizing cur with
  | nil => rfl
  | cons a rest ih =>
    unfold pickLoop C41.pickLoop
    cases try_ a with
    | none => exact ih none
    | some t => rfl

theorem pickLoopEcdhe_to41 (ids : List Nat) (cur : Option Suite) :
    C41.pickLoopEcdhe (fun id => Try.to41 (try_ id)) ids (cur.map Suite.to41) =
      (pickLoopEcdhe try_ ids cur).map Suite.to41 := by
  induction ids generalizing cur with
  | nil => rfl
  | cons a rest ih =>
    unfold pickLoopEcdhe C41.pickLoopEcdhe
    rw [apply_ite (Option.map Suite.to41), ih cur]
    cases try_ a with
    | none => exact congrArg _ (ih none)
    | some t => rfl

abbrev Sel.to41 (t : Option (Suite × Nat × Nat)) : Option (C41.Suite × Nat × Nat) := t.map fun p => (p.1.to41, p.2)

theorem equivStep_to41 (so id : Nat) (sel : Option (Suite × Nat × Nat)) :
    C41.equivStep (fun id => Try.to41 (try_ id)) so id (Sel.to41 sel) = Sel.to41 (equivStep try_ so id sel) := by
  unfold equivStep C41.equivStep
  dsimp only
  cases try_ id with
  | none => rfl
  | some t =>
    cases sel with
    | none => rfl
    | some u => rw [apply_ite Sel.to41]; rfl

theorem equivLoop_to41 (l : List (Nat × Nat)) (sel : Option (Suite × Nat × Nat)) :
    C41.equivLoop (fun id => Try.to41 (try_ id)) l (Sel.to41 sel) = Sel.to41 (equivLoop try_ l sel) := by
  induction l generalizing sel with
  | nil => rfl
  | cons a rest ih =>
    unfold equivLoop C41.equivLoop
    rw [equivStep_to41]
    cases equivStep try_ a.1 a.2 sel with
    | none => exact ih none
    | some u => rw [apply_ite Sel.to41, ← ih]; rfl

theorem negotiateEquivalent_to41 (prio ids : List Nat) :
    C41.negotiateEquivalent (fun id => Try.to41 (try_ id)) prio ids =
      (negotiateEquivalent try_ prio ids).map Suite.to41 := by
  unfold negotiateEquivalent C41.negotiateEquivalent
  rw [show (none : Option (C41.Suite × Nat × Nat)) = Sel.to41 none from rfl, equivLoop_to41, Option.map_map, Option.map_map]
  rfl

theorem sessionLookup_to41 :
    C41.sessionLookup cfg.to41 h.to41 lk.to41 = (sessionLookup cfg h lk).map Session.to41 := by
  simp only [sessionLookup, apply_ite (Option.map Session.to41)]; rfl

theorem checkForResumption_to41 {cv ca : Nat} :
    C41.checkForResumption cfg.to41 h.to41 lk.to41 cv ca e ec ch rc.to41 =
      (checkForResumption cfg h lk cv ca e ec ch rc).map fun p => (p.1.to41, p.2.to41) := by
  unfold checkForResumption C41.checkForResumption
  rw [sessionLookup_to41]
  cases sessionLookup cfg h lk with
  | none => rfl
  | some st =>
    dsimp only [Option.map_some]
    rw [apply_ite (Option.map _), apply_ite (Option.map _)]
    refine ite_congr rfl (fun _ => rfl) fun _ => ite_congr rfl (fun _ => rfl) fun _ => ?_
    rw [show C41.tryCipherSuite st.to41.suite cfg.to41.cipherSuites st.to41.vers e ec ch rc.to41 =
      Try.to41 (tryCipherSuite st.suite cfg.cipherSuites st.vers e ec ch rc) from tryCipherSuite_to41 _]
    cases tryCipherSuite st.suite cfg.cipherSuites st.vers e ec ch rc with
    | none => rfl
    | some t => rw [apply_ite (Option.map _)]; rfl

theorem firstPick_to41 :
    C41.firstPick cfg.to41 h.to41 v e ec ch rc.to41 = (firstPick cfg h v e ec ch rc).map Suite.to41 := by
  unfold firstPick C41.firstPick
  simp only [tryCipherSuite_to41, apply_ite (Option.map Suite.to41)]
  exact congr (congrArg _ (negotiateEquivalent_to41 ..)) (pickLoop_to41 _ none)

theorem fallbackPick_to41 :
    C41.fallbackPick cfg.to41 h.to41 v ec ch rc.to41 = (fallbackPick cfg h v ec ch rc).map Suite.to41 := by
  unfold fallbackPick C41.fallbackPick
  simp only [tryCipherSuite_to41, apply_ite (Option.map Suite.to41)]
  exact congrArg (ite _ · _) (pickLoopEcdhe_to41 _ none)

theorem checkCipherGrade_to41 (g : String) :
    C41.checkCipherGrade cfg.to41 g v = (checkCipherGrade cfg g v).to41 := by
  simp only [checkCipherGrade, apply_ite RC4Mode.to41]; rfl

theorem gradeOf_to41 : C41.gradeOf (rule.map Rule.to41) = gradeOf rule := by cases rule <;> rfl
theorem chachaOf_to41 : C41.chachaOf (rule.map Rule.to41) = chachaOf rule := by cases rule <;> rfl
theorem clientAuthOf_to41 : C41.clientAuthOf cfg.to41 (rule.map Rule.to41) = clientAuthOf cfg rule := by
  cases rule <;> rfl
theorem nextProtosOf_to41 : C41.nextProtosOf cfg.to41 (rule.map Rule.to41) = nextProtosOf cfg rule := by
  cases rule <;> rfl

/-- no `to41` in sight, but `rfl` does not unfold a recursion on the variable `s` -/
theorem mutualProtocol_to41 (c s : List String) : C41.mutualProtocol c s = mutualProtocol c s := by
  induction s with
  | nil => rfl
  | cons a rest ih => unfold mutualProtocol C41.mutualProtocol; rw [ih]

theorem alpnChoice_to41 (protos : List String) : C41.alpnChoice h.to41 protos = alpnChoice h protos := by
  unfold alpnChoice C41.alpnChoice; rw [mutualProtocol_to41]; rfl

theorem mkParams_to41 {r x : Bool} {o : Option Session} :
    C41.mkParams cfg.to41 (rule.map Rule.to41) h.to41 v s.to41 r x (o.map Session.to41) =
      (mkParams cfg rule h v s r x o).to41 := by
  simp only [C41.mkParams, nextProtosOf_to41, clientAuthOf_to41, alpnChoice_to41]; rfl

def Res.to41 : Except Alert Params → Except C41.Alert C41.Params
  | .ok p => .ok p.to41
  | .error a => .error a.to41

theorem readClientHello_to41 :
    C41.readClientHello cfg.to41 (rule.map Rule.to41) h.to41 lk.to41 = Res.to41 (readClientHello cfg rule h lk) := by
  unfold readClientHello C41.readClientHello
  -- the `show .. from rfl` rewrites make both sides name the same term, so that one `cases` splits both
  rw [show C41.mutualVersion cfg.to41 h.to41.vers = mutualVersion cfg h.vers from rfl]
  cases mutualVersion cfg h.vers with
  | none => rfl
  | some v0 =>
    dsimp only
    rw [gradeOf_to41, show C41.checkVersionGrade v0 (gradeOf rule) = checkVersionGrade v0 (gradeOf rule) from rfl]
    cases checkVersionGrade v0 (gradeOf rule) with
    | none => rfl
    | some v =>
      dsimp only
      rw [chachaOf_to41, clientAuthOf_to41, checkCipherGrade_to41, checkForResumption_to41, firstPick_to41,
        fallbackPick_to41, apply_ite Res.to41, apply_ite Res.to41,
        show (C41.supportedCurveOf cfg.to41 h.to41 && C41.supportedPointOf h.to41) =
          (supportedCurveOf cfg h && supportedPointOf h) from rfl, show cfg.to41.certEcdsa = cfg.certEcdsa from rfl]
      refine ite_congr rfl (fun _ => rfl) fun _ => ite_congr rfl (fun _ => rfl) fun _ => ?_
      -- the three selections as variables: the case split below then works on a small goal
      generalize checkForResumption cfg h lk v _ _ _ _ _ = res
      generalize firstPick cfg h v _ _ _ _ = first
      generalize fallbackPick cfg h v _ _ _ = fallback
      cases res with
      | some t => exact congrArg Except.ok (mkParams_to41 (o := some t.2))
      | none =>
        cases first with
        | some s =>
          dsimp only [Option.map_some]
          rw [apply_ite Res.to41]
          exact ite_congr rfl (fun _ => rfl) fun _ => congrArg Except.ok (mkParams_to41 (o := none))
        | none =>
          cases fallback with
          | none => rfl
          | some s =>
            dsimp only [Option.map_some]
            rw [apply_ite Res.to41]
            exact ite_congr rfl (fun _ => rfl) fun _ => congrArg Except.ok (mkParams_to41 (o := none))

theorem to41_ok (hr : readClientHello cfg rule h lk = .ok p) :
    C41.readClientHello cfg.to41 (rule.map Rule.to41) h.to41 lk.to41 = .ok p.to41 := by
  rw [readClientHello_to41, hr]; rfl

end BfeVerif.C44
