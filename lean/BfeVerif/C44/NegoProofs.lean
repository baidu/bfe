import BfeVerif.C41.Proofs
import BfeVerif.C41.Select
import BfeVerif.C44.NegoIso
import BfeVerif.C44.NegoSelect
/-! The predicates in which the negotiation properties are stated, and C41's lemmas carried over along `to41`. -/
namespace BfeVerif.C44
open BfeVerif.Generated.C44

/-- what the grade demands of the protocol version (ssllabs rule quoted in common.go) -/
def GradeAllows (grade : String) (v : Nat) : Prop :=
  (grade = gradeA → versionTLS10 ≤ v) ∧ (grade = gradeAPlus → versionTLS12 ≤ v)

/-- the client-certificate part of the resumption decision -/
def ClientCertOk (clientAuth : Nat) (st : Session) : Prop :=
  ((clientAuth = requireAnyClientCert ∨ clientAuth = requireAndVerifyClientCert) → st.hasCerts = true) ∧
  (clientAuth = noClientCert → st.hasCerts = false)

/-- the client's ECC extensions, where present, are compatible with the server's curves / point format
    (RFC 4492 §4: a client that sends neither extension accepts any curve; not under SSL 3.0) -/
def EccCompat (cfg : Config) (h : Hello) (v : Nat) : Prop :=
  (supportedCurveOf cfg h = true ∨ h.curves = []) ∧ (supportedPointOf h = true ∨ h.points = []) ∧
  ((h.curves = [] ∨ h.points = []) → versionSSL30 < v)

-- `lookup` and `C41.lookup` unfold to the same term
theorem lookup_of_mem_nodup {α : Type} (key : String → String) (l : List (String × α)) (k : String) (v : α)
    (hnd : (l.map fun p => key p.1).Nodup) (hm : (k, v) ∈ l) :
    lookup (l.map fun p => (key p.1, p.2)) (key k) = some v :=
  C41.lookup_of_mem_nodup key l k v hnd hm

theorem lookup_none_of_forall {α : Type} (l : List (String × α)) (k : String) (h : ∀ p ∈ l, p.1 ≠ k) :
    lookup l k = none :=
  C41.lookup_none_of_forall l k h

variable {cfg : Config} {rule : Option Rule} {h : Hello} {lk : Lookups} {p : Params}

theorem readClientHello_resumed (hr : readClientHello cfg rule h lk = .ok p) (hres : p.resume = true) :
    ∃ st, p.sess = some st ∧ sessionLookup cfg h lk = some st ∧ st.vers = p.vers ∧ st.suite = p.suite.id ∧
      ClientCertOk (clientAuthOf cfg rule) st := by
  -- the source fact that spares `C44_policy` and `C44_keeps_params` a hypothesis on versions; NegoIso's `rfl`s tie
  -- `Generated.C44`'s constant to this one
  have hsameVersion : Generated.C41.resumeRequiresSameVersion = true := by decide
  obtain ⟨st', hs', hl, hv, hsu, hcc⟩ := C41.readClientHello_resumed hsameVersion (to41_ok hr) hres
  obtain ⟨st, hs, rfl⟩ := Option.map_eq_some_iff.mp hs'
  rw [sessionLookup_to41, ← Option.map_some, Option.map_inj_right fun _ _ => Session.to41_inj] at hl
  exact ⟨st, hs, hl, hv, hsu, clientAuthOf_to41 ▸ hcc⟩

end BfeVerif.C44
