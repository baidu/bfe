import BfeVerif.C41.Props
import BfeVerif.C44.NegoProofs
/-!
  The negotiation properties of C41/Props.lean for the model of `Nego.lean` (theorems `nego_*`, used as lemmas by
  C44/Props.lean): TLS negotiation picks mutually supported parameters and resists downgrade.  Each is the C41 theorem
  carried over along `to41` (NegoIso.lean); the witnesses and examples run this model itself.
  All are about `readClientHello` of `Nego.lean`, i.e. about the decisions taken before any key exchange; key exchange,
  record protection and "application data flows" are executed by the harness, not modelled.

  The facts regenerated from the source that C41's proofs rest on (`scsvUsesEffectiveMax`: the SCSV test compares against
  `maxVersion()`; `resumeRequiresSameVersion`: a session of another version is not resumed) enter through those proofs.
-/
namespace BfeVerif.C44
open BfeVerif.Generated.C44

/-- **Version, upper part and grade.** -/
theorem nego_version_upper {cfg : Config} {rule : Option Rule} {h : Hello} {lk : Lookups} {p : Params}
    (hr : readClientHello cfg rule h lk = .ok p) :
    p.vers ≤ cfg.maxVersion ∧ p.vers ≤ h.vers ∧ GradeAllows (gradeOf rule) p.vers :=
  gradeOf_to41 ▸ C41.C41_version_upper (to41_ok hr)

/-- The full statement also demands `cfg.minVersion ≤ p.vers`.  It fails for a configuration whose range is
    inverted (`MinVersion > MaxVersion`): `mutualVersion` clamps to the maximum after testing the minimum. -/
def nego_version_lower_statement : Prop :=
  ∀ (cfg : Config) (rule : Option Rule) (h : Hello) (lk : Lookups) (p : Params),
    readClientHello cfg rule h lk = .ok p → cfg.minVersion ≤ p.vers

theorem nego_version_lower_partial {cfg : Config} {rule : Option Rule} {h : Hello} {lk : Lookups} {p : Params}
    (hwf : cfg.minVersion ≤ cfg.maxVersion)
    (hr : readClientHello cfg rule h lk = .ok p) : cfg.minVersion ≤ p.vers :=
  C41.C41_version_lower_partial (cfg := cfg.to41) hwf (to41_ok hr)

def wCfg : Config :=
  { minVersionRaw := 0, maxVersionRaw := 0, cipherSuitesRaw := none, priority := [], preferServer := false,
    ssl3PoodleProofed := false, ticketsDisabled := false, cacheEnabled := false, nextProtos := [],
    clientAuth := 0, curvePrefsRaw := [], hasCert := true, certEcdsa := false }

def wHello : Hello :=
  { vers := 0x0303, suites := [0x002f], compression := [0], curves := [], points := [], alpn := [], npn := false,
    ticketSupported := false, ticketPresent := false, sessionIdPresent := false }

def wNoLookups : Lookups := { ticket := none, cache := none }

/-- witness (corpus/C41/known.ops): MinVersion = TLS1.2, MaxVersion = TLS1.0, hello TLS1.2 → TLS1.0 is negotiated -/
theorem nego_witness_inverted_range : ¬ nego_version_lower_statement := fun hall =>
  absurd (hall { wCfg with minVersionRaw := 0x0303, maxVersionRaw := 0x0301 } none wHello wNoLookups _ rfl) (by decide)

structure SuiteAcceptable (cfg : Config) (rule : Option Rule) (h : Hello) (v : Nat) (s : Suite) : Prop where
  inTable : s ∈ table
  ecdhe : s.has suiteECDHE = true → EccCompat cfg h v
  certType : s.has suiteECDSA = cfg.certEcdsa
  tls12 : s.has suiteTLS12 = true → versionTLS12 ≤ v
  chacha : s.has suiteChacha20 = true → chachaOf rule = true
  rc4off : s.has suiteRC4 = true → checkCipherGrade cfg (gradeOf rule) v ≠ .disable
  rc4only : checkCipherGrade cfg (gradeOf rule) v = .only → s.has suiteRC4 = true

theorem SuiteAcceptable.of41 {cfg : Config} {rule : Option Rule} {h : Hello} {v : Nat} {s : Suite}
    (a : C41.SuiteAcceptable cfg.to41 (rule.map Rule.to41) h.to41 v s.to41) : SuiteAcceptable cfg rule h v s := by
  have hg : C41.checkCipherGrade cfg.to41 (C41.gradeOf (rule.map Rule.to41)) v =
      (checkCipherGrade cfg (gradeOf rule) v).to41 := by rw [gradeOf_to41, checkCipherGrade_to41]
  obtain ⟨s', hm, he⟩ := List.mem_map.mp (table_to41 ▸ a.inTable)
  exact ⟨Suite.to41_inj he ▸ hm, a.ecdhe, a.certType, a.tls12, chachaOf_to41 ▸ a.chacha,
    fun hb hd => a.rc4off hb (by rw [hg, hd]; rfl), fun ho => a.rc4only (by rw [hg, ho]; rfl)⟩

/-- **Cipher suite**, on full and resumed handshakes alike. -/
theorem nego_suite {cfg : Config} {rule : Option Rule} {h : Hello} {lk : Lookups} {p : Params}
    (hr : readClientHello cfg rule h lk = .ok p) :
    p.suite.id ∈ h.suites ∧ p.suite.id ∈ cfg.cipherSuites ∧ SuiteAcceptable cfg rule h p.vers p.suite := by
  exact (C41.C41_suite (to41_ok hr)).imp id (.imp id .of41)

def nego_alpn_statement : Prop :=
  ∀ (cfg : Config) (rule : Option Rule) (h : Hello) (lk : Lookups) (p : Params),
    readClientHello cfg rule h lk = .ok p → p.alpn ≠ "" →
    p.alpn ∈ h.alpn ∧ p.alpn ∈ nextProtosOf cfg rule

/-- **ALPN, what the code guarantees.**  The protocol in the ServerHello is either mutual, or it is the literal
    "http/1.1" that `validateHttp2Accepted` substitutes for a mutually offered "h2" when the suite or version
    is not acceptable for HTTP/2 — whether or not anybody offered "http/1.1". -/
theorem nego_alpn_partial {cfg : Config} {rule : Option Rule} {h : Hello} {lk : Lookups} {p : Params}
    (hr : readClientHello cfg rule h lk = .ok p) (hne : p.alpn ≠ "") :
    (p.alpn ∈ h.alpn ∧ p.alpn ∈ nextProtosOf cfg rule) ∨
    (p.alpn = "http/1.1" ∧ "h2" ∈ h.alpn ∧ "h2" ∈ nextProtosOf cfg rule ∧
      (http2Accepted.contains p.suite.id = false ∨ p.vers < versionTLS12)) := by
  exact nextProtosOf_to41 ▸ C41.C41_alpn_partial (to41_ok hr) hne

/-- The clean conclusion under the hypothesis that excludes the substitution defect. -/
theorem nego_alpn_when_http11_mutual {cfg : Config} {rule : Option Rule} {h : Hello} {lk : Lookups} {p : Params}
    (hr : readClientHello cfg rule h lk = .ok p) (hne : p.alpn ≠ "")
    (hyp : ("h2" ∈ h.alpn ∧ "h2" ∈ nextProtosOf cfg rule) → ("http/1.1" ∈ h.alpn ∧ "http/1.1" ∈ nextProtosOf cfg rule)) :
    p.alpn ∈ h.alpn ∧ p.alpn ∈ nextProtosOf cfg rule := by
  rcases nego_alpn_partial hr hne with hm | ⟨he, h1, h2, _⟩
  · exact hm
  · rw [he]; exact hyp ⟨h1, h2⟩

/-- witness (corpus/C41/known.ops): client offers only "h2" and only a CBC suite, server list is h2,http/1.1:
    the ServerHello carries "http/1.1", which the client never offered. -/
theorem nego_witness_alpn : ¬ nego_alpn_statement := fun hall =>
  absurd (hall { wCfg with nextProtos := ["h2", "http/1.1"] } none { wHello with alpn := ["h2"] } wNoLookups _
    rfl (by decide)) (by decide)

/-- The full SCSV statement (RFC 7507 §3). -/
def nego_scsv_statement : Prop :=
  ∀ (cfg : Config) (rule : Option Rule) (h : Hello) (lk : Lookups) (p : Params),
    fallbackSCSV ∈ h.suites → h.vers < cfg.maxVersion → readClientHello cfg rule h lk ≠ .ok p

/-- **SCSV, full handshakes (including a server that leaves MaxVersion at its default).**  Such a hello is
    accepted only on the resumption path; every full handshake is refused. -/
theorem nego_scsv_partial {cfg : Config} {rule : Option Rule} {h : Hello} {lk : Lookups} {p : Params}
    (hs : fallbackSCSV ∈ h.suites) (hv : h.vers < cfg.maxVersion)
    (hr : readClientHello cfg rule h lk = .ok p) : p.resume = true := by
  exact C41.C41_scsv_partial hs hv (to41_ok hr)

/-- … in particular, with no session to resume the hello is refused whatever else it contains. -/
theorem nego_scsv_no_session {cfg : Config} {rule : Option Rule} {h : Hello} {p : Params}
    (hs : fallbackSCSV ∈ h.suites) (hv : h.vers < cfg.maxVersion) :
    readClientHello cfg rule h { ticket := none, cache := none } ≠ .ok p := by
  intro hr
  obtain ⟨st, -, hl, -⟩ := readClientHello_resumed hr (nego_scsv_partial hs hv hr)
  simp only [sessionLookup, ite_self, reduceCtorEq] at hl

/-- witness (corpus/C41/known.ops): TLS1.0 hello with SCSV and a valid TLS1.0 ticket against a default
    (TLS1.2) server is resumed instead of refused: the SCSV test sits after `checkForResumption`. -/
theorem nego_witness_scsv_resume : ¬ nego_scsv_statement := by
  intro hall
  exact hall wCfg none
    { wHello with vers := 0x0301, suites := [0x002f, 0x5600], ticketSupported := true, ticketPresent := true }
    { ticket := some ⟨0x0301, 0x002f, false⟩, cache := none } _ (by decide) (by decide) rfl

/-! Non-vacuity (run by the kernel): a full handshake, an SCSV refusal, the ECDHE fallback, a full handshake with ALPN;
    an accepted resumption is the hello of `nego_witness_scsv_resume`. -/
example : readClientHello wCfg none wHello wNoLookups =
    .ok (mkParams wCfg none wHello 0x0303 ⟨0x002f, 0⟩ false false none) := rfl
example : readClientHello wCfg none { wHello with vers := 0x0302, suites := [0x002f, 0x5600] } wNoLookups
    = .error .inappropriateFallback := rfl
example : readClientHello wCfg none { wHello with suites := [0xc013] } wNoLookups =
    .ok (mkParams wCfg none { wHello with suites := [0xc013] } 0x0303 ⟨0xc013, 1⟩ false true none) := rfl
example : (readClientHello { wCfg with nextProtos := ["h2", "http/1.1"] } (some ⟨"A+", false, true, ["h2", "http/1.1"]⟩)
    { wHello with suites := [0xcca8, 0xc02f], curves := [23], points := [0], alpn := ["http/1.1", "h2"] } wNoLookups).toOption.map
      (fun p => (p.alpn, p.suite.id, p.resume)) = some ("h2", 0xcca8, false) := by decide +kernel

end BfeVerif.C44
