import BfeVerif.C44.Proofs
import BfeVerif.C44.NegoProps
import BfeVerif.C44.NegoServe
/-!
  C44 — session resumption cannot be forged or used to bypass policy.  Property theorems only.

  Cryptographic strength is a HYPOTHESIS here, never a result: `C44_authentic` assumes that a tag which verifies
  under the server's MAC key exists only on bodies that the holder of that key MACed (`Unforgeable`), which is
  what HMAC-SHA256 is believed to provide; secrecy of the master secret inside the ticket (AES-CTR) is not
  stated at all.  What IS proved: the code checks the tag over everything but the tag before it decrypts or
  parses anything, a ticket that verifies decrypts to exactly the state that was sealed, and the decision
  list of `checkForResumption` keeps the session's parameters and re-applies the current policy.
-/
namespace BfeVerif.C44
open BfeVerif.Generated.C44

/-- **The MAC is checked first.**  A ticket whose tag does not verify is refused whatever the decryption
    primitive and the parser would have made of it (`decryptTicket` never reaches them). -/
theorem C44_mac_first (C : Crypto) (key t : List UInt8) (h : macValid C key t = false) :
    decryptTicket C key t = none :=
  Option.eq_none_iff_forall_ne_some.mpr fun _ hd => Bool.noConfusion ((macValid_of_decrypt hd).symm.trans h)

/-- … and the verdict does not depend on the decryption primitive at all. -/
theorem C44_mac_first_indep (C C' : Crypto) (key t : List UInt8) (hh : C.hmac = C'.hmac)
    (h : macValid C key t = false) : decryptTicket C' key t = none := by
  apply C44_mac_first
  unfold macValid at h ⊢
  rw [← hh]; exact h

theorem C44_short_refused (C : Crypto) (key t : List UInt8) (h : t.length < 48) : decryptTicket C key t = none := by
  unfold decryptTicket ivLen macLen
  simp [h]

/-- **A ticket this server sealed is honoured, with exactly the sealed state** (functional correctness;
    needs only: CTR with equal key and IV is an involution, tags are 32 bytes). -/
theorem C44_roundtrip {C : Crypto} (hl : Laws C) (key iv : List UInt8) (s : SessionState)
    (hiv : iv.length = 16) (hs : WF s) : decryptTicket C key (encryptTicket C key iv s) = some s :=
  decrypt_encrypt hl key iv s hiv hs

/-- The ideal-MAC hypothesis for one presented ticket `t`: if its tag verifies under the server's MAC key,
    then its body is one of the bodies the server MACed — and the server MACs only inside `encryptTicket`,
    i.e. the bodies of the tickets it `issued` (state, IV). -/
def Unforgeable (C : Crypto) (key : List UInt8) (issued : List (SessionState × List UInt8)) (t : List UInt8) : Prop :=
  macValid C key t = true → ∃ p ∈ issued, bodyOf t = ticketBody C key p.2 p.1

/-- **Authenticity (under the ideal-MAC hypothesis).**  Whatever byte string is presented — bit-flipped,
    truncated, extended, spliced, sealed under another key — if `decryptTicket` accepts it then it is, byte for
    byte, a ticket this server issued, and the state handed to the handshake is the state that was sealed. -/
theorem C44_authentic {C : Crypto} (hl : Laws C) (key : List UInt8) (issued : List (SessionState × List UInt8))
    (hissued : ∀ p ∈ issued, WF p.1 ∧ p.2.length = 16)
    (t : List UInt8) (hunf : Unforgeable C key issued t)
    {s : SessionState} (hd : decryptTicket C key t = some s) :
    ∃ p ∈ issued, t = encryptTicket C key p.2 p.1 ∧ s = p.1 := by
  have hv := macValid_of_decrypt hd
  obtain ⟨p, hp, hbody⟩ := hunf hv
  have ht : t = encryptTicket C key p.2 p.1 := by
    rw [split_ticket t, beq_iff_eq.mp hv, hbody]; rfl
  have hdec := C44_roundtrip hl key p.2 p.1 (hissued p hp).2 (hissued p hp).1
  rw [← ht, hd] at hdec
  exact ⟨p, hp, ht, Option.some.inj hdec⟩

theorem C44_marshal_injective {s s' : SessionState} (h : WF s) (h' : WF s') (e : marshal s = marshal s') : s = s' := by
  have a := unmarshal_marshal s h
  have b := unmarshal_marshal s' h'
  rw [e, b] at a
  exact (Option.some.inj a).symm

/-- **A resumed connection keeps the session's parameters**: the state resumed is the one from the presented ticket or
    from the cache entry of the presented session id (never a mix), and the master secret `doResumeHandshake` installs
    is that state's. -/
theorem C44_keeps_params {C : Crypto} {key : List UInt8} {cfg : Config} {rule : Option Rule} {h : Hello}
    {ticket : List UInt8} {entry : Option (List UInt8)} {r : Resumption}
    (hr : resume C key cfg rule h ticket entry = .ok r) (hres : r.params.resume = true) :
    ∃ st, r.state = some st ∧
      stateLookup cfg h (decryptTicket C key ticket) (entry.bind unmarshal) = some st ∧
      r.params.vers = st.vers ∧ r.params.suite.id = st.suite ∧ r.master = st.master ∧
      st.suite ∈ h.suites ∧ st.suite ∈ cfg.cipherSuites ∧ st.vers ≤ h.vers ∧
      st.vers ≤ cfg.maxVersion := by
  obtain ⟨st, hstate, hl, hmaster, hv, hs, -⟩ := resume_resumed hr hres
  have ⟨hcl, hsrv, _⟩ := nego_suite (resume_ok hr).1
  have ⟨hmax, hle, _⟩ := nego_version_upper (resume_ok hr).1
  rw [← hs] at hcl hsrv
  rw [← hv] at hmax hle
  exact ⟨st, hstate, hl, hv.symm, hs.symm, hmaster, hcl, hsrv, hle, hmax⟩

/-- **Resumption never skips a client-certificate requirement** of the policy in force for this connection (the rule's
    `ClientAuth` forces RequireAndVerifyClientCert). -/
theorem C44_client_cert {C : Crypto} {key : List UInt8} {cfg : Config} {rule : Option Rule} {h : Hello}
    {ticket : List UInt8} {entry : Option (List UInt8)} {r : Resumption}
    (hr : resume C key cfg rule h ticket entry = .ok r) (hres : r.params.resume = true) :
    ∃ st, r.state = some st ∧
      ((clientAuthOf cfg rule = requireAnyClientCert ∨ clientAuthOf cfg rule = requireAndVerifyClientCert) → st.certs ≠ []) ∧
      (clientAuthOf cfg rule = noClientCert → st.certs = []) := by
  obtain ⟨st, hstate, -, -, -, -, hcc⟩ := resume_resumed hr hres
  exact ⟨st, hstate, fun hneed => by simpa [toSession] using hcc.1 hneed,
    fun hno => by simpa [toSession] using hcc.2 hno⟩

/-- **The resumed parameters satisfy the CURRENT configuration and rule**, not the ones in force when the session
    was issued.
    (Without extra hypothesis because of `resumeRequiresSameVersion`: the connection's version is the session's.) -/
theorem C44_policy {C : Crypto} {key : List UInt8} {cfg : Config} {rule : Option Rule} {h : Hello}
    {ticket : List UInt8} {entry : Option (List UInt8)} {r : Resumption}
    (hr : resume C key cfg rule h ticket entry = .ok r) (hres : r.params.resume = true) :
    ∃ st, r.state = some st ∧ GradeAllows (gradeOf rule) st.vers ∧
      (cfg.minVersion ≤ cfg.maxVersion → cfg.minVersion ≤ st.vers) ∧
      ∃ su, su.id = st.suite ∧ SuiteAcceptable cfg rule h st.vers su := by
  obtain ⟨st, hstate, -, -, hv, hs, -⟩ := resume_resumed hr hres
  have hrch := (resume_ok hr).1
  refine ⟨st, hstate, ?_⟩
  rw [hv]
  exact ⟨(nego_version_upper hrch).2.2, fun hwf => nego_version_lower_partial hwf hrch, _, hs.symm, (nego_suite hrch).2.2⟩

/-- The pre-fix behaviour, kept as a checked fact about the source: the version test is the equality test. -/
theorem C44_fact_resume_same_version : resumeRequiresSameVersion = true := by decide

/-- **Cache: what was stored is what is found, until it expires.** -/
theorem C44_cache_get_put (c : List CacheEntry) (pfx id : String) (v : List UInt8) (now ttl now' : Nat) :
    cacheGet (cachePut c pfx id v now ttl) pfx id now' = if now' < now + ttl then some v else none := by
  unfold cacheGet cachePut
  simp

/-- **Cache isolation.**  A `Put` / deletion under another key (another session id, or another server's prefix)
    does not change what a `Get` returns. -/
theorem C44_cache_other_key (c : List CacheEntry) (pfx id pfx' id' : String) (v : List UInt8) (now ttl now' : Nat)
    (h : cacheKey pfx' id' ≠ cacheKey pfx id) :
    cacheGet (cachePut c pfx' id' v now ttl) pfx id now' = cacheGet c pfx id now' := by
  rw [← cacheGet_cacheDel_ne c pfx id now' h] -- `cachePut` conses onto what `cacheDel` leaves
  simp only [cacheGet, cachePut, cacheDel, List.find?_cons, beq_false_of_ne h]

theorem C44_cache_deleted (c : List CacheEntry) (pfx id : String) (now : Nat) :
    cacheGet (cacheDel c (cacheKey pfx id)) pfx id now = none := by
  unfold cacheGet cacheDel
  rw [List.find?_eq_none.mpr fun e he => by simpa using (List.mem_filter.mp he).2]

/-- **Stored client certificates are judged again, now.**  When a session that carries client certificates is resumed,
    `doResumeHandshake` succeeds only if the stored chain parses, is not revoked and has a usable key; and under a
    verifying policy (VerifyClientCertIfGiven, RequireAndVerifyClientCert — which a rule's ClientAuth forces) only if
    the chain verifies against the CA pool of the CURRENT connection and lists the ClientAuth usage.  A CA change
    between issue and resume therefore ends the resumed handshake with bad_certificate. -/
theorem C44_resume_reverifies {policy : Nat} {c : StoredCert} {v : Bool}
    (h : resumeCertStep policy (some c) = .ok v) :
    c.parses = true ∧ c.revoked = false ∧ c.keyOk = true ∧
    (verifyClientCertIfGiven ≤ policy → c.chainOk = true ∧ c.ekuListed = true ∧ v = true) := by
  unfold resumeCertStep at h
  obtain ⟨hparses, h⟩ := C41.ite_error_eq_ok h
  obtain ⟨hrevoked, h⟩ := C41.ite_error_eq_ok h
  obtain ⟨hchain, h⟩ := C41.ite_error_eq_ok h
  obtain ⟨heku, h⟩ := C41.ite_error_eq_ok h
  obtain ⟨hkey, h⟩ := C41.ite_error_eq_ok h
  cases h
  simp only [Bool.and_eq_true, decide_eq_true_eq, Bool.not_eq_true', not_and, Bool.not_eq_false, ge_iff_le,
    Bool.not_eq_true] at hparses hrevoked hchain heku hkey
  exact ⟨hparses, hrevoked, hkey, fun hp => ⟨hchain hp, heku hp, decide_eq_true hp⟩⟩

example : resumeCertStep 4 (some ⟨true, false, false, true, true⟩) = .error 42 := rfl
example : resumeCertStep 4 (some ⟨true, false, true, true, true⟩) = .ok true := rfl
example : resumeCertStep 2 (some ⟨true, false, false, true, true⟩) = .ok false := rfl

/-- **One key; replacing it retires every ticket.**  A server accepts a ticket only if it is byte-for-byte one it
    sealed under its CURRENT key (ideal-MAC hypothesis, as in `C44_authentic`) … -/
theorem C44_rotation {C : Crypto} (hl : Laws C) (srv : TicketServer)
    (hissued : ∀ p ∈ srv.issued, WF p.1 ∧ p.2.length = 16)
    (t : List UInt8) (hunf : Unforgeable C srv.key srv.issued t) {s : SessionState}
    (hd : srv.accept C t = some s) : ∃ p ∈ srv.issued, t = encryptTicket C srv.key p.2 p.1 ∧ s = p.1 :=
  C44_authentic hl srv.key srv.issued hissued t hunf hd

/-- … so right after `UpdateSessionTicketKey` (nothing sealed under the new key yet) every presented ticket — in
    particular every ticket of the previous key — is refused: bfe has no list of old keys that are still accepted. -/
theorem C44_rotation_refuses_old (C : Crypto) (srv : TicketServer) (newKey t : List UInt8)
    (hunf : Unforgeable C newKey [] t) : (srv.rotate newKey).accept C t = none :=
  Option.eq_none_iff_forall_ne_some.mpr fun _ hd =>
    have ⟨_, hp, _⟩ := hunf (macValid_of_decrypt hd)
    absurd hp List.not_mem_nil

theorem C44_issue_then_accept {C : Crypto} (hl : Laws C) (srv : TicketServer) (s : SessionState) (iv : List UInt8)
    (hiv : iv.length = 16) (hs : WF s) : ((srv.issue C s iv).1).accept C (srv.issue C s iv).2 = some s := by
  unfold TicketServer.issue TicketServer.accept
  exact C44_roundtrip hl srv.key iv s hiv hs

theorem C44_fact_issue_negotiated :
    ticketStoresNegotiatedVersion = true ∧ cacheStoresNegotiatedVersion = true := by decide

/-- **The stored session is the negotiated one**: version and suite of that connection, not what the client offered. -/
theorem C44_issue_stores_negotiated (viaTicket : Bool) (helloVers : Nat) (p : Params) (m : List UInt8)
    (cs : List (List UInt8)) :
    issueState viaTicket helloVers p m cs = { vers := p.vers, suite := p.suite.id, master := m, certs := cs } := by
  unfold issueState issuedVersion
  rw [C44_fact_issue_negotiated.1, C44_fact_issue_negotiated.2]
  cases viaTicket <;> rfl

/-- **Issue, reconfigure, resume.**  A connection is negotiated by a full handshake (hello₁ under config₁ / rule₁) and its
    ticket is later presented in hello₂ to a server holding the same ticket key under ANY other config₂ / rule₂ (version
    range, suites, grade … changed).  If that server resumes, the resumed connection has the version, suite and master
    secret of the FIRST connection — whatever the client offered then or offers now. -/
theorem C44_issue_then_resume_keeps {C : Crypto} (hl : Laws C) (key iv : List UInt8) (hiv : iv.length = 16)
    {cfg₁ cfg₂ : Config} {rule₁ rule₂ : Option Rule} {h₁ h₂ : Hello} {lk₁ : Lookups} {p₁ : Params}
    (_hfull : readClientHello cfg₁ rule₁ h₁ lk₁ = .ok p₁)
    (m : List UInt8) (cs : List (List UInt8)) (hwf : WF (issueState true h₁.vers p₁ m cs))
    {r : Resumption}
    (hr : resume C key cfg₂ rule₂ h₂ (encryptTicket C key iv (issueState true h₁.vers p₁ m cs)) none = .ok r)
    (hres : r.params.resume = true) :
    r.params.vers = p₁.vers ∧ r.params.suite.id = p₁.suite.id ∧ r.master = m := by
  have hk := resume_sealed hl hiv hwf hr hres
  rwa [C44_issue_stores_negotiated] at hk

/-- **The policy that a resumption must meet is the one of the SNI (and VIP) presented NOW.**  With the production rule map
    as `Config.ServerRule`, a session — wherever and under whichever server name it was issued — is resumed on a connection
    presenting `sni` only if its version is allowed by the grade of the rule configured for `sni`, and, when that rule
    demands client certificates, only if the session carries them. -/
theorem C44_resume_under_presented_sni (t : RuleTable Rule) (cfg : Config) (vip : Option String) (sni : String)
    (h : Hello) (lk : Lookups) (p : Params)
    (hs : serve t cfg vip sni h lk = .ok p) (hres : p.resume = true) :
    GradeAllows (getRule t vip sni).grade p.vers ∧
    ((getRule t vip sni).clientAuth = true → ∃ st, p.sess = some st ∧ st.hasCerts = true) := by
  have hf : serverNameSetBeforeLookups = true := by decide
  have hr : readClientHello cfg (some (getRule t vip sni)) h lk = .ok p := by
    unfold serve nameSeenByLookups at hs; rw [hf] at hs; exact hs
  refine ⟨(nego_version_upper hr).2.2, fun hca => ?_⟩
  obtain ⟨st, hsess, -, -, -, hcc⟩ := readClientHello_resumed hr hres
  have hpol : clientAuthOf cfg (some (getRule t vip sni)) = requireAndVerifyClientCert := by
    unfold clientAuthOf; simp [hca]
  exact ⟨st, hsess, hcc.1 (Or.inr hpol)⟩

/-! Non-vacuity: a concrete history that resumes, and the forms of refusal. -/
def xorC (ks : List UInt8) : Crypto :=
  { ctr := fun _ _ d => (d.zip (ks ++ List.replicate d.length 0)).map fun p => p.1 ^^^ p.2,
    hmac := fun _ m => List.replicate 31 0 ++ [m.foldl (· + ·) 0] }   -- a toy checksum, only to run the definitions

def wState : SessionState := { vers := 0x0303, suite := 0x002f, master := [1, 2, 3], certs := [] }
def wKey : List UInt8 := List.replicate 32 7
def wIv : List UInt8 := List.replicate 16 9
def wTicket : List UInt8 := encryptTicket (xorC [5, 6, 7]) wKey wIv wState

example : WF wState := ⟨by decide, by decide, by decide, by decide, by intro c hc; cases hc⟩
example : decryptTicket (xorC [5, 6, 7]) wKey wTicket = some wState := by decide +kernel
example : decryptTicket (xorC [5, 6, 7]) wKey (wTicket.dropLast) = none := by decide +kernel
example : decryptTicket (xorC [5, 6, 7]) wKey (wTicket.set 16 0) = none := by decide +kernel
example : decryptTicket (xorC [5, 6, 7]) wKey (wTicket.set (wTicket.length - 1) 0) = none := by decide +kernel
example : (resume (xorC [5, 6, 7]) wKey wCfg none
      { wHello with ticketSupported := true, ticketPresent := true } wTicket none).toOption.map
      (fun r => (r.params.resume, r.params.vers, r.params.suite.id, r.master)) = some (true, 0x0303, 0x002f, [1, 2, 3]) := by decide +kernel
example : (resume (xorC [5, 6, 7]) wKey wCfg (some ⟨"C", true, false, []⟩)
      { wHello with ticketSupported := true, ticketPresent := true } wTicket none).toOption.map
      (fun r => r.params.resume) = some false := by decide +kernel

end BfeVerif.C44
