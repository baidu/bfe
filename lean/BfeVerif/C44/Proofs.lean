import BfeVerif.C44.Model
import BfeVerif.C44.NegoProofs
/-! Lemmas for C44 (core Lean only): the byte codecs round-trip (`unmarshal_marshal`), so does ticket sealing
    (`decrypt_encrypt`); inversion of `resume`; the bridge from `stateLookup` to the negotiation model's `sessionLookup`. -/
namespace BfeVerif.C44

theorem byteOf_toNat (n : Nat) : (byteOf n).toNat = n % 256 := by
  unfold byteOf; simp [UInt8.toNat_ofNat']

theorem be16_bytes_mod (n : Nat) : be16 (byteOf (n / 256)) (byteOf n) = n % 65536 := by
  unfold be16
  rw [byteOf_toNat, byteOf_toNat, Nat.mod_mul (a := 256) (b := 256), Nat.mul_comm, Nat.add_comm]

theorem be16_bytes (n : Nat) (h : n < 65536) : be16 (byteOf (n / 256)) (byteOf n) = n := by
  rw [be16_bytes_mod, Nat.mod_eq_of_lt h]

theorem be32_bytes (n : Nat) (h : n < 4294967296) :
    be32 (byteOf (n / 16777216)) (byteOf (n / 65536)) (byteOf (n / 256)) (byteOf n) = n := by
  have be32_eq_be16 (a b c d : UInt8) : be32 a b c d = be16 a b * 65536 + be16 c d := by
    simp only [be32, be16, Nat.add_mul, Nat.mul_assoc, Nat.add_assoc, Nat.reduceMul]
  rw [be32_eq_be16, be16_bytes_mod, ← Nat.div_div_eq_div_mul n 65536 256, be16_bytes_mod,
    Nat.mod_eq_of_lt (Nat.div_lt_of_lt_mul h), Nat.div_add_mod']

/-- a session state whose lengths fit the fields of the serialisation -/
structure WF (s : SessionState) : Prop where
  vers : s.vers < 65536
  suite : s.suite < 65536
  master : s.master.length < 65536
  ncerts : s.certs.length < 65536
  certs : ∀ c ∈ s.certs, c.length < 4294967296

/-- the length tests of `readCerts` and `unmarshal` on what `marshal` wrote -/
theorem not_length_append_lt {α : Type} (a b : List α) : ¬ (a ++ b).length < a.length := by
  rw [List.length_append]; exact Nat.not_lt.mpr (Nat.le_add_right ..)

theorem readCerts_marshalCerts (cs : List (List UInt8)) (rest : List UInt8)
    (h : ∀ c ∈ cs, c.length < 4294967296) :
    readCerts cs.length (marshalCerts cs ++ rest) = some (cs, rest) := by
  induction cs with
  | nil => rfl
  | cons c tl ih =>
    rw [List.forall_mem_cons] at h
    simp only [marshalCerts, List.length_cons, List.cons_append, List.nil_append, List.append_assoc, readCerts,
      be32_bytes _ h.1, not_length_append_lt, if_false, List.drop_left, List.take_left, ih h.2]

theorem unmarshal_marshal (s : SessionState) (hwf : WF s) : unmarshal (marshal s) = some s := by
  have hc := readCerts_marshalCerts s.certs [] hwf.certs
  rw [List.append_nil] at hc
  unfold unmarshal marshal
  simp only [List.cons_append, List.nil_append, List.append_assoc, be16_bytes _ hwf.master, not_length_append_lt,
    if_false, List.drop_left, List.take_left, be16_bytes _ hwf.ncerts, hc, be16_bytes _ hwf.vers, be16_bytes _ hwf.suite]
  -- left: the first test, `data.length < 8`
  rw [if_neg (by simp only [List.length_cons, List.length_append]; omega)]

/-- the two laws of the primitives that functional correctness needs (not security assumptions):
    CTR with the same key and IV is an involution; an HMAC-SHA256 tag has 32 bytes -/
structure Laws (C : Crypto) : Prop where
  ctr_invol : ∀ k iv d, C.ctr k iv (C.ctr k iv d) = d
  hmac_len : ∀ k m, (C.hmac k m).length = macLen

theorem bodyOf_append {b t : List UInt8} (ht : t.length = macLen) : bodyOf (b ++ t) = b := by
  unfold bodyOf; rw [List.length_append, ht]; simp

theorem tagOf_append {b t : List UInt8} (ht : t.length = macLen) : tagOf (b ++ t) = t := by
  unfold tagOf; rw [List.length_append, ht]; simp

theorem decrypt_encrypt {C : Crypto} (hl : Laws C) (key iv : List UInt8) (s : SessionState)
    (hiv : iv.length = ivLen) (hs : WF s) :
    decryptTicket C key (encryptTicket C key iv s) = some s := by
  have hm := hl.hmac_len (key.drop 16) (ticketBody C key iv s)
  have hlen : ¬ (ticketBody C key iv s ++ C.hmac (key.drop 16) (ticketBody C key iv s)).length < ivLen + macLen := by
    rw [List.length_append, hm, ticketBody, List.length_append, hiv]; omega
  rw [decryptTicket, encryptTicket, if_neg hlen, macValid, tagOf_append hm, bodyOf_append hm]
  simp only [beq_self_eq_true, Bool.not_true, Bool.false_eq_true, if_false, ticketBody, List.append_assoc, ← hiv,
    List.take_left, List.drop_left, hl.ctr_invol, unmarshal_marshal s hs]

theorem macValid_of_decrypt {C : Crypto} {key t : List UInt8} {s : SessionState}
    (hd : decryptTicket C key t = some s) : macValid C key t = true := by
  simp only [decryptTicket, Option.ite_none_left_eq_some, Bool.not_eq_true', Bool.not_eq_false] at hd
  exact hd.2.1

theorem split_ticket (t : List UInt8) : t = bodyOf t ++ tagOf t := by
  unfold bodyOf tagOf; simp

theorem resume_ok {C : Crypto} {key : List UInt8} {cfg : Config} {rule : Option Rule} {h : Hello}
    {ticket : List UInt8} {entry : Option (List UInt8)} {r : Resumption}
    (hr : resume C key cfg rule h ticket entry = .ok r) :
    readClientHello cfg rule h { ticket := (decryptTicket C key ticket).map toSession,
                                 cache := (entry.bind unmarshal).map toSession } = .ok r.params ∧
    (r.params.resume = true →
      r.state = stateLookup cfg h (decryptTicket C key ticket) (entry.bind unmarshal) ∧
      r.master = (match r.state with | some s => s.master | none => [])) := by
  unfold resume at hr
  simp only at hr
  split at hr
  · cases hr
  · rename_i p hp
    split at hr
    · rename_i hres
      cases hr
      exact ⟨hp, fun _ => ⟨rfl, rfl⟩⟩
    · rename_i hres
      cases hr
      exact ⟨hp, fun ht => absurd ht hres⟩

theorem sessionLookup_map (cfg : Config) (h : Hello) (a b : Option SessionState) :
    sessionLookup cfg h { ticket := a.map toSession, cache := b.map toSession } =
      (stateLookup cfg h a b).map toSession := by
  simp only [sessionLookup, stateLookup, apply_ite (Option.map toSession), Option.map_none]

/-- the state `checkForResumption` accepted is the one from the presented ticket or cache entry (`stateLookup`), and
    `doResumeHandshake` installs its master secret -/
theorem resume_resumed {C : Crypto} {key : List UInt8} {cfg : Config} {rule : Option Rule} {h : Hello}
    {ticket : List UInt8} {entry : Option (List UInt8)} {r : Resumption}
    (hr : resume C key cfg rule h ticket entry = .ok r) (hres : r.params.resume = true) :
    ∃ st, r.state = some st ∧ stateLookup cfg h (decryptTicket C key ticket) (entry.bind unmarshal) = some st ∧
      r.master = st.master ∧ st.vers = r.params.vers ∧ st.suite = r.params.suite.id ∧
      ClientCertOk (clientAuthOf cfg rule) (toSession st) := by
  obtain ⟨hrch, hst⟩ := resume_ok hr
  obtain ⟨hstate, hmaster⟩ := hst hres
  obtain ⟨se, -, hlk, hv, hs, hcc⟩ := readClientHello_resumed hrch hres
  rw [sessionLookup_map, Option.map_eq_some_iff] at hlk
  obtain ⟨st, hl, rfl⟩ := hlk
  rw [hl] at hstate
  rw [hstate] at hmaster
  exact ⟨st, hstate, hl, hmaster, hv, hs, hcc⟩

theorem stateLookup_no_cache {cfg : Config} {h : Hello} {a : Option SessionState} {st : SessionState}
    (hl : stateLookup cfg h a none = some st) : a = some st := by
  simp only [stateLookup, ite_self, Option.ite_none_right_eq_some] at hl
  exact hl.2

theorem resume_sealed {C : Crypto} (hl : Laws C) {key iv : List UInt8} (hiv : iv.length = ivLen) {s : SessionState}
    (hwf : WF s) {cfg : Config} {rule : Option Rule} {h : Hello} {r : Resumption}
    (hr : resume C key cfg rule h (encryptTicket C key iv s) none = .ok r) (hres : r.params.resume = true) :
    r.params.vers = s.vers ∧ r.params.suite.id = s.suite ∧ r.master = s.master := by
  obtain ⟨st, -, hlk, hm, hv, hs, -⟩ := resume_resumed hr hres
  rw [decrypt_encrypt hl key iv s hiv hwf] at hlk
  cases Option.some.inj (stateLookup_no_cache hlk)
  exact ⟨hv.symm, hs.symm, hm⟩

theorem cacheGet_cacheDel_ne (c : List CacheEntry) {k : String} (pfx id : String) (now : Nat)
    (h : k ≠ cacheKey pfx id) : cacheGet (cacheDel c k) pfx id now = cacheGet c pfx id now := by
  have hf (e : CacheEntry) : decide ((e.key != k) = true ∧ (e.key == cacheKey pfx id) = true) =
      (e.key == cacheKey pfx id) := by
    by_cases he : e.key = cacheKey pfx id <;> simp [he, Ne.symm h]
  simp only [cacheGet, cacheDel, List.find?_filter, hf]

end BfeVerif.C44
