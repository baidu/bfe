import BfeVerif.C17.Tables
/-! Every Go loop that stops at the first non-ok outcome (`newHashMatcher`, `buildCall`, `buildAll`) is rewritten to
    `firstBad (map ..)`; `crash` is then absent from the mapped list, per partial operation (`goSlice`, `setBuckets`, `argAt`). -/
namespace BfeVerif.C17
open BfeVerif.Generated.C17

/-- the loop of `NewHashMatcher`, `buildPrimitive` and `Build`: the outcome is the first one that is not `ok` -/
def firstBad : List Outcome → Outcome
  | [] => .ok
  | .ok :: os => firstBad os
  | o :: _ => o

theorem firstBad_ok_iff {os : List Outcome} : firstBad os = .ok ↔ ∀ o ∈ os, o = .ok := by
  induction os with
  | nil => simp [firstBad]
  | cons o tl ih => cases o <;> simp [firstBad, ih]

theorem firstBad_mem {os : List Outcome} (h : firstBad os ≠ .ok) : firstBad os ∈ os := by
  fun_induction firstBad os with
  | case1 => exact absurd rfl h
  | case2 os ih => exact List.mem_cons_of_mem _ (ih h)
  | case3 o os _ => exact List.mem_cons_self

theorem firstBad_ne_crash {os : List Outcome} (h : .crash ∉ os) : firstBad os ≠ .crash :=
  fun hc => h (hc ▸ firstBad_mem (hc ▸ nofun))

theorem firstBad_err {os : List Outcome} (h : .crash ∉ os) (he : .err ∈ os) : firstBad os = .err := by
  cases hf : firstBad os with
  | ok => cases firstBad_ok_iff.mp hf _ he
  | err => rfl
  | crash => exact absurd hf (firstBad_ne_crash h)

theorem foldl_eq_firstBad {α : Type} (f : Outcome → α → Outcome) (l : List α)
    (herr : ∀ a, f .err a = .err) (hcrash : ∀ a, f .crash a = .crash) :
    l.foldl f .ok = firstBad (l.map (f .ok)) := by
  suffices ∀ acc, l.foldl f acc = firstBad (acc :: l.map (f .ok)) from this .ok
  intro acc
  induction l generalizing acc with
  | nil => cases acc <;> rfl
  | cons a tl ih =>
    rw [List.foldl_cons, ih]
    cases acc
    · rfl
    · rw [herr]; rfl
    · rw [hcrash]; rfl

theorem buildAll_eq (x : Ext) (cs : List Call) : buildAll x cs = firstBad (cs.map (buildCall x)) := by
  induction cs with
  | nil => rfl
  | cons c tl ih =>
    rw [buildAll, List.map_cons]
    cases buildCall x c <;> simp [firstBad, ih]

theorem bucketNum_lt {x : Option Int} {v : Nat} (h : bucketNum x = some v) : v < hashBucketSize := by
  revert h
  fun_cases bucketNum x with
  | case1 w hw => intro h; cases h; omega
  | _ => nofun

theorem hashSection_lt {sec : Bytes} {s e : Nat} (h : hashSection sec = some (s, e)) :
    e < hashBucketSize := by
  -- every `some v` among the parsed numbers is a bucket number; `fun_cases` hands over the list as an equation `hl`
  have hlt {l : List (Option Nat)} (hl : (splitOn 45 sec).map (fun s => bucketNum (atoi (s.filter (· != 32)))) = l)
      (v : Nat) (hv : some v ∈ l) : v < hashBucketSize := by
    subst hl
    obtain ⟨t, -, ht⟩ := List.mem_map.mp hv
    exact bucketNum_lt ht
  revert h
  fun_cases hashSection sec with
  | case1 a hx =>   -- `[a]`
    cases a with
    | none => nofun
    | some v => intro h; cases h; exact hlt hx _ List.mem_cons_self
  | case3 s' e' _ hx =>   -- `[some s', some e']` with `¬ e' < s'`
    intro h; cases h; exact hlt hx _ (List.mem_cons_of_mem _ List.mem_cons_self)
  | _ => nofun

theorem newHashMatcher_eq (p : Bytes) : newHashMatcher p =
    firstBad ((splitOn 124 p).map fun sec => if (hashSection sec).isSome then .ok else .err) := by
  unfold newHashMatcher
  rw [foldl_eq_firstBad _ _ (fun _ => rfl) (fun _ => rfl)]
  congr 1
  apply List.map_congr_left
  intro sec _
  cases hs : hashSection sec with
  | none => rfl
  | some se => simp [setBuckets, hashSection_lt hs]

theorem hashSections_no_crash (l : List Bytes) :
    Outcome.crash ∉ l.map fun sec => if (hashSection sec).isSome then Outcome.ok else .err := by
  intro h
  obtain ⟨sec, -, hsec⟩ := List.mem_map.mp h
  split at hsec <;> cases hsec

theorem goSlice_some (s : Bytes) (lo hi : Nat) (h1 : lo ≤ hi) (h2 : hi ≤ s.length) :
    goSlice s lo hi = some ((s.take hi).drop lo) := if_pos ⟨h1, h2⟩

/-- the three slices `timeStr[0:2]`, `[2:4]`, `[4:6]` come after the length check -/
theorem parseTimeOfDay_ne_none (x : Ext) (s : Bytes) : parseTimeOfDay x s ≠ none := by
  fun_cases parseTimeOfDay x s with
  | case7 _ _ _ hlen hno =>   -- the only `none`: long enough (`hlen`), yet one of the slices fails
    exact (hno _ _ _ (goSlice_some s 0 2 (by omega) (by omega)) (goSlice_some s 2 4 (by omega) (by omega))
      (goSlice_some s 4 6 (by omega) (by omega))).elim
  | _ => nofun

theorem newPeriodicTimeMatcher_ne_crash (x : Ext) (a b p : Bytes) :
    newPeriodicTimeMatcher x a b p ≠ .crash := by
  fun_cases newPeriodicTimeMatcher x a b p with
  | case2 _ h => exact absurd h (parseTimeOfDay_ne_none x a)
  | case4 _ _ _ _ h => exact absurd h (parseTimeOfDay_ne_none x b)
  | _ => nofun

theorem newIPMatcher_ne_crash (x : Ext) (s e : Bytes) : newIPMatcher x s e ≠ .crash := by
  fun_cases newIPMatcher x s e <;> nofun

theorem newTimeMatcher_ne_crash (x : Ext) (a b : Bytes) : newTimeMatcher x a b ≠ .crash := by
  fun_cases newTimeMatcher x a b <;> nofun

theorem validator_ne_crash (x : Ext) (fn : String) (vals : List Bytes) : validator x fn vals ≠ .crash := by
  -- the arms of `validator` in order, an arm with an `if` counting twice: 1-2 NewIpInMatcher, 5-6 NewHostMatcher, 7-8 Compile,
  -- 11 the default, all `ok` or `err` on the spot
  fun_cases validator x fn vals with
  | case3 s e => exact newIPMatcher_ne_crash x s e   -- NewIPMatcher
  | case4 p =>   -- NewHashMatcher
    rw [newHashMatcher_eq]
    exact firstBad_ne_crash (hashSections_no_crash _)
  | case9 a b => exact newTimeMatcher_ne_crash x a b   -- NewTimeMatcher
  | case10 a b p => exact newPeriodicTimeMatcher_ne_crash x a b p   -- NewPeriodicTimeMatcher
  | _ => nofun

theorem fetchAll_some (c : Call) (ks : List Nat) (h : ∀ k ∈ ks, k < c.args.length) :
    ∃ vs, fetchAll c ks = some vs := by
  induction ks with
  | nil => exact ⟨[], rfl⟩
  | cons k tl ih =>
    obtain ⟨vs, hvs⟩ := ih fun j hj => h j (List.mem_cons_of_mem _ hj)
    have hk := h k List.mem_cons_self
    exact ⟨(c.args[k]).2 :: vs, by simp [fetchAll, argAt, hvs, List.getElem?_eq_getElem hk]⟩

theorem protoOk_iff {c : Call} :
    protoOk c = true ↔ lookup c.name funcProtos = some (c.args.map fun a => a.1.name) := by
  unfold protoOk
  cases lookup c.name funcProtos <;> simp

/-- a call that passed `prototypeCheck` has as many arguments as its prototype, and by `tablesOk` its
    case of `buildPrimitive` indexes below that -/
theorem buildCall_ne_crash (x : Ext) (c : Call) (hp : protoOk c = true) : buildCall x c ≠ .crash := by
  have hk := protoOk_iff.mp hp
  unfold buildCall
  split
  · simp
  · rename_i uses ctors hl
    have he := List.all_eq_true.mp tablesOk_true _ (lookup_mem hl)
    simp only [hk, Bool.and_eq_true, List.all_eq_true, decide_eq_true_eq, List.length_map] at he
    obtain ⟨hu, hc⟩ := he
    rw [if_neg, foldl_eq_firstBad _ _ (fun _ => rfl) (fun _ => rfl)]   -- `if_neg`: no use is out of range, below
    · refine firstBad_ne_crash fun h => ?_
      obtain ⟨ct, hct, h⟩ := List.mem_map.mp h
      obtain ⟨vs, hvs⟩ := fetchAll_some c ct.2 (hc ct hct)
      rw [hvs] at h
      exact validator_ne_crash x _ _ h
    · simp only [List.any_eq_true, not_exists, not_and]
      intro u hu'
      simp [argAt, List.getElem?_eq_getElem (hu u hu')]

theorem buildCalls_ne_crash (x : Ext) {cs : List Call} (h : cs.all protoOk = true) :
    .crash ∉ cs.map (buildCall x) := by
  intro hm
  obtain ⟨c, hc, hm⟩ := List.mem_map.mp hm
  exact buildCall_ne_crash x c (List.all_eq_true.mp h c hc) hm

theorem build_of_analyse_some {x : Ext} {src : Bytes} {f : Found} (ha : analyse src = some f) :
    build x src = if f.calls.all protoOk = true ∧ f.vars = [] then buildAll x f.calls else .err := by
  unfold build
  rw [ha]
  dsimp only
  generalize f.calls.all protoOk = b, f.vars = vs
  cases b <;> cases vs <;> simp

/-- a call that fails `prototypeCheck` is rejected, wherever it occurs in the expression -/
theorem build_of_bad_proto {x : Ext} {src : Bytes} {f : Found} {c : Call} (ha : analyse src = some f) (hc : c ∈ f.calls)
    (hp : lookup c.name funcProtos ≠ some (c.args.map fun a => a.1.name)) : build x src = .err := by
  rw [build_of_analyse_some ha, if_neg]
  exact fun h => hp (protoOk_iff.mp (List.all_eq_true.mp h.1 c hc))

end BfeVerif.C17
