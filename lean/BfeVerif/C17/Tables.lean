import BfeVerif.C17.Model
/-! The two extracted tables `buildCases` and `funcProtos` list the same names, strictly ascending (`tables_aligned`, one
    pass of the kernel over both); `tablesOk` and `protosCovered`, which look every name of one table up in the other, follow
    because a `lookup` in an ascending table finds the entry at the name's own position (`aligned_spec`). -/
namespace BfeVerif.C17
open BfeVerif.Generated.C17

def tablesOk : Bool :=
  buildCases.all fun e =>
    match lookup e.1 funcProtos with
    | none => false
    | some kinds => e.2.1.all (fun u => decide (u.1 < kinds.length)) &&
        e.2.2.all (fun ct => ct.2.all (fun k => decide (k < kinds.length)))

def protosCovered : Bool :=
  funcProtos.all fun p => (lookup p.1 buildCases).isSome

/-- what `tablesOk` asks of a case of `buildPrimitive` and the argument kinds of its prototype: its `some` branch word for word,
    which is why `tablesOk_true` can end in `exact hok` -/
def caseOk (c : List (Nat × String) × List (String × List Nat)) (kinds : List String) : Bool :=
  c.1.all (fun u => decide (u.1 < kinds.length)) && c.2.all (fun ct => ct.2.all (fun k => decide (k < kinds.length)))

theorem lookup_mem {α : Type} {name : Bytes} {l : List (Bytes × α)} {v : α}
    (h : lookup name l = some v) : (name, v) ∈ l := by
  fun_induction lookup name l with
  | case1 => nomatch h
  | case2 k w rest hk => exact (beq_iff_eq.mp hk) ▸ Option.some.inj h ▸ List.mem_cons_self
  | case3 k w rest hk ih => exact List.mem_cons_of_mem _ (ih h)

def aligned {α β : Type} (ok : β → α → Bool) : Bytes → List (Bytes × β) → List (Bytes × α) → Bool
  | _, [], [] => true
  | prev, (k, b) :: t, (k', a) :: t' => k == k' && List.lex prev k' && ok b a && aligned ok k' t t'
  | _, _, _ => false

theorem aligned_spec {α β : Type} {ok : β → α → Bool} {prev : Bytes} {cs : List (Bytes × β)} {ps : List (Bytes × α)}
    (h : aligned ok prev cs ps = true) :
    (∀ p ∈ ps, prev < p.1) ∧ (∀ e ∈ cs, ∃ a, lookup e.1 ps = some a ∧ ok e.2 a = true) ∧
    ∀ p ∈ ps, (lookup p.1 cs).isSome = true := by
  fun_induction aligned ok prev cs ps with
  | case1 => exact ⟨nofun, nofun, nofun⟩
  | case2 prev k b t k' a t' ih =>
    simp only [Bool.and_eq_true, beq_iff_eq, List.lex_eq_true_iff_lt] at h
    obtain ⟨⟨⟨rfl, hlt⟩, hok⟩, ht⟩ := h
    obtain ⟨hA, hB, hC⟩ := ih ht
    refine ⟨List.forall_mem_cons.mpr ⟨hlt, fun p hp => List.lt_trans hlt (hA p hp)⟩,
      List.forall_mem_cons.mpr ⟨⟨a, by simp [lookup], hok⟩, fun e he => ?_⟩,
      List.forall_mem_cons.mpr ⟨by simp [lookup], fun p hp => ?_⟩⟩
    · -- a later name is above `k`, so the scan of `lookup` passes the head
      obtain ⟨a', hl, ha'⟩ := hB e he
      have hne : (k == e.1) = false := by
        rw [beq_eq_false_iff_ne]
        rintro rfl
        exact List.lt_irrefl _ (hA _ (lookup_mem hl))
      exact ⟨a', by rw [lookup, if_neg (by simp [hne])]; exact hl, ha'⟩
    · rw [lookup]
      split
      · rfl
      · exact hC p hp
  | case3 => cases h

theorem tables_aligned : aligned caseOk [] buildCases funcProtos = true := by decide +kernel

theorem tablesOk_true : tablesOk = true :=
  List.all_eq_true.mpr fun e he => by
    obtain ⟨kinds, hl, hok⟩ := (aligned_spec tables_aligned).2.1 e he
    rw [hl]
    exact hok

theorem protosCovered_true : protosCovered = true :=
  List.all_eq_true.mpr (aligned_spec tables_aligned).2.2

end BfeVerif.C17
