import BfeVerif.C17.Proofs
/-!
  C17 — condition parsing and building are total and type-checked.

  `build x src` is the outcome (`ok | err | crash`) of `condition.Build` on the byte string `src`; `x : Ext` are
  the external functions (regexp.Compile, net.ParseIP, bfe_util.ParseTime, fmt.Sscanf).  `crash` is produced exactly where the Go code indexes or slices out of range:
  `node.Args[k]` (`argAt`), `timeStr[a:b]` (`goSlice`), `(*buckets)[i]` (`setBuckets`).
-/
namespace BfeVerif.C17
open BfeVerif.Generated.C17

/-- **C17 (totality)**: for every input byte string and whatever the external functions answer, Build
    returns a condition or an error; no index or slice goes out of range.
    (Holds for the tree with fixes/C17-scanner-timeofday.md.) -/
theorem C17_total (x : Ext) (src : Bytes) : build x src ≠ .crash := by
  cases ha : analyse src with
  | none => simp [build, ha]
  | some f =>
    rw [build_of_analyse_some ha, buildAll_eq]
    split
    next h => exact firstBad_ne_crash (buildCalls_ne_crash x h.1)
    next => simp

/-- the two extracted tables agree: every case of `buildPrimitive` has a prototype whose arity covers every
    `node.Args[k]` the case touches, and every prototype has a case (nothing type-checks and is then
    "unsupported primitive"). -/
theorem C17_tables_consistent : tablesOk = true ∧ protosCovered = true :=
  ⟨tablesOk_true, protosCovered_true⟩

/-- scanner / lexer / syntax errors are rejected -/
theorem C17_syntax_rejected (x : Ext) (src : Bytes) (h : analyse src = none) : build x src = .err := by
  unfold build; rw [h]

/-- a call of a name that is not in `funcProtos` is rejected, wherever it occurs in the expression -/
theorem C17_unknown_rejected (x : Ext) (src : Bytes) (f : Found) (c : Call)
    (ha : analyse src = some f) (hc : c ∈ f.calls) (hn : lookup c.name funcProtos = none) :
    build x src = .err :=
  build_of_bad_proto ha hc (hn ▸ nofun)

/-- wrong number of arguments or wrong argument kinds are rejected -/
theorem C17_arity_types (x : Ext) (src : Bytes) (f : Found) (c : Call) (kinds : List String)
    (ha : analyse src = some f) (hc : c ∈ f.calls) (hk : lookup c.name funcProtos = some kinds)
    (hne : kinds ≠ c.args.map (fun a => a.1.name)) : build x src = .err :=
  build_of_bad_proto ha hc (hk ▸ fun h => hne (Option.some.inj h))

/-- an identifier that is not a call (a condition variable) is rejected by Build -/
theorem C17_unresolved_var_rejected (x : Ext) (src : Bytes) (f : Found)
    (ha : analyse src = some f) (hv : f.vars ≠ []) : build x src = .err := by
  rw [build_of_analyse_some ha, if_neg fun h => hv h.2]

/-- an invalid argument of any call (IP, regexp, hash range, host with port, time) is rejected -/
theorem C17_invalid_argument_rejected (x : Ext) (src : Bytes) (f : Found) (c : Call)
    (ha : analyse src = some f) (hc : c ∈ f.calls) (he : buildCall x c = .err) :
    build x src = .err := by
  rw [build_of_analyse_some ha, buildAll_eq]
  split
  next h => exact firstBad_err (buildCalls_ne_crash x h.1) (he ▸ List.mem_map_of_mem hc)
  next => rfl

/-- exact characterisation of success -/
theorem C17_ok_iff (x : Ext) (src : Bytes) :
    build x src = .ok ↔ ∃ f, analyse src = some f ∧ f.calls.all protoOk = true ∧ f.vars = [] ∧
      ∀ c ∈ f.calls, buildCall x c = .ok := by
  cases ha : analyse src with
  | none => simp [build, ha]
  | some f =>
    rw [build_of_analyse_some ha, buildAll_eq]
    split
    next h =>
      rw [firstBad_ok_iff, List.forall_mem_map]
      exact ⟨fun hb => ⟨f, rfl, h.1, h.2, hb⟩, fun ⟨g, hg, _, _, hb⟩ => by cases hg; exact hb⟩
    next h =>
      exact ⟨(nomatch ·), fun ⟨g, hg, h1, h2, _⟩ => by cases hg; exact absurd ⟨h1, h2⟩ h⟩

/-- hash bucket lists: a section that is not `a` or `a-b` with 0 ≤ a ≤ b < HashMatcherBucketSize is an error.
    Stated for the constructor `NewHashMatcher` (the arm of `validator` behind a `*_hash_in` call), not for `build`:
    `C17_invalid_argument_rejected` takes an `err` of `buildCall` on to `build`. -/
theorem C17_bad_hash_range_rejected (p : Bytes) (sec : Bytes) (hs : sec ∈ splitOn 124 p)
    (hb : hashSection sec = none) : newHashMatcher p = .err := by
  rw [newHashMatcher_eq]
  exact firstBad_err (hashSections_no_crash _) (List.mem_map.mpr ⟨sec, hs, by simp [hb]⟩)

/-! Non-vacuity / concrete instances (kept small: `decide` on the whole pipeline is too expensive for the
    kernel; the pipeline as a whole is exercised by the correspondence run). -/
-- a slice past the end IS a crash in the model: "12 Z" without the guard `len(timeStr) < 6` of `parseTimeOfDay`
example : goSlice [49, 50, 32, 90] 4 6 = none := by decide +kernel
example : goSlice [49, 50, 51, 52, 53, 54, 90] 4 6 = some [53, 54] := by decide +kernel
-- `node.Args[2]` on a two-argument call is a crash in the model
example : argAt ⟨[120], [(.str, []), (.str, [])]⟩ 2 = none := by decide +kernel
example : hashSection [53, 45, 51] = none := by decide +kernel             -- "5-3"
example : bucketNum (some 10000) = none := by decide +kernel
example : pArgs [.lit .str [47], .comma, .lit .bool [116], .rp] [] = some ([(.str, [47]), (.bool, [116])], []) := by decide +kernel
example : (scan 8 [120, 40, 41]).1 = [.ident [120], .lp, .rp] := by decide +kernel

end BfeVerif.C17
