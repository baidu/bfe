import BfeVerif.C38.Steps
/-! The frame sequence of a response (HEADERS, DATA*, optional trailers; END_STREAM), and the HEADERS / CONTINUATION
    split of a header block. -/
namespace BfeVerif.C38

def isDataNoEnd (f : Frame) : Prop := ∃ p, f = Frame.data p false

/-- frames while the handler is running (`h`: HEAD request).  Before the HEADERS there is no bufio error: only the call
    that sends them raises it. -/
def Live (h : Bool) (s : St) : Prop :=
  (s.sentHeader = false ∧ s.bwErr = false ∧ s.out = []) ∨
  (s.sentHeader = true ∧ ∃ F ds, F ≠ [] ∧ s.out = Frame.headers F h :: ds ∧ (∀ d ∈ ds, isDataNoEnd d) ∧ (h = true → ds = []))

/-- frames of a finished response (`h`: HEAD request) -/
def Final (h : Bool) (s : St) : Prop :=
  (∃ F, F ≠ [] ∧ s.out = [Frame.headers F true]) ∨
  (h = false ∧ ∃ F ds last, s.out = Frame.headers F false :: (ds ++ [last]) ∧ (∀ d ∈ ds, isDataNoEnd d) ∧
     ((∃ p, last = Frame.data p true) ∨ (∃ T, T ≠ [] ∧ last = Frame.headers T true)))

theorem headerPart_live (env : Env) (s : St) (p : List Nat) (hr : Live s.isHead s) :
    ∃ F ds, F ≠ [] ∧ (headerPart env s p).1.out = Frame.headers F ((headerPart env s p).2 || s.isHead) :: ds ∧
      (∀ d ∈ ds, isDataNoEnd d) ∧
      (((headerPart env s p).2 || s.isHead) = true → ds = [] ∧ (s.handlerDone = true ∨ s.isHead = true)) := by
  rcases hr with ⟨hs, _, ho⟩ | ⟨hs, F, ds, hF, ho, hds, hd⟩
  · obtain ⟨n, tr, autos, _, _, e⟩ := headerPart_unsent env s p hs
    rw [e, ho]
    refine ⟨SpecFields (clenSnap s.snap) s.status autos, [], List.cons_ne_nil _ _, ?_, fun _ h => absurd h List.not_mem_nil,
      fun he => ⟨rfl, ?_⟩⟩
    · have hb : ∀ a b : Bool, (a || b) = (a || b || b) := by decide
      exact congrArg (fun e => [Frame.headers _ e]) (hb _ _)
    · simp only [Bool.or_eq_true, Bool.and_eq_true] at he
      exact he.elim (·.imp (·.1.1) id) Or.inr
  · rw [headerPart_sent env s p hs]
    exact ⟨F, ds, hF, ho, hds, fun h => ⟨hd h, Or.inr h⟩⟩

theorem dataPart_noEnd (p : List Nat) : ∀ d ∈ dataPart p false, isDataNoEnd d := by
  unfold dataPart
  exact iteInduction (motive := fun l : List Frame => ∀ d ∈ l, isDataNoEnd d) (fun _ d hd => ⟨p, List.mem_singleton.mp hd⟩)
    (fun _ _ hd => nomatch hd)

theorem bodyTail_running (ne : Bool) (T : List (Str × Str)) (p : List Nat) :
    ∀ d ∈ bodyTail false ne T p, isDataNoEnd d := by
  rw [show bodyTail false ne T p = dataPart p false from List.append_nil _]
  exact dataPart_noEnd p

theorem bodyTail_final (ne : Bool) (T : List (Str × Str)) (p : List Nat) (hT : ne = true → T ≠ []) :
    ∃ ds last, bodyTail true ne T p = ds ++ [last] ∧ (∀ d ∈ ds, isDataNoEnd d) ∧
      ((∃ q, last = Frame.data q true) ∨ (∃ T', T' ≠ [] ∧ last = Frame.headers T' true)) := by
  cases ne with
  | false =>
    exact ⟨[], _, (List.append_nil _).trans (dataPart_end p), fun _ h => absurd h List.not_mem_nil, Or.inl ⟨p, rfl⟩⟩
  | true =>
    refine ⟨dataPart p false, Frame.headers T true, congrArg (dataPart p false ++ ·) ?_, dataPart_noEnd p,
      Or.inr ⟨T, hT rfl, rfl⟩⟩
    exact if_neg fun h => hT rfl (List.isEmpty_iff.mp h)

/-- By `writeChunk_cases`: HEADERS that end the stream are the only frame, and while the handler runs only a HEAD
    response has such; otherwise `bodyTail` follows, which ends in DATA or, since `Inv` makes attempted trailers
    non-empty (`ht`), in the trailers. -/
theorem writeChunk_live (env : Env) (s : St) (p : List Nat) (hr : Live s.isHead s) :
    (s.handlerDone = false → Live s.isHead (writeChunk env s p)) ∧
    (s.handlerDone = true → Inv s → Final s.isHead (writeChunk env s p)) := by
  have k := writeHeader_keeps s 200
  have hc := writeChunk_cases env s p
  have hr1 : Live s.isHead (writeHeader s 200) := writeHeader_preserves 200 fun _ _ _ => hr
  rw [← k.isHead] at hr1
  generalize writeHeader s 200 = s1 at k hc hr1
  obtain ⟨F, ds, hF, ho, hds, hstop⟩ := headerPart_live env s1 p hr1
  rw [k.isHead] at ho hstop
  rw [k.done] at hstop
  have kh := headerPart_keeps env s1 p
  have hs := headerPart_sends env s1 p
  rcases hc with ⟨he, e⟩ | ⟨he, e⟩ <;> rw [e] <;> rw [he] at ho
  · obtain ⟨rfl, hdh⟩ := hstop he
    refine ⟨fun hd => Or.inr ⟨hs, F, [], hF, ?_, hds, fun _ => rfl⟩, fun _ _ => Or.inl ⟨F, hF, ho⟩⟩
    rw [hdh.resolve_left (ne_true_of_eq_false hd)]
    exact ho
  · obtain ⟨hh', tr, ne, ht, e1⟩ := bodyPart_eq (headerPart env s1 p).1 p
    rw [kh.done.trans k.done] at e1
    rw [(Bool.or_eq_false_iff.mp he).2]
    refine ⟨fun hd => ?_, fun hd hi => ?_⟩ <;> rw [hd] at e1
    · refine Or.inr ⟨(bodyPart_keeps _ p).sent hs, F, ds ++ bodyTail false ne _ p, hF, by rw [e1, ho]; rfl,
        fun d hd' => (List.mem_append.mp hd').elim (hds d) (bodyTail_running ne _ p d), fun h => nomatch h⟩
    · obtain ⟨ds2, last, e2, hds2, hl⟩ := bodyTail_final ne _ p (ht (kh.inv (k.inv hi)).trailers).2
      refine Or.inr ⟨rfl, F, ds ++ ds2, last, by rw [e1, ho, e2, List.append_assoc]; rfl, fun d hd' => ?_, hl⟩
      exact (List.mem_append.mp hd').elim (hds d) (hds2 d)

def Running (h : Bool) (s : St) : Prop := s.isHead = h ∧ s.handlerDone = false ∧ Live h s

theorem running_stable (env : Env) (h : Bool) : Stable env (Running h) := by
  refine ⟨fun s c ⟨hh, hd, hr⟩ => ?_, fun s p ⟨hh, hd, hr⟩ => ?_, fun _ _ _ _ _ _ h => h,
    fun _ ⟨hh, hd, hr⟩ hs => ⟨hh, hd, Or.inr (hr.resolve_left fun hu => absurd hs (ne_true_of_eq_false hu.1))⟩⟩
  · have k := writeHeader_keeps s c
    exact ⟨k.isHead.trans hh, k.done.trans hd, writeHeader_preserves c fun _ _ _ => hr⟩
  · have k := writeChunk_keeps env s p
    subst hh
    exact ⟨k.isHead, k.done.trans hd, (writeChunk_live env s p hr).1 hd⟩

theorem final_run (env : Env) (isHead : Bool) (acts : List Act) : Final isHead (runHandler env isHead acts) := by
  obtain ⟨hh, _, hr⟩ := (running_stable env isHead).acts acts { isHead := isHead } ⟨rfl, rfl, Or.inl ⟨rfl, rfl, rfl⟩⟩
  have hi := (inv_stable env).acts acts { isHead := isHead } (inv_init isHead)
  unfold runHandler
  generalize acts.foldl (step env) { isHead := isHead } = s at hh hr hi
  subst hh
  -- `Live`, `Inv` read neither `handlerDone` nor `buf`
  refine rwFlush_cases (Q := Final s.isHead) _ (fun hc hb => ?_)
    ((writeChunk_live env { s with handlerDone := true, buf := [] } _ hr).2 rfl hi) fun _ h _ => h
  -- a HEAD response whose bufio error is set: the HEADERS are out
  rcases hr with ⟨_, w, _⟩ | ⟨_, F, ds, hF, ho, _, hd⟩
  · exact absurd hb (ne_true_of_eq_false w)
  · exact Or.inl ⟨F, hF, ho.trans (by rw [hd hc, show s.isHead = true from hc])⟩

theorem noEnd_of_data {F : List (Str × Str)} {ds : List Frame} (hds : ∀ d ∈ ds, isDataNoEnd d) :
    ∀ f ∈ Frame.headers F false :: ds, f.es = false := by
  intro f hf
  rcases List.mem_cons.mp hf with rfl | hf
  · rfl
  · obtain ⟨p, rfl⟩ := hds f hf; rfl

theorem splitAux_succ (fuel rem : Nat) (first es : Bool) (h : rem ≠ 0) :
    splitAux (fuel + 1) rem first es =
      { cont := !first, es := first && es, eh := rem - min rem maxFrag == 0, len := min rem maxFrag } ::
        splitAux fuel (rem - min rem maxFrag) false es := if_neg h

/-- END_HEADERS exactly on the last frame -/
def ehOk : List Wire → Bool
  | [] => true
  | [w] => w.eh
  | w :: r => !w.eh && ehOk r

theorem ehOk_cons (w : Wire) (t : List Wire) (ht : t ≠ []) : ehOk (w :: t) = (!w.eh && ehOk t) := by
  cases t with
  | nil => exact absurd rfl ht
  | cons a r => rfl

/-- `first`: the block's HEADERS frame is still to come.  The fourth conjunct serves the induction: END_HEADERS of a
    frame, and what follows it, turn on whether the rest is empty. -/
theorem splitAux_spec (fuel rem : Nat) (first es : Bool) (h : rem ≤ fuel) :
    ((splitAux fuel rem first es).map (·.len)).sum = rem ∧ ehOk (splitAux fuel rem first es) = true ∧
    (∀ w ∈ splitAux fuel rem first es, 0 < w.len ∧ w.len ≤ maxFrag) ∧
    (rem = 0 → splitAux fuel rem first es = []) ∧
    (rem ≠ 0 → ∃ w rest, splitAux fuel rem first es = w :: rest ∧ w.cont = (!first) ∧ w.es = (first && es) ∧
      ∀ c ∈ rest, c.cont = true ∧ c.es = false) := by
  fun_induction splitAux fuel rem first es with
  | case1 => exact ⟨(Nat.le_zero.mp h).symm, rfl, List.forall_mem_nil _, fun _ => rfl, fun h0 => absurd (Nat.le_zero.mp h) h0⟩
  | case2 => exact ⟨rfl, rfl, List.forall_mem_nil _, fun _ => rfl, fun h0 => absurd rfl h0⟩
  | case3 fuel rem first es h0 frag ih =>
    have hm : 0 < frag := Nat.lt_min.mpr ⟨Nat.pos_of_ne_zero h0, by decide⟩
    obtain ⟨hs, he, hl, hz, hc⟩ := ih (by omega)
    refine ⟨?_, ?_, List.forall_mem_cons.mpr ⟨⟨hm, Nat.min_le_right _ _⟩, hl⟩, fun h => absurd h h0,
      fun _ => ⟨_, _, rfl, rfl, rfl, ?_⟩⟩
    · rw [List.map_cons, List.sum_cons, hs]
      exact Nat.add_sub_cancel' (Nat.min_le_left _ _)
    · -- this frame has END_HEADERS iff nothing remains iff no frame follows
      by_cases hr : rem - frag = 0
      · rw [hz hr]; exact beq_iff_eq.mpr hr
      · obtain ⟨w, rest, e, _⟩ := hc hr
        rw [e, ehOk_cons _ _ (List.cons_ne_nil _ _), ← e, he]
        show (!(rem - frag == 0) && true) = true
        rw [beq_eq_false_iff_ne.mpr hr]; rfl
    · by_cases hr : rem - frag = 0
      · rw [hz hr]; exact List.forall_mem_nil _
      · obtain ⟨w, rest, e, h1, h2, h3⟩ := hc hr
        rw [e]
        exact List.forall_mem_cons.mpr ⟨⟨h1, h2⟩, h3⟩

theorem splitBlock_cons (L : Nat) (es : Bool) (hL : 0 < L) :
    ∃ w rest, splitBlock L es = w :: rest ∧ w.cont = false ∧ w.es = es ∧
      ∀ c ∈ rest, c.cont = true ∧ c.es = false :=
  (splitAux_spec L L true es (Nat.le_refl _)).2.2.2.2 (Nat.ne_of_gt hL)

theorem splitBlock_noes (L : Nat) : ∀ w ∈ splitBlock L false, w.es = false := by
  cases L with
  | zero => exact List.forall_mem_nil _
  | succ n =>
    obtain ⟨w, rest, e, _, h2, h3⟩ := splitBlock_cons (n + 1) false (Nat.succ_pos n)
    rw [e]
    exact List.forall_mem_cons.mpr ⟨h2, fun c hc => (h3 c hc).2⟩

theorem wireOf_append (encLen : List (Str × Str) → Nat) (a b : List Frame) :
    wireOf encLen (a ++ b) = wireOf encLen a ++ wireOf encLen b := by
  induction a with
  | nil => rfl
  | cons x r ih => cases x <;> simp [wireOf, ih]

theorem wireOf_noes (encLen : List (Str × Str) → Nat) (fs : List Frame) (h : ∀ f ∈ fs, f.es = false) :
    ∀ w ∈ wireOf encLen fs, w.es = false := by
  induction fs with
  | nil => exact fun w hw => absurd hw List.not_mem_nil
  | cons x r ih =>
    intro w hw
    have hx : x.es = false := h x List.mem_cons_self
    have hr := ih fun f hf => h f (List.mem_cons_of_mem _ hf)
    cases x with
    | headers F e =>
      rcases List.mem_append.mp hw with hw | hw
      · rw [show e = false from hx] at hw; exact splitBlock_noes _ w hw
      · exact hr w hw
    | data p e =>
      rcases List.mem_cons.mp hw with hw | hw
      · rw [hw]; exact hx
      · exact hr w hw

end BfeVerif.C38
