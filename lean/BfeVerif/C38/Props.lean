import BfeVerif.C38.Shape
import BfeVerif.C38.Status
/-!
  C38 — HTTP/2 responses carry exactly the handler's response.

  `runHandler env isHead acts` is the model of a handler that performs `acts` (header additions with raw
  keys, WriteHeader, Write, Flush) on a `responseWriter` and returns; `.out` are the frames written for the
  stream, `.acc` (ghost) the bytes of the `Write` calls that reported success.  The theorems hold for every
  `env` (content sniffing and the clock are arbitrary functions).  The model is of bfe with fixes/C38-conn-specific.md
  and fixes/C38-no-end-stream.md applied.  Beyond Model and the definitions here the statements use `ehOk` (Shape).
-/
namespace BfeVerif.C38
open BfeVerif.Generated.C38

/-- no HEADERS frame of the response (header block or trailers) carries a field
    named `connection`, `keep-alive`, `proxy-connection`, `transfer-encoding` or `upgrade` (the list is the
    server's own `connHeaders`, regenerated from the source; the filter table `HopHeaders` is regenerated
    too), whatever keys — in whatever letter case — the handler put into its header map and whatever it
    declared as trailers.  (Fails without fixes/C38-conn-specific.md; the witnesses are in the corpus.) -/
theorem C38_no_conn_specific (env : Env) (isHead : Bool) (acts : List Act) :
    ∀ f ∈ fieldsOf (runHandler env isHead acts).out, f.1 ∉ connHeaders.map lower :=
  (inv_run env isHead acts).out

/-- for a non-HEAD request the concatenation of the DATA payloads equals the
    concatenation of the byte strings of the `Write` calls that returned success, in order — for every
    pattern of write sizes, flushes, status and header operations (bufio chunking included). -/
theorem C38_body_exact (env : Env) (acts : List Act) :
    bodyOf (runHandler env false acts).out = (runHandler env false acts).acc :=
  finish_body env acts _ ⟨rfl, rfl⟩

/-- the response to a HEAD request never carries DATA payload. -/
theorem C38_head_nobody (env : Env) (acts : List Act) :
    bodyOf (runHandler env true acts).out = [] := by
  rcases final_run env true acts with ⟨F, _, h⟩ | ⟨h, _⟩
  · rw [h]; rfl
  · cases h

/-- the HEAD branch of `Write` (`rwWriteHead`) once the bufio.Writer's sticky error is set — its flush was the call
    that sent the HEADERS and reported 0 bytes written: it fails with io.ErrShortWrite and changes nothing (no frame,
    no accepted byte). -/
theorem C38_head_write_contract (env : Env) (s : St) (p : List Nat) (hb : s.bwErr = true) :
    (rwWriteHead env s p).wres = s.wres ++ [WRes.shortWrite] ∧ (rwWriteHead env s p).out = s.out ∧
    (rwWriteHead env s p).acc = s.acc := by
  rw [rwWriteHead_sticky env s p hb]
  exact ⟨rfl, rfl, rfl⟩

/-- Writes for a status that forbids a body are refused (`ErrBodyNotAllowed`), so they never count as
    accepted bytes: with C38_body_exact, a 1xx/204/304 response has no DATA payload. -/
theorem C38_bodyless_refused (env : Env) (s : St) (p : List Nat) (hw : s.wroteHeader = true)
    (hs : bodyAllowed s.status = false) :
    (rwWrite env s p).acc = s.acc ∧ (rwWrite env s p).out = s.out ∧ (rwWrite env s p).buf = s.buf := by
  rw [rwWrite_refused env s p hw hs]
  exact ⟨rfl, rfl, rfl⟩

/-- the header map that reaches the wire: the handler's additions before its first WriteHeader / Write / Flush
    (`hdrAdds`), minus the keys `cloneHeader` filters (canonical form in `HopHeaders`), minus a non-empty
    Content-Length (re-emitted by the server if it is a non-negative integer) -/
def sentSnap (acts : List Act) : HMap := clenSnap (snapAt (hdrAdds [] acts))

/-- for every handler script the first frame of the response is a HEADERS frame whose
    fields are, in this order: `:status` with the status the handler chose (`statusOf`: its first WriteHeader, 200
    if it wrote or flushed first); then exactly `encodeHeaders` of `sentSnap` — every value of every remaining key,
    keys in byte order and lower-cased, values in the handler's order, dropping only names / values that are not
    valid HTTP/2 field names / values (and `transfer-encoding` ≠ trailers); then only server-added fields named
    content-type, content-length or date. -/
theorem C38_status_headers (env : Env) (isHead : Bool) (acts : List Act) :
    ∃ es rest autos,
      (∀ f ∈ autos, f.1 = lContentType ∨ f.1 = lContentLength ∨ f.1 = lDate) ∧
      (runHandler env isHead acts).out =
        Frame.headers ((lStatus, itoa (statusOf acts)) ::
          (encodeHeaders (sentSnap acts) (sortStrs ((sentSnap acts).map (·.1))) ++ autos)) es :: rest :=
  (hdrOpen_finish env acts [] { isHead := isHead } ⟨rfl, rfl, rfl, rfl, rfl, rfl⟩).2

def envConst : Env := { sniff := fun _ => [64], now := [64] }

/-- non-vacuity: two values under one key, a mixed-case key, a hop-by-hop key, status 404 set after the headers -/
example : (runHandler envConst false
    [Act.add [88,45,65] [49], Act.add [120,45,98] [50], Act.add [88,45,65] [51], Act.add [85,112,103,114,97,100,101] [52],
     Act.status 404, Act.add [88,45,67] [53], Act.status 500]).out
    = [Frame.headers [(lStatus, [52,48,52]), ([120,45,97], [49]), ([120,45,97], [51]), ([120,45,98], [50]),
        (lContentType, [64]), (lContentLength, [48]), (lDate, [64])] true] := by decide +kernel

/-- exactly one frame carries END_STREAM and it is the last one. -/
def EndStreamOnce (o : List Frame) : Prop :=
  ∃ pre last, o = pre ++ [last] ∧ last.es = true ∧ ∀ f ∈ pre, f.es = false

/-- (rests on `hasNonemptyTrailers`, fixes/C38-no-end-stream.md) for every handler
    script — any headers, status, writes, flushes, declared / undeclared / unset / invalid trailers, GET or
    HEAD — exactly one frame of the response carries END_STREAM and it is the last frame. -/
theorem C38_end_stream_once (env : Env) (isHead : Bool) (acts : List Act) :
    EndStreamOnce (runHandler env isHead acts).out := by
  rcases final_run env isHead acts with ⟨F, _, h⟩ | ⟨_, F, ds, last, h, hds, hl⟩
  · exact ⟨[], _, h, rfl, fun _ hf => absurd hf List.not_mem_nil⟩
  · refine ⟨Frame.headers F false :: ds, last, h, ?_, noEnd_of_data hds⟩
    rcases hl with ⟨p, rfl⟩ | ⟨T, _, rfl⟩ <;> rfl

/-- a response is one HEADERS frame, then only DATA frames, then at most one
    more HEADERS frame (the trailers), which ends the stream; nothing follows the trailers. -/
theorem C38_trailers_after_body (env : Env) (isHead : Bool) (acts : List Act) :
    ∃ F e ds tl, (runHandler env isHead acts).out = Frame.headers F e :: (ds ++ tl) ∧
      (∀ d ∈ ds, ∃ p e', d = Frame.data p e') ∧ (tl = [] ∨ ∃ T, tl = [Frame.headers T true]) := by
  have data : ∀ {ds : List Frame}, (∀ d ∈ ds, isDataNoEnd d) → ∀ d ∈ ds, ∃ p e', d = Frame.data p e' :=
    fun hds d hd => (hds d hd).elim fun q hq => ⟨q, false, hq⟩
  rcases final_run env isHead acts with ⟨F, _, h⟩ | ⟨_, F, ds, last, h, hds, ⟨p, rfl⟩ | ⟨T, _, rfl⟩⟩
  · exact ⟨F, true, [], [], h, fun _ hf => absurd hf List.not_mem_nil, Or.inl rfl⟩
  · refine ⟨F, false, ds ++ [Frame.data p true], [], by rw [h, List.append_nil], fun d hd => ?_, Or.inl rfl⟩
    rcases List.mem_append.mp hd with hd | hd
    · exact data hds d hd
    · exact ⟨p, true, List.mem_singleton.mp hd⟩
  · exact ⟨F, false, ds, _, h, data hds, Or.inr ⟨T, rfl⟩⟩

/-- a header (or trailer) block whose HPACK encoding is `L > 0` bytes long is written as
    one HEADERS frame carrying the block's END_STREAM flag, followed by CONTINUATION frames that never carry
    END_STREAM; END_HEADERS is set on the last frame and only there; every fragment has 1..16384 bytes and the
    fragments add up to `L`.  (Holds for every `L`, i.e. for any number of CONTINUATION frames.) -/
theorem C38_continuation_split (L : Nat) (es : Bool) (hL : 0 < L) :
    (∃ w rest, splitBlock L es = w :: rest ∧ w.cont = false ∧ w.es = es ∧ ∀ c ∈ rest, c.cont = true ∧ c.es = false) ∧
    ehOk (splitBlock L es) = true ∧
    (∀ w ∈ splitBlock L es, 0 < w.len ∧ w.len ≤ 16384) ∧
    ((splitBlock L es).map (·.len)).sum = L :=
  have h := splitAux_spec L L true es (Nat.le_refl _)
  ⟨splitBlock_cons L es hL, h.2.1, h.2.2.1, h.1⟩

/-- exactly one wire frame carries END_STREAM; nothing but CONTINUATION frames of the same block follows it -/
def WireEndOnce (ws : List Wire) : Prop :=
  ∃ pre w conts, ws = pre ++ [w] ++ conts ∧ w.es = true ∧ (∀ x ∈ pre, x.es = false) ∧
    (∀ c ∈ conts, c.cont = true ∧ c.es = false)

/-- `C38_end_stream_once` on the wire, for every HPACK length function that gives
    non-empty blocks to non-empty field lists — also when header or trailer blocks are split into HEADERS +
    CONTINUATION frames: exactly one frame carries END_STREAM; it is a DATA frame or the HEADERS frame of the last
    block, and only that block's CONTINUATION frames follow it. -/
theorem C38_end_stream_once_wire (env : Env) (encLen : List (Str × Str) → Nat)
    (henc : ∀ F, F ≠ [] → 0 < encLen F) (isHead : Bool) (acts : List Act) :
    WireEndOnce (wireOf encLen (runHandler env isHead acts).out) := by
  rcases final_run env isHead acts with ⟨F, hF, h⟩ | ⟨_, F, ds, last, h, hds, hl⟩
  · obtain ⟨w, rest, e, _, h2, h3⟩ := splitBlock_cons (encLen F) true (henc F hF)
    exact ⟨[], w, rest, by rw [h]; exact (List.append_nil _).trans e, h2, fun _ hx => absurd hx List.not_mem_nil, h3⟩
  · have hno := wireOf_noes encLen _ (noEnd_of_data (F := F) hds)
    rw [show (runHandler env isHead acts).out = (Frame.headers F false :: ds) ++ [last] from h, wireOf_append]
    rcases hl with ⟨p, rfl⟩ | ⟨T, hT, rfl⟩
    · exact ⟨_, { cont := false, es := true, eh := false, len := p.length }, [], (List.append_nil _).symm, rfl, hno,
        fun _ hx => absurd hx List.not_mem_nil⟩
    · obtain ⟨w, rest, e, _, h2, h3⟩ := splitBlock_cons (encLen T) true (henc T hT)
      exact ⟨_, w, rest, by rw [List.append_assoc]; exact congrArg _ ((List.append_nil _).trans e), h2, hno, h3⟩

/-- trailer `X-T1` declared, never set: the DATA frame carries END_STREAM (on this input bfe without
    fixes/C38-no-end-stream.md sent no END_STREAM at all) -/
def witnessActs : List Act := [Act.add sTrailer [88, 45, 84, 49], Act.write [97]]

example : ((runHandler envConst false witnessActs).out.map Frame.es) = [false, true] := by decide +kernel

/-- a block of 16385 bytes that ends the stream: HEADERS(END_STREAM, 16384 bytes) + CONTINUATION(END_HEADERS, 1 byte) -/
example : splitBlock 16385 true =
    [{ cont := false, es := true, eh := false, len := 16384 }, { cont := true, es := false, eh := true, len := 1 }] := by
  decide +kernel

example : splitBlock 16384 true = [{ cont := false, es := true, eh := true, len := 16384 }] := by decide +kernel

/-- a response with real trailers: HEADERS, DATA, trailers(END_STREAM) -/
example : ((runHandler envConst false
    [Act.add sTrailer [88, 45, 84, 49], Act.write [97], Act.flush, Act.add [88, 45, 84, 49] [118]]).out.map Frame.es)
    = [false, false, true] := by decide +kernel

/-- non-vacuity of C38_no_conn_specific: the handler sets `connection` / `Keep-Alive` / `UPGRADE` and a normal
    header; the model emits the normal one and none of the others. -/
example : fieldsOf (runHandler envConst false
    [Act.add [99,111,110,110,101,99,116,105,111,110] [120], Act.add [75,101,101,112,45,65,108,105,118,101] [120],
     Act.add [85,80,71,82,65,68,69] [120], Act.add [88,45,65] [118]]).out
    = [(lStatus, [50,48,48]), ([120,45,97], [118]), (lContentType, [64]), (lContentLength, [48]), (lDate, [64])] := by
  decide +kernel

end BfeVerif.C38
