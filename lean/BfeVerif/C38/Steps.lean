import BfeVerif.C38.Proofs
/-!
  A handler run.  `step`, and the `Write` / `Flush` / bufio code under it, is built from `writeHeader`, `writeChunk`,
  updates of `hh`, `buf`, `wres`, `acc`, `wroteBytes` (`writeChunk` reads `hh`, the bufio code `buf`; the invariants here
  read neither), and raising the bufio error after a call that sent the HEADERS: a predicate that survives these four
  (`Stable`) survives a whole run.  Only the body bytes of a non-HEAD response, which live in the updated fields, are
  followed step by step.
-/
namespace BfeVerif.C38

structure Stable (env : Env) (P : St → Prop) : Prop where
  wh : ∀ s c, P s → P (writeHeader s c)
  wc : ∀ s p, P s → P (writeChunk env s p)
  upd : ∀ s hh buf wres acc n, P s → P { s with hh := hh, buf := buf, wres := wres, acc := acc, wroteBytes := n }
  err : ∀ s, P s → s.sentHeader = true → P { s with bwErr := true }

theorem bwWrite_ind {env : Env} {P : St → Prop} (hwc : ∀ s p, P s → P (writeChunk env s p))
    (hbuf : ∀ s b, P s → P { s with buf := b }) (s : St) (p : List Nat) (h : P s) : P (bwWrite env s p) := by
  unfold bwWrite
  refine iteInduction (fun _ => hbuf _ _ h) fun _ => iteInduction (fun _ => hwc _ _ h) fun _ => ?_
  exact iteInduction (motive := P) (fun _ => hbuf _ _ (hwc _ _ (hbuf _ _ h))) (fun _ => hwc _ _ (hwc _ _ (hbuf _ _ h)))

theorem bwWrite_sent (env : Env) (s : St) (p : List Nat) (hgt : p.length > bufSize - s.buf.length) :
    (bwWrite env s p).sentHeader = true := by
  unfold bwWrite
  rw [if_neg (Nat.not_le.mpr hgt)]
  exact iteInduction (motive := fun r : St => r.sentHeader = true) (fun _ => writeChunk_sent env _ _) fun _ =>
    iteInduction (motive := fun r : St => r.sentHeader = true) (fun _ => writeChunk_sent env _ _)
      (fun _ => writeChunk_sent env _ _)

/-- `Flush` with an empty buffer is still "write out the buffer" -/
theorem writeChunk_emptyBuf (env : Env) (s : St) (h : ¬s.buf.length > 0) :
    writeChunk env s [] = writeChunk env { s with buf := [] } s.buf := by
  have e : s.buf = [] := List.eq_nil_of_length_eq_zero (Nat.eq_zero_of_not_pos h)
  rw [e, show { s with buf := [] } = s by rw [← e]]

/-- `Flush` is one `writeChunk` call that takes the buffer; for a HEAD response the sticky bufio error makes it a
    no-op, and the call that sends the HEADERS with a non-empty buffer raises it -/
theorem rwFlush_cases {env : Env} {Q : St → Prop} (s : St) (hstick : s.isHead = true → s.bwErr = true → Q s)
    (hwc : Q (writeChunk env { s with buf := [] } s.buf))
    (herr : ∀ r, Q r → r.sentHeader = true → Q { r with bwErr := true }) : Q (rwFlush env s) := by
  have h0 : ¬s.buf.length > 0 → Q (writeChunk env s []) := fun h => writeChunk_emptyBuf env s h ▸ hwc
  unfold rwFlush rwFlushHead rwFlushGet
  -- HEAD: sticky / raises the error / plain / empty buffer; GET
  exact iteInduction (fun hh => iteInduction (fun _ => iteInduction (hstick hh) fun _ =>
      iteInduction (fun _ => herr _ hwc (writeChunk_sent env _ _)) (fun _ => hwc)) h0)
    (fun _ => iteInduction (fun _ => hwc) h0)

variable {env : Env} {P : St → Prop}

theorem Stable.buf (h : Stable env P) (s : St) (b : List Nat) (hs : P s) : P { s with buf := b } :=
  h.upd s s.hh b s.wres s.acc s.wroteBytes hs

theorem Stable.bufWrite (h : Stable env P) (s : St) (p : List Nat) (hs : P s) : P (bwWrite env s p) :=
  bwWrite_ind h.wc h.buf s p hs

theorem Stable.write (h : Stable env P) (s : St) (p : List Nat) (hs : P s) : P (rwWrite env s p) := by
  unfold rwWrite
  rw [implicitHeader_eq]
  have h1 := h.wh s 200 hs
  generalize writeHeader s 200 = s1 at h1
  have hw : ∀ (r : St) w a, P r → P { r with wres := w, acc := a } := fun r w a hr => h.upd r r.hh r.buf w a r.wroteBytes hr
  have h2 : P { s1 with wroteBytes := s1.wroteBytes + p.length } := h.upd s1 s1.hh s1.buf s1.wres s1.acc _ h1
  -- notAllowed / overLength / HEAD (below) / GET
  refine iteInduction (fun _ => hw _ _ s1.acc h1) fun _ => iteInduction (fun _ => hw _ _ s1.acc h2) fun _ => iteInduction (fun _ => ?_)
    (fun _ => hw _ _ _ (h.bufWrite _ p h2))
  unfold rwWriteHead
  -- sticky / the short write that raises the error / plain
  refine iteInduction (fun _ => hw _ _ s1.acc h2) fun _ => iteInduction (fun hshort => ?_) (fun _ => hw _ _ _ (h.bufWrite _ p h2))
  have hgt := of_decide_eq_true (Bool.and_eq_true _ _ ▸ hshort).2
  exact hw _ _ _ (h.err _ (h.bufWrite _ p h2) (bwWrite_sent env _ p hgt))

theorem Stable.flush (h : Stable env P) (s : St) (hs : P s) : P (rwFlush env s) :=
  rwFlush_cases s (fun _ _ => hs) (h.wc _ _ (h.buf s [] hs)) h.err

theorem Stable.act (h : Stable env P) (s : St) (a : Act) (hs : P s) : P (step env s a) := by
  cases a with
  | add k v | setFirst k v => exact h.upd s _ s.buf s.wres s.acc s.wroteBytes hs
  | status c => exact h.wh s c hs
  | write p => exact h.write s p hs
  | flush => exact h.flush s hs

theorem Stable.acts (h : Stable env P) (acts : List Act) (s : St) (hs : P s) : P (acts.foldl (step env) s) :=
  List.foldlRecOn acts _ hs fun s hs a _ => h.act s a hs

/-- `runHandler env h acts = finish env { isHead := h } acts` by `rfl`; the start state is a variable for the inductions
    of Status -/
def finish (env : Env) (s : St) (acts : List Act) : St :=
  rwFlush env { acts.foldl (step env) s with handlerDone := true }

/-- `hd` is not a field of `Stable`: `Running` (Shape) is not closed under it, so `final_run` takes `Stable.acts` and
    walks the last `rwFlush` itself -/
theorem Stable.run (h : Stable env P) (hd : ∀ s, P s → P { s with handlerDone := true }) (acts : List Act) (s : St)
    (hs : P s) : P (finish env s acts) :=
  h.flush _ (hd _ (h.acts acts s hs))

theorem inv_stable (env : Env) : Stable env Inv :=
  ⟨fun s c => (writeHeader_keeps s c).inv, fun s p => (writeChunk_keeps env s p).inv, fun _ _ _ _ _ _ h => h, fun _ h _ => h⟩

theorem inv_init (isHead : Bool) : Inv { isHead := isHead } :=
  ⟨fun _ he => absurd he List.not_mem_nil, fun _ hk => absurd hk List.not_mem_nil, fun _ hf => absurd hf List.not_mem_nil⟩

theorem inv_run (env : Env) (isHead : Bool) (acts : List Act) : Inv (runHandler env isHead acts) :=
  (inv_stable env).run (fun _ h => h) acts _ (inv_init isHead)

/-- a non-HEAD response has taken in the bytes `t` -/
def Body (t : List Nat) (r : St) : Prop := r.isHead = false ∧ bodyOf r.out ++ r.buf = t

def Flushed (t : List Nat) (r : St) : Prop := Body t r ∧ r.buf = []

/-- `writeChunk` is only ever called on an emptied buffer; it moves its chunk into the DATA payloads -/
theorem writeChunk_body (env : Env) (r : St) (q t : List Nat) (h : Body t r) (hb : r.buf = []) :
    Flushed (t ++ q) (writeChunk env r q) := by
  have k := writeChunk_keeps env r q
  refine ⟨⟨k.isHead.trans h.1, ?_⟩, k.buf.trans hb⟩
  rw [k.body h.1, k.buf, ← h.2, hb, List.append_nil, List.append_nil]

theorem writeChunk_body_emptied (env : Env) (s : St) (q : List Nat) (hh : s.isHead = false) :
    Flushed (bodyOf s.out ++ q) (writeChunk env { s with buf := [] } q) :=
  writeChunk_body env { s with buf := [] } q _ ⟨hh, List.append_nil _⟩ rfl

theorem bwWrite_body (env : Env) (s : St) (p t : List Nat) (h : Body t s) : Body (t ++ p) (bwWrite env s p) := by
  unfold bwWrite
  refine iteInduction (fun _ => ⟨h.1, by rw [← h.2]; exact (List.append_assoc _ _ _).symm⟩) fun _ =>
    iteInduction (fun hb => (writeChunk_body env s p t h (List.isEmpty_iff.mp hb)).1) fun _ => ?_
  obtain ⟨h1, b1⟩ := writeChunk_body_emptied env s (s.buf ++ p.take (bufSize - s.buf.length)) h.1
  rw [← List.append_assoc, h.2] at h1
  have e : t ++ p.take (bufSize - s.buf.length) ++ p.drop (bufSize - s.buf.length) = t ++ p := by
    rw [List.append_assoc, List.take_append_drop]
  refine iteInduction (fun _ => ⟨h1.1, ?_⟩) (fun _ => e ▸ (writeChunk_body env _ _ _ h1 b1).1)
  show bodyOf (writeChunk env _ _).out ++ p.drop _ = t ++ p
  rw [← e, ← h1.2, b1, List.append_nil]

theorem rwFlush_body (env : Env) (s : St) (t : List Nat) (h : Body t s) : Flushed t (rwFlush env s) :=
  rwFlush_cases s (fun hh => absurd hh (ne_true_of_eq_false h.1))
    (h.2 ▸ writeChunk_body_emptied env s s.buf h.1) fun _ h _ => h

theorem rwFlush_acc (env : Env) (s : St) : (rwFlush env s).acc = s.acc :=
  rwFlush_cases (Q := fun r => r.acc = s.acc) s (fun _ _ => rfl) (writeChunk_keeps env _ _).acc fun _ h _ => h

def BodyOK (r : St) : Prop := Body r.acc r

theorem Keeps.bodyOK {s r : St} (k : Keeps s r []) (h : BodyOK s) : BodyOK r :=
  ⟨k.isHead.trans h.1, by rw [k.body h.1, k.buf, k.acc, List.append_nil]; exact h.2⟩

theorem bodyOK_step (env : Env) (s : St) (a : Act) (h : BodyOK s) : BodyOK (step env s a) := by
  cases a with
  | add k v | setFirst k v => exact h
  | status c => exact (writeHeader_keeps s c).bodyOK h
  | write p =>
    have h1 := (writeHeader_keeps s 200).bodyOK h
    show BodyOK (rwWrite env s p)
    unfold rwWrite
    rw [implicitHeader_eq]
    generalize writeHeader s 200 = s1 at h1
    -- notAllowed / overLength / HEAD / GET
    refine iteInduction (fun _ => h1) fun _ => iteInduction (fun _ => h1) fun _ => iteInduction (fun hc => ?_) (fun _ => ?_)
    · exact absurd hc (ne_true_of_eq_false h1.1)
    · have ha : (bwWrite env { s1 with wroteBytes := s1.wroteBytes + p.length } p).acc = s1.acc :=
        bwWrite_ind (P := fun r : St => r.acc = s1.acc) (fun r q hr => (writeChunk_keeps env r q).acc.trans hr)
          (fun _ _ hr => hr) _ p rfl
      have hb := bwWrite_body env { s1 with wroteBytes := s1.wroteBytes + p.length } p s1.acc h1
      exact And.intro hb.1 (hb.2.trans (congrArg (· ++ p) ha.symm))
  | flush =>
    show Body (rwFlush env s).acc (rwFlush env s)
    rw [rwFlush_acc]
    exact (rwFlush_body env s s.acc h).1

theorem finish_body (env : Env) (acts : List Act) (s : St) (h : BodyOK s) :
    bodyOf (finish env s acts).out = (finish env s acts).acc := by
  obtain ⟨hf, hb⟩ := rwFlush_body env { acts.foldl (step env) s with handlerDone := true } _
    (List.foldlRecOn acts _ h fun s h a _ => bodyOK_step env s a h)
  unfold finish
  rw [rwFlush_acc, ← hf.2, hb, List.append_nil]

theorem rwWriteHead_sticky (env : Env) (s : St) (p : List Nat) (hb : s.bwErr = true) :
    rwWriteHead env s p = { s with wres := s.wres ++ [WRes.shortWrite] } := if_pos hb

theorem rwWrite_refused (env : Env) (s : St) (p : List Nat) (hw : s.wroteHeader = true)
    (hs : bodyAllowed s.status = false) : rwWrite env s p = { s with wres := s.wres ++ [WRes.notAllowed] } := by
  unfold rwWrite
  rw [implicitHeader_eq, writeHeader_of_wrote s 200 hw]
  exact if_pos (congrArg not hs)

end BfeVerif.C38
