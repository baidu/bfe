import BfeVerif.C38.Model
/-!
  C38 — key handling (`canon` against `lower`, `sortStrs`, `encodeHeaders`), then one `writeChunk` call: its pieces are
  described by the record update they perform (`headerPart_unsent`: the HEADERS frame it adds is `SpecFields`); `Keeps`
  collects what a whole call leaves alone, with the invariant `Inv` (no connection-specific field name can reach the
  wire) and the DATA bytes it adds.
-/
namespace BfeVerif.C38
open BfeVerif.Generated.C38

theorem lowerByte_upper {b : Nat} (h : 65 ≤ b ∧ b ≤ 90) : lowerByte b = b + 32 := if_pos h
theorem lowerByte_other {b : Nat} (h : ¬(65 ≤ b ∧ b ≤ 90)) : lowerByte b = b := if_neg h
theorem upperByte_lower {b : Nat} (h : 97 ≤ b ∧ b ≤ 122) : upperByte b = b - 32 := if_pos h
theorem upperByte_other {b : Nat} (h : ¬(97 ≤ b ∧ b ≤ 122)) : upperByte b = b := if_neg h

theorem lowerByte_upperByte (b : Nat) : lowerByte (upperByte b) = lowerByte b := by
  by_cases h : 97 ≤ b ∧ b ≤ 122
  · rw [upperByte_lower h, lowerByte_upper (by omega), lowerByte_other (by omega)]; omega
  · rw [upperByte_other h]

theorem upperByte_lowerByte (b : Nat) : upperByte (lowerByte b) = upperByte b := by
  by_cases h : 65 ≤ b ∧ b ≤ 90
  · rw [lowerByte_upper h, upperByte_lower (by omega), upperByte_other (by omega)]; omega
  · rw [lowerByte_other h]

theorem lowerByte_idem (b : Nat) : lowerByte (lowerByte b) = lowerByte b := by
  by_cases h : 65 ≤ b ∧ b ≤ 90
  · rw [lowerByte_upper h, lowerByte_other (by omega)]
  · rw [lowerByte_other h, lowerByte_other h]

theorem lowerByte_dash (b : Nat) : (lowerByte b == 45) = (b == 45) := by
  by_cases h : 65 ≤ b ∧ b ≤ 90
  · rw [lowerByte_upper h, beq_eq_false_iff_ne.mpr (by omega : b + 32 ≠ 45), beq_eq_false_iff_ne.mpr (by omega : b ≠ 45)]
  · rw [lowerByte_other h]

theorem lower_canonAux (up : Bool) (k : Str) : lower (canonAux up k) = lower k := by
  induction k generalizing up with
  | nil => rfl
  | cons b r ih =>
    show (_ :: lower (canonAux (b == 45) r)) = _ :: lower r
    rw [ih]
    cases up
    · exact congrArg (· :: _) (lowerByte_idem b)
    · exact congrArg (· :: _) (lowerByte_upperByte b)

theorem canonAux_lower (up : Bool) (k : Str) : canonAux up (lower k) = canonAux up k := by
  induction k generalizing up with
  | nil => rfl
  | cons b r ih =>
    show (_ :: canonAux (lowerByte b == 45) (lower r)) = _ :: canonAux (b == 45) r
    rw [lowerByte_dash, ih]
    cases up
    · exact congrArg (· :: _) (lowerByte_idem b)
    · exact congrArg (· :: _) (upperByte_lowerByte b)

theorem isToken_of_lower (b : Nat) (h : isToken (lowerByte b) = true) : isToken b = true := by
  by_cases hb : 65 ≤ b ∧ b ≤ 90
  · simp [isToken, hb.1, hb.2]
  · rwa [lowerByte_other hb] at h

theorem allToken_of_lower (k : Str) (h : (lower k).all isToken = true) : k.all isToken = true := by
  rw [List.all_eq_true] at h ⊢
  exact fun b hb => isToken_of_lower b (h _ (List.mem_map_of_mem hb))

/-- lower-cased RFC 7540 8.1.2.2 names (from the server's `connHeaders`) -/
def connLower : List Str := connHeaders.map lower

theorem conn_in_hop : ∀ c ∈ connLower, c.all isToken = true ∧ isHop (canonAux true c) = true := by decide +kernel

/-- the `HopHeaders[CanonicalHeaderKey(k)]` lookup catches every spelling of a connection-specific name -/
theorem hop_of_lower (k : Str) (hc : lower k ∈ connLower) : isHop (canon k) = true := by
  obtain ⟨ht, hh⟩ := conn_in_hop _ hc
  unfold canon
  rw [if_pos (allToken_of_lower k ht), ← canonAux_lower]
  exact hh

theorem lower_canon (k : Str) : lower (canon k) = lower k :=
  iteInduction (motive := fun x => lower x = lower k) (fun _ => lower_canonAux _ _) (fun _ => rfl)

theorem insertSorted_perm (k : Str) (l : List Str) : (insertSorted k l).Perm (k :: l) := by
  fun_induction insertSorted k l with
  | case1 => exact .refl _
  | case2 y r _ ih => exact (ih.cons y).trans (.swap k y r)
  | case3 y r _ => exact .refl _

theorem sortStrs_perm (l : List Str) : (sortStrs l).Perm l := by
  induction l with
  | nil => exact .refl _
  | cons y r ih => exact (insertSorted_perm y _).trans (ih.cons y)

theorem mem_encodeHeaders_iff (h : HMap) (keys : List Str) (f : Str × Str) :
    f ∈ encodeHeaders h keys ↔ ∃ k ∈ keys, ∃ v ∈ hget h k, validName (lower k) = true ∧ validValue v = true ∧
      (lower k == lTransferEncoding && !(v == lTrailers)) = false ∧ f = (lower k, v) := by
  unfold encodeHeaders
  rw [List.mem_flatMap]
  refine exists_congr fun k => and_congr_right fun _ => ?_
  cases hv : validName (lower k)
  · simp [hv]
  · simp only [hv, Bool.not_true, Bool.false_eq_true, if_false, List.mem_filterMap, true_and]
    refine exists_congr fun v => and_congr_right fun _ => ?_
    cases validValue v <;> cases (lower k == lTransferEncoding && !(v == lTrailers)) <;> simp [eq_comm]

theorem fieldsOf_append (a b : List Frame) : fieldsOf (a ++ b) = fieldsOf a ++ fieldsOf b := by
  induction a with
  | nil => rfl
  | cons x r ih => cases x <;> simp [fieldsOf, ih]

theorem bodyOf_append (a b : List Frame) : bodyOf (a ++ b) = bodyOf a ++ bodyOf b := by
  induction a with
  | nil => rfl
  | cons x r ih => cases x <;> simp [bodyOf, ih]

theorem emitHeaders_append (o : List Frame) (fs : List (Str × Str)) (e : Bool) :
    emitHeaders o fs e = o ++ emitHeaders [] fs e := by
  unfold emitHeaders
  cases fs.isEmpty
  · rfl
  · exact (List.append_nil o).symm

theorem emitHeaders_fields_body (o : List Frame) (fs : List (Str × Str)) (e : Bool) :
    fieldsOf (emitHeaders o fs e) = fieldsOf o ++ fs ∧ bodyOf (emitHeaders o fs e) = bodyOf o := by
  unfold emitHeaders
  refine iteInduction (motive := fun l => fieldsOf l = fieldsOf o ++ fs ∧ bodyOf l = bodyOf o) (fun h => ?_) (fun _ => ?_)
  · rw [List.isEmpty_iff.mp h, List.append_nil]; exact ⟨rfl, rfl⟩
  · rw [fieldsOf_append, bodyOf_append]
    exact ⟨congrArg _ (List.append_nil fs), List.append_nil _⟩

/-- a key that `encodeHeaders` cannot turn into a connection-specific name -/
def Safe (k : Str) : Prop := lower k ∉ connLower

theorem safe_of_not_hop {k : Str} (h : isHop (canon k) = false) : Safe k :=
  fun hc => absurd (hop_of_lower k hc) (ne_true_of_eq_false h)

theorem Safe.canon {k : Str} (h : Safe k) : Safe (canon k) := by
  unfold Safe
  rwa [lower_canon]

def KeysOK (ks : List Str) : Prop := ∀ k ∈ ks, Safe k

/-!
  Every key of the snapshot passed `cloneHeader`'s filter, every declared trailer passed `declareTrailer`'s,
  and no field written so far has a connection-specific name. -/
def SnapOK (m : HMap) : Prop := KeysOK (m.map (·.1))
def OutOK (o : List Frame) : Prop := ∀ f ∈ fieldsOf o, f.1 ∉ connLower
def Inv (s : St) : Prop := SnapOK s.snap ∧ KeysOK s.trailers ∧ OutOK s.out

theorem Inv.snap {s : St} (h : Inv s) : SnapOK s.snap := h.1
theorem Inv.trailers {s : St} (h : Inv s) : KeysOK s.trailers := h.2.1
theorem Inv.out {s : St} (h : Inv s) : OutOK s.out := h.2.2

theorem outOK_append {a b : List Frame} (ha : OutOK a) (hb : ∀ f ∈ fieldsOf b, f.1 ∉ connLower) : OutOK (a ++ b) := by
  intro f hf
  rw [fieldsOf_append] at hf
  exact (List.mem_append.mp hf).elim (ha f) (hb f)

theorem snapOK_clone (h : HMap) : SnapOK (cloneHeader h) := by
  intro k hk
  obtain ⟨e, he, rfl⟩ := List.mem_map.mp hk
  exact safe_of_not_hop (by simpa using (List.mem_filter.mp he).2)

theorem snapOK_clenSnap (m : HMap) (h : SnapOK m) : SnapOK (clenSnap m) :=
  iteInduction (motive := SnapOK) (fun _ k hk => h k ((List.filter_sublist.map _).subset hk)) (fun _ => h)

theorem keysOK_declare (t : List Str) (k : Str) (h : KeysOK t) : KeysOK (declareTrailer t k) := by
  unfold declareTrailer
  refine iteInduction (fun _ => h) fun _ => iteInduction (fun _ => h) fun h2 => iteInduction (fun _ => h) fun _ => ?_
  intro x hx
  rcases List.mem_append.mp hx with hx | hx
  · exact h x hx
  · exact List.mem_singleton.mp hx ▸ (safe_of_not_hop (by simpa using h2)).canon

theorem keysOK_sort (t : List Str) (h : KeysOK t) : KeysOK (sortStrs t) := fun k hk => h k ((sortStrs_perm t).subset hk)

theorem enc_ok (m : HMap) (keys : List Str) (h : KeysOK keys) :
    ∀ f ∈ encodeHeaders m keys, f.1 ∉ connLower := by
  intro f hf
  obtain ⟨k, hk, v, _, _, _, _, rfl⟩ := (mem_encodeHeaders_iff _ _ _).mp hf
  exact h k hk

theorem writeHeader_of_wrote (s : St) (c : Nat) (h : s.wroteHeader = true) : writeHeader s c = s := if_pos h

theorem writeHeader_update (s : St) (c : Nat) :
    ∃ w st sn, writeHeader s c = { s with wroteHeader := w, status := st, snap := sn } ∧ (SnapOK s.snap → SnapOK sn) := by
  by_cases h : s.wroteHeader = true
  · exact ⟨s.wroteHeader, s.status, s.snap, writeHeader_of_wrote s c h, id⟩
  · refine ⟨_, _, _, if_neg h, ?_⟩
    exact iteInduction (motive := fun m => SnapOK s.snap → SnapOK m) (fun _ _ => snapOK_clone _) (fun _ => id)

theorem writeHeader_preserves {P : St → Prop} {s : St} (c : Nat)
    (h : ∀ w st sn, P { s with wroteHeader := w, status := st, snap := sn }) : P (writeHeader s c) := by
  obtain ⟨w, st, sn, e, _⟩ := writeHeader_update s c
  rw [e]; exact h w st sn

theorem writeHeader_wrote (s : St) (c : Nat) : (writeHeader s c).wroteHeader = true := by
  unfold writeHeader
  cases h : s.wroteHeader
  · rfl
  · exact h

theorem writeHeader_idem (s : St) (c c' : Nat) : writeHeader (writeHeader s c) c' = writeHeader s c :=
  writeHeader_of_wrote _ _ (writeHeader_wrote s c)

theorem implicitHeader_eq (s : St) : (if (!s.wroteHeader) = true then writeHeader s 200 else s) = writeHeader s 200 := by
  cases h : s.wroteHeader
  · rfl
  · exact (writeHeader_of_wrote s 200 h).symm

theorem clenPart_update (s : St) : ∃ n, (clenPart s).1 = { s with snap := clenSnap s.snap, sentContentLen := n } := by
  unfold clenPart clenSnap
  by_cases h : (!((hget s.snap sContentLength).headD []).isEmpty) = true
  · simp only [h, if_true]
    cases parseNonNeg ((hget s.snap sContentLength).headD []) with
    | none => exact ⟨s.sentContentLen, rfl⟩
    | some n => exact ⟨n, rfl⟩
  · simp only [h]
    exact ⟨s.sentContentLen, rfl⟩

/-- the field list of `C38_status_headers` -/
def SpecFields (S : HMap) (st : Nat) (autos : List (Str × Str)) : List (Str × Str) :=
  (lStatus, itoa st) :: (encodeHeaders S (sortStrs (S.map (·.1))) ++ autos)

def AutosOK (autos : List (Str × Str)) : Prop :=
  ∀ f ∈ autos, f.1 = lContentType ∨ f.1 = lContentLength ∨ f.1 = lDate

theorem mem_optField (n c : Str) (f : Str × Str) (h : f ∈ optField n c) : f.1 = n := by
  unfold optField at h
  split at h
  · cases h
  · rw [List.mem_singleton.mp h]

theorem headerFields_spec (env : Env) (s : St) (c : Str) (p : List Nat) :
    ∃ autos, AutosOK autos ∧ headerFields env s c p = SpecFields s.snap s.status autos := by
  -- `autos` (the `_`) = the content-type, content-length and date `optField`s of `headerFields`, re-bracketed
  refine ⟨_, ?_, List.append_assoc _ _ _ |>.trans (List.append_assoc _ _ _) |>.trans (List.append_assoc _ _ _)⟩
  intro f hf
  rcases List.mem_append.mp hf with hf | hf
  · exact Or.inl (mem_optField _ _ f hf)
  · rcases List.mem_append.mp hf with hf | hf
    · exact Or.inr (Or.inl (mem_optField _ _ f hf))
    · exact Or.inr (Or.inr (mem_optField _ _ f hf))

theorem server_names_not_conn : lStatus ∉ connLower ∧ lContentType ∉ connLower ∧ lContentLength ∉ connLower ∧ lDate ∉ connLower := by
  decide +kernel

theorem specFields_ok (S : HMap) (st : Nat) (autos : List (Str × Str)) (h : SnapOK S) (ha : AutosOK autos) :
    ∀ f ∈ SpecFields S st autos, f.1 ∉ connLower := by
  obtain ⟨a1, a2, a3, a4⟩ := server_names_not_conn
  intro f hf
  rcases List.mem_cons.mp hf with hf | hf
  · rw [hf]; exact a1
  · rcases List.mem_append.mp hf with hf | hf
    · exact enc_ok S _ (keysOK_sort _ h) f hf
    · rcases ha f hf with e | e | e <;> rw [e] <;> assumption

theorem headerPart_sent (env : Env) (s : St) (p : List Nat) (h : s.sentHeader = true) :
    headerPart env s p = (s, false) := by
  unfold headerPart; simp [h]

theorem headerPart_unsent (env : Env) (s : St) (p : List Nat) (h : s.sentHeader = false) :
    ∃ n tr autos, AutosOK autos ∧ (KeysOK s.trailers → KeysOK tr) ∧
      headerPart env s p =
        ({ s with sentHeader := true, snap := clenSnap s.snap, sentContentLen := n, trailers := tr,
                  out := s.out ++ [Frame.headers (SpecFields (clenSnap s.snap) s.status autos)
                    ((s.handlerDone && tr.isEmpty && p.isEmpty) || s.isHead)] },
         (s.handlerDone && tr.isEmpty && p.isEmpty) || s.isHead) := by
  obtain ⟨n, e⟩ := clenPart_update { s with sentHeader := true }
  unfold headerPart
  simp only [h, Bool.not_false, if_true, e]
  obtain ⟨autos, ha, hf⟩ := headerFields_spec env
    { s with sentHeader := true, snap := clenSnap s.snap, sentContentLen := n,
             trailers := ((hget (clenSnap s.snap) sTrailer).flatMap headerElements).foldl declareTrailer s.trailers }
    (clenPart { s with sentHeader := true }).2 p
  rw [hf]
  exact ⟨n, _, autos, ha, fun h => List.foldlRecOn _ _ h fun t ht k _ => keysOK_declare t k ht, rfl⟩

def Promoted (s r : St) : Prop := ∃ hh tr, r = { s with hh := hh, trailers := tr } ∧ (KeysOK s.trailers → KeysOK tr)

theorem Promoted.refl (s : St) : Promoted s s := ⟨s.hh, s.trailers, rfl, id⟩

theorem Promoted.trans {a b c : St} (h1 : Promoted a b) (h2 : Promoted b c) : Promoted a c := by
  obtain ⟨_, _, rfl, t1⟩ := h1
  obtain ⟨hh, tr, rfl, t2⟩ := h2
  exact ⟨hh, tr, rfl, t2 ∘ t1⟩

theorem promote_promoted (s : St) : Promoted s (promote s) := by
  unfold promote
  extract_lets s1
  have h1 : Promoted s s1 := List.foldlRecOn _ _ (.refl s) fun st h _ _ =>
    h.trans (iteInduction (fun _ => ⟨_, _, rfl, keysOK_declare _ _⟩) fun _ => .refl st)
  exact h1.trans (iteInduction (fun _ => ⟨_, _, rfl, keysOK_sort _⟩) fun _ => .refl s1)

/-- `hasNonempty` (fixes/C38-no-end-stream.md) is right: a trailers frame that is attempted is never empty -/
theorem encode_nonempty (s : St) (ht : KeysOK s.trailers) (hn : hasNonempty s = true) :
    encodeHeaders s.hh s.trailers ≠ [] := by
  unfold hasNonempty at hn
  obtain ⟨k, hk, hv⟩ := List.any_eq_true.mp hn
  obtain ⟨v, hv1, hv2⟩ := List.any_eq_true.mp hv
  rw [Bool.and_eq_true] at hv2
  -- `transfer-encoding` is itself in `connLower`, so a `Safe` key is not the one `encodeHeaders` drops unless its value
  -- is `trailers`
  have hne : (lower k == lTransferEncoding) = false := by
    cases hb : (lower k == lTransferEncoding)
    · rfl
    · have hte : lTransferEncoding ∈ connLower := by decide
      exact absurd (eq_of_beq hb ▸ hte) (ht k hk)
  exact List.ne_nil_of_mem
    ((mem_encodeHeaders_iff _ _ (lower k, v)).mpr ⟨k, hk, v, hv1, hv2.1, hv2.2, by rw [hne]; rfl, rfl⟩)

def dataPart (p : List Nat) (es : Bool) : List Frame :=
  if (decide (p.length > 0) || es) = true then [Frame.data p es] else []

def bodyTail (done ne : Bool) (T : List (Str × Str)) (p : List Nat) : List Frame :=
  dataPart p (done && !ne) ++ if (done && ne) = true then emitHeaders [] T true else []

theorem bodyPart_eq (s : St) (p : List Nat) :
    ∃ hh tr ne, (KeysOK s.trailers → KeysOK tr ∧ (ne = true → encodeHeaders hh tr ≠ [])) ∧
      bodyPart s p =
        { s with hh := hh, trailers := tr, out := s.out ++ bodyTail s.handlerDone ne (encodeHeaders hh tr) p } := by
  obtain ⟨hh, tr, e, h⟩ : Promoted s (if s.handlerDone = true then promote s else s) :=
    iteInduction (fun _ => promote_promoted s) (fun _ => Promoted.refl s)
  refine ⟨hh, tr, hasNonempty { s with hh := hh, trailers := tr },
    fun ht => ⟨h ht, encode_nonempty { s with hh := hh, trailers := tr } (h ht)⟩, ?_⟩
  unfold bodyPart bodyTail
  extract_lets s1 ne es s2
  have e1 : s1 = { s with hh := hh, trailers := tr } := e
  have e2 : s2 = { s1 with out := s1.out ++ dataPart p es } := by
    unfold s2 dataPart
    split
    · rfl
    · rw [List.append_nil]
  clear_value s2 s1
  subst e2 e1
  dsimp only
  rw [emitHeaders_append, List.append_assoc]
  split
  · rfl
  · rw [List.append_nil]

theorem dataPart_body_fields (p : List Nat) (es : Bool) : bodyOf (dataPart p es) = p ∧ fieldsOf (dataPart p es) = [] := by
  unfold dataPart
  refine iteInduction (motive := fun l => bodyOf l = p ∧ fieldsOf l = []) (fun _ => ⟨List.append_nil p, rfl⟩) fun h => ⟨?_, rfl⟩
  cases p with
  | nil => rfl
  | cons a r => simp at h

theorem dataPart_end (p : List Nat) : dataPart p true = [Frame.data p true] := if_pos (Bool.or_true _)

theorem bodyTail_body_fields (done ne : Bool) (T : List (Str × Str)) (p : List Nat) :
    bodyOf (bodyTail done ne T p) = p ∧ ∀ f ∈ fieldsOf (bodyTail done ne T p), f ∈ T := by
  unfold bodyTail
  rw [bodyOf_append, fieldsOf_append, (dataPart_body_fields _ _).1, (dataPart_body_fields _ _).2]
  refine iteInduction (motive := fun l => p ++ bodyOf l = p ∧ ∀ f ∈ [] ++ fieldsOf l, f ∈ T) (fun _ => ?_)
    (fun _ => ⟨List.append_nil p, fun _ h => absurd h List.not_mem_nil⟩)
  obtain ⟨e1, e2⟩ := emitHeaders_fields_body [] T true
  rw [e1, e2]
  exact ⟨List.append_nil p, fun _ h => h⟩

/-- `r` arises from `s` by a piece of `writeChunk` that adds `b` to the DATA payload of a non-HEAD response.
    `buf`, `acc`, `body` serve `BodyOK` (Steps), `grows` serves `HdrSent` (Status), `sent` and `done` serve `Live` (Shape). -/
structure Keeps (s r : St) (b : List Nat) : Prop where
  inv : Inv s → Inv r
  isHead : r.isHead = s.isHead
  buf : r.buf = s.buf
  acc : r.acc = s.acc
  done : r.handlerDone = s.handlerDone
  sent : s.sentHeader = true → r.sentHeader = true
  grows : s.out <+: r.out
  body : s.isHead = false → bodyOf r.out = bodyOf s.out ++ b

theorem Keeps.trans {a b c : St} {x y : List Nat} (h1 : Keeps a b x) (h2 : Keeps b c y) : Keeps a c (x ++ y) :=
  ⟨fun h => h2.inv (h1.inv h), h2.isHead.trans h1.isHead, h2.buf.trans h1.buf, h2.acc.trans h1.acc,
   h2.done.trans h1.done, fun h => h2.sent (h1.sent h),
   h1.grows.trans h2.grows,
   fun h => by rw [h2.body (h1.isHead.trans h), h1.body h, List.append_assoc]⟩

theorem writeHeader_keeps (s : St) (c : Nat) : Keeps s (writeHeader s c) [] := by
  obtain ⟨w, st, sn, e, h⟩ := writeHeader_update s c
  rw [e]
  exact ⟨fun hi => ⟨h hi.snap, hi.trailers, hi.out⟩, rfl, rfl, rfl, rfl, id, List.prefix_refl _,
    fun _ => (List.append_nil _).symm⟩

theorem headerPart_keeps (env : Env) (s : St) (p : List Nat) : Keeps s (headerPart env s p).1 [] := by
  cases h : s.sentHeader
  · obtain ⟨n, tr, autos, ha, ht, e⟩ := headerPart_unsent env s p h
    rw [e]
    refine ⟨fun hi => ⟨snapOK_clenSnap _ hi.snap, ht hi.trailers, outOK_append hi.out fun f hf => ?_⟩,
      rfl, rfl, rfl, rfl, fun _ => rfl, List.prefix_append _ _, fun _ => ?_⟩
    · rw [show fieldsOf [Frame.headers _ _] = _ from List.append_nil _] at hf
      exact specFields_ok _ _ _ (snapOK_clenSnap _ hi.snap) ha f hf
    · rw [bodyOf_append]; rfl
  · rw [headerPart_sent env s p h]
    exact ⟨id, rfl, rfl, rfl, rfl, id, List.prefix_refl _, fun _ => (List.append_nil _).symm⟩

theorem headerPart_sends (env : Env) (s : St) (p : List Nat) : (headerPart env s p).1.sentHeader = true := by
  cases h : s.sentHeader
  · obtain ⟨n, tr, autos, _, _, e⟩ := headerPart_unsent env s p h
    rw [e]
  · rw [headerPart_sent env s p h]; exact h

theorem headerPart_stop (env : Env) (s : St) (p : List Nat) (he : (headerPart env s p).2 = true) :
    s.isHead = true ∨ p = [] := by
  cases h : s.sentHeader
  · obtain ⟨n, tr, autos, _, _, e⟩ := headerPart_unsent env s p h
    rw [e] at he
    simp only [Bool.or_eq_true, Bool.and_eq_true, List.isEmpty_iff] at he
    exact he.elim (fun h => Or.inr h.2) Or.inl
  · rw [headerPart_sent env s p h] at he; cases he

theorem bodyPart_keeps (s : St) (p : List Nat) : Keeps s (bodyPart s p) p := by
  obtain ⟨hh, tr, ne, ht, e⟩ := bodyPart_eq s p
  obtain ⟨t1, t2⟩ := bodyTail_body_fields s.handlerDone ne (encodeHeaders hh tr) p
  rw [e]
  refine ⟨fun hi => ?_, rfl, rfl, rfl, rfl, id, List.prefix_append _ _, fun _ => by rw [bodyOf_append, t1]⟩
  have htr := (ht hi.trailers).1
  exact ⟨hi.snap, htr, outOK_append hi.out fun f hf => enc_ok hh tr htr f (t2 f hf)⟩

/-- the early return for an empty chunk while the handler runs is not a case of its own -/
theorem bodyPart_idle (s : St) (h : s.handlerDone = false) : bodyPart s [] = s := by
  simp [bodyPart, h]

theorem writeChunk_cases (env : Env) (s : St) (p : List Nat) :
    let r := headerPart env (writeHeader s 200) p
    ((r.2 || s.isHead) = true ∧ writeChunk env s p = r.1) ∨
    ((r.2 || s.isHead) = false ∧ writeChunk env s p = bodyPart r.1 p) := by
  dsimp only
  have k := (writeHeader_keeps s 200).trans (headerPart_keeps env (writeHeader s 200) p)
  -- the model tests `isHead` of `r.1`, the statement that of `s`
  rw [← k.isHead]
  unfold writeChunk
  rw [implicitHeader_eq]
  generalize writeHeader s 200 = s1
  by_cases h0 : (s1.isHead && s1.sentHeader) = true
  · rw [if_pos h0, headerPart_sent env s1 p (Bool.and_eq_true _ _ ▸ h0).2]
    exact Or.inl ⟨(Bool.and_eq_true _ _ ▸ h0).1, rfl⟩
  rw [if_neg h0]
  generalize headerPart env s1 p = r
  by_cases h1 : r.2 = true
  · rw [if_pos h1]; exact Or.inl ⟨by rw [h1]; rfl, rfl⟩
  rw [if_neg h1]
  by_cases h2 : r.1.isHead = true
  · rw [if_pos h2]; exact Or.inl ⟨by rw [h2, Bool.or_true], rfl⟩
  rw [if_neg h2]
  have he : (r.2 || r.1.isHead) = false := by rw [eq_false_of_ne_true h1, eq_false_of_ne_true h2]; rfl
  by_cases h3 : (p.isEmpty && !r.1.handlerDone) = true
  · rw [if_pos h3]
    obtain ⟨hp, hd⟩ : p = [] ∧ r.1.handlerDone = false := by simpa using h3
    exact Or.inr ⟨he, by rw [hp, bodyPart_idle _ hd]⟩
  · rw [if_neg h3]; exact Or.inr ⟨he, rfl⟩

theorem writeChunk_keeps (env : Env) (s : St) (p : List Nat) : Keeps s (writeChunk env s p) p := by
  have kw := writeHeader_keeps s 200
  have k := kw.trans (headerPart_keeps env (writeHeader s 200) p)
  rcases writeChunk_cases env s p with ⟨hc, e⟩ | ⟨_, e⟩ <;> rw [e]
  · -- stopped after the HEADERS: the chunk of a non-HEAD response is then empty
    refine { k with body := fun hh => ?_ }
    rcases (Bool.or_eq_true _ _).mp hc with hc | hc
    · obtain rfl := (headerPart_stop env _ p hc).resolve_left (ne_true_of_eq_false (kw.isHead.trans hh))
      exact k.body hh
    · exact absurd hc (ne_true_of_eq_false hh)
  · exact k.trans (bodyPart_keeps _ p)

theorem writeChunk_sent (env : Env) (s : St) (p : List Nat) : (writeChunk env s p).sentHeader = true := by
  have hs := headerPart_sends env (writeHeader s 200) p
  rcases writeChunk_cases env s p with ⟨_, e⟩ | ⟨_, e⟩ <;> rw [e]
  · exact hs
  · exact (bodyPart_keeps _ p).sent hs

end BfeVerif.C38
