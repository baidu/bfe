import BfeVerif.C38.Steps
/-! The response HEADERS frame carries the handler's status and header fields. -/
namespace BfeVerif.C38

/-- before WriteHeader: only header additions so far.  `{ h with }` re-types a proof for a state that differs in
    fields not read here (`buf`, `handlerDone`). -/
structure HdrOpen (m : HMap) (s : St) : Prop where
  wrote : s.wroteHeader = false
  sent : s.sentHeader = false
  out : s.out = []
  hh : s.hh = m
  snap : s.snap = []
  err : s.bwErr = false

def HdrFixed (S0 : HMap) (st : Nat) (s : St) : Prop :=
  s.wroteHeader = true ∧ s.sentHeader = false ∧ s.bwErr = false ∧ s.out = [] ∧ s.snap = S0 ∧ s.status = st

def HdrSent (S0 : HMap) (st : Nat) (s : St) : Prop :=
  s.sentHeader = true ∧ ∃ es rest autos, AutosOK autos ∧
    s.out = Frame.headers (SpecFields (clenSnap S0) st autos) es :: rest

def HdrFixedOrSent (S0 : HMap) (st : Nat) (s : St) : Prop := HdrFixed S0 st s ∨ HdrSent S0 st s

theorem writeChunk_hdrSent (env : Env) (S0 : HMap) (st : Nat) (s : St) (p : List Nat) (h : HdrFixedOrSent S0 st s) :
    HdrSent S0 st (writeChunk env s p) := by
  refine ⟨writeChunk_sent env s p, ?_⟩
  rcases h with ⟨hw, hs, _, ho, hsn, hst⟩ | ⟨_, es, rest, autos, ha, e⟩
  · have hc := writeChunk_cases env s p
    rw [writeHeader_of_wrote s 200 hw] at hc
    obtain ⟨n, tr, autos, ha, _, e⟩ := headerPart_unsent env s p hs
    rw [e, ho, hsn, hst] at hc
    rcases hc with ⟨_, e⟩ | ⟨_, e⟩ <;> rw [e]
    · exact ⟨_, [], autos, ha, rfl⟩
    · obtain ⟨more, e2⟩ := (bodyPart_keeps _ p).grows
      exact ⟨_, more, autos, ha, e2.symm⟩
  · obtain ⟨more, e2⟩ := (writeChunk_keeps env s p).grows
    exact ⟨es, rest ++ more, autos, ha, by rw [← e2, e]; rfl⟩

theorem hdrFixedOrSent_stable (env : Env) (S0 : HMap) (st : Nat) : Stable env (HdrFixedOrSent S0 st) := by
  refine ⟨fun s c h => ?_, fun s p h => Or.inr (writeChunk_hdrSent env S0 st s p h), fun _ _ _ _ _ _ h => h,
    fun _ h hs => Or.inr (h.resolve_left fun hf => absurd hs (ne_true_of_eq_false hf.2.1))⟩
  rcases h with h | h
  · rw [writeHeader_of_wrote s c h.1]; exact Or.inl h
  · exact Or.inr (writeHeader_preserves c fun _ _ _ => h)

theorem hdrFixedOrSent_finish (env : Env) (S0 : HMap) (st : Nat) (acts : List Act) (s : St) (h : HdrFixedOrSent S0 st s) :
    HdrSent S0 st (finish env s acts) := by
  have h1 := (hdrFixedOrSent_stable env S0 st).acts acts s h
  -- a Flush that the bufio error turns into a no-op comes after the HEADERS
  refine rwFlush_cases _ (fun _ hb => h1.resolve_left fun hf => ?_) (writeChunk_hdrSent env S0 st _ _ h1) fun _ h _ => h
  exact absurd hb (ne_true_of_eq_false hf.2.2.1)

theorem hdrOpen_writeHeader (m : HMap) (s : St) (c : Nat) (h : HdrOpen m s) : HdrFixed (snapAt m) c (writeHeader s c) := by
  have e : writeHeader s c = { s with wroteHeader := true, status := c, snap := snapAt m } := by
    unfold writeHeader snapAt
    rw [if_neg (ne_true_of_eq_false h.wrote), h.hh, h.snap]
  rw [e]
  exact ⟨rfl, h.sent, h.err, h.out, rfl, rfl⟩

/-- a Write or Flush before WriteHeader is `WriteHeader(200)` followed by it -/
theorem writeChunk_implicit200 (env : Env) (s : St) (p : List Nat) :
    writeChunk env s p = writeChunk env (writeHeader s 200) p := by
  unfold writeChunk
  rw [implicitHeader_eq, implicitHeader_eq, writeHeader_idem]

theorem rwWrite_implicit200 (env : Env) (s : St) (p : List Nat) : rwWrite env s p = rwWrite env (writeHeader s 200) p := by
  unfold rwWrite
  rw [implicitHeader_eq, implicitHeader_eq, writeHeader_idem]

theorem rwFlush_hdrOpen (env : Env) (m : HMap) (s : St) (h : HdrOpen m s) : HdrSent (snapAt m) 200 (rwFlush env s) := by
  refine rwFlush_cases s (fun _ hb => absurd hb (ne_true_of_eq_false h.err)) ?_ fun _ h _ => h
  rw [writeChunk_implicit200]
  exact writeChunk_hdrSent env _ _ _ _ (Or.inl (hdrOpen_writeHeader m _ 200 { h with }))

theorem hdrOpen_finish (env : Env) (acts : List Act) (m : HMap) (s : St) (h : HdrOpen m s) :
    HdrSent (snapAt (hdrAdds m acts)) (statusOf acts) (finish env s acts) := by
  induction acts generalizing m s with
  | nil => exact rwFlush_hdrOpen env m _ { h with }
  | cons a r ih =>
    cases a with
    | add k v => exact ih (hadd m k v) _ { h with hh := congrArg (hadd · k v) h.hh }
    | setFirst k v => exact ih (hsetFirst m k v) _ { h with hh := congrArg (hsetFirst · k v) h.hh }
    | status c => exact hdrFixedOrSent_finish env (snapAt m) c r _ (Or.inl (hdrOpen_writeHeader m s c h))
    | write p =>
      refine hdrFixedOrSent_finish env (snapAt m) 200 r _ ?_
      show HdrFixedOrSent (snapAt m) 200 (rwWrite env s p)
      rw [rwWrite_implicit200]
      exact (hdrFixedOrSent_stable env _ _).write _ p (Or.inl (hdrOpen_writeHeader m s 200 h))
    | flush => exact hdrFixedOrSent_finish env (snapAt m) 200 r _ (Or.inr (rwFlush_hdrOpen env m s h))

end BfeVerif.C38
