import BfeVerif.C10.Model
import BfeVerif.C10.Basic
/-! C10: the request-host normalisation of `findHostRoute` ignores the port, one trailing dot and ASCII case. -/
namespace BfeVerif.C10

/-- ASCII upper-casing (only used to state case-insensitivity) -/
def upperAscii (c : Char) : Char :=
  if 97 ≤ c.toNat ∧ c.toNat ≤ 122 then Char.ofNat (c.toNat - 32) else c

theorem toNat_lowerC (c : Char) :
    (lowerC c).toNat = if 65 ≤ c.toNat ∧ c.toNat ≤ 90 then c.toNat + 32 else c.toNat :=
  toNat_ite_ofNat _ _ c fun h => by omega

theorem toNat_upperAscii (c : Char) :
    (upperAscii c).toNat = if 97 ≤ c.toNat ∧ c.toNat ≤ 122 then c.toNat - 32 else c.toNat :=
  toNat_ite_ofNat _ _ c fun h => by omega

theorem lowerC_ne_of_not_lowerLetter (c d : Char) (h : c ≠ d) (hd : d.toNat < 97 ∨ 122 < d.toNat) : lowerC c ≠ d := by
  intro e
  have ht := congrArg Char.toNat e
  rw [toNat_lowerC] at ht
  split at ht
  · omega
  · exact h (Char.toNat_inj.mp ht)

/-- the rune map leaves the two separators alone and maps nothing else onto them (true of `unicode.ToLower`) -/
def KeepsSep (lc : Char → Char) : Prop :=
  lc ':' = ':' ∧ lc '.' = '.' ∧ (∀ c, c ≠ ':' → lc c ≠ ':') ∧ (∀ c, c ≠ '.' → lc c ≠ '.')

theorem lowerC_keepsSep : KeepsSep lowerC :=
  ⟨by decide, by decide, fun c h => lowerC_ne_of_not_lowerLetter c ':' h (by decide),
    fun c h => lowerC_ne_of_not_lowerLetter c '.' h (by decide)⟩

theorem colon_not_mem_lower (lc : Char → Char) (hk : KeepsSep lc) (h : List Char) (hh : ':' ∉ h) :
    ':' ∉ lower lc h := by
  obtain ⟨-, -, hNoColon, -⟩ := hk
  intro hm
  obtain ⟨c, hc, hcl⟩ := List.mem_map.mp hm
  exact hNoColon c (fun he => hh (he ▸ hc)) hcl

theorem stripPort_append_colon (h port : List Char) : stripPort (h ++ ':' :: port) = stripPort h :=
  takeWhile_ne_append_cons ':' h port

theorem stripPort_self (h : List Char) (hh : ':' ∉ h) : stripPort h = h :=
  takeWhile_ne_self ':' h hh

theorem probePath_port (lc : Char → Char) (hcolon : lc ':' = ':') (h port : List Char) :
    probePath lc (h ++ ':' :: port) = probePath lc h := by
  unfold probePath
  have hl : lower lc (h ++ ':' :: port) = lower lc h ++ ':' :: lower lc port := by
    simp [lower, hcolon]
  rw [hl, stripPort_append_colon]

theorem reverseFqdn_snoc_dot (x : List Char) : reverseFqdn (x ++ ['.']) = x.reverse := by
  simp [reverseFqdn]

theorem reverseFqdn_nodot (x : List Char) (h : x.getLast? ≠ some '.') : reverseFqdn x = x.reverse := by
  unfold reverseFqdn
  split
  · next r hr => exact absurd (by rw [List.getLast?_eq_head?_reverse, hr]; rfl) h
  · rfl

theorem getLast?_lower (lc : Char → Char) (hk : KeepsSep lc) (h : List Char) (hd : h.getLast? ≠ some '.') :
    (lower lc h).getLast? ≠ some '.' := by
  obtain ⟨-, -, -, hNoDot⟩ := hk
  rw [lower, List.getLast?_map]
  cases hg : h.getLast? with
  | none => nofun
  | some c => exact fun e => hNoDot c (fun e' => hd (by rw [hg, e'])) (Option.some.inj e)

theorem probePath_dot (lc : Char → Char) (hk : KeepsSep lc) (h : List Char) (hh : ':' ∉ h)
    (hd : h.getLast? ≠ some '.') : probePath lc (h ++ ['.']) = probePath lc h := by
  unfold probePath
  have ⟨_, hdot, _⟩ := hk
  have hl : lower lc (h ++ ['.']) = lower lc h ++ ['.'] := by simp [lower, hdot]
  have hc : ':' ∉ lower lc h ++ ['.'] := fun hm =>
    (List.mem_append.mp hm).elim (colon_not_mem_lower lc hk h hh) (by decide)
  rw [hl, stripPort_self _ hc, stripPort_self _ (colon_not_mem_lower lc hk h hh), reverseFqdn_snoc_dot,
    reverseFqdn_nodot _ (getLast?_lower lc hk h hd)]

theorem lowerC_upperAscii (c : Char) : lowerC (upperAscii c) = lowerC c := by
  apply Char.toNat_inj.mp
  rw [toNat_lowerC, toNat_lowerC, toNat_upperAscii]
  by_cases h : 97 ≤ c.toNat ∧ c.toNat ≤ 122
  · rw [if_pos h, if_pos (by omega), if_neg (by omega)]; omega
  · rw [if_neg h]

theorem probePath_case (h : List Char) : probePath lowerC (h.map upperAscii) = probePath lowerC h := by
  unfold probePath
  have : lower lowerC (h.map upperAscii) = lower lowerC h := by
    simp [lower, List.map_map, Function.comp_def, lowerC_upperAscii]
  rw [this]

end BfeVerif.C10
