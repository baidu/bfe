/-! General facts about characters and lists on which the host handling of C10 and C11 rests. -/
namespace BfeVerif.C10

theorem toNat_ofNat_of_lt (n : Nat) (h : n < 55296) : (Char.ofNat n).toNat = n := by
  have hv : n.isValidChar := Or.inl h
  simp only [Char.ofNat, hv, dite_true]
  rfl

theorem toNat_ite_ofNat (p : Prop) [Decidable p] (n : Nat) (c : Char) (h : p → n < 55296) :
    (if p then Char.ofNat n else c).toNat = if p then n else c.toNat := by
  split
  · exact toNat_ofNat_of_lt n (h ‹_›)
  · rfl

/-- no hypothesis on `l`: if `a` occurs in `l`, both sides are cut there -/
theorem takeWhile_ne_append_cons {α} [DecidableEq α] (a : α) (l r : List α) :
    (l ++ a :: r).takeWhile (· ≠ a) = l.takeWhile (· ≠ a) := by
  induction l with
  | nil => exact List.takeWhile_cons_of_neg (by simp)
  | cons c l ih => rw [List.cons_append, List.takeWhile_cons, List.takeWhile_cons, ih]

theorem takeWhile_ne_self {α} [DecidableEq α] (a : α) (h : List α) (hh : a ∉ h) : h.takeWhile (· ≠ a) = h := by
  have hp : ∀ c ∈ h, decide (c ≠ a) = true := fun c hc => decide_eq_true fun e => hh (e ▸ hc)
  simpa using List.takeWhile_append_of_pos (l₂ := []) hp

theorem ne_of_mem_takeWhile_ne {α} [DecidableEq α] (a c : α) (l : List α) (h : c ∈ l.takeWhile (· ≠ a)) : c ≠ a :=
  of_decide_eq_true (List.all_eq_true.mp List.all_takeWhile c h)

theorem splitOn_reverse {α} [BEq α] [LawfulBEq α] (a : α) (s : List α) :
    s.reverse.splitOn a = ((s.splitOn a).map List.reverse).reverse := by
  by_cases h : a ∈ s
  · -- cut at an occurrence of `a`: `splitOn` turns both cuts into `++`
    obtain ⟨x, t, rfl⟩ := List.append_of_mem h
    rw [List.reverse_append, List.reverse_cons, List.append_assoc, List.singleton_append,
      List.splitOn_append_cons_self, List.splitOn_append_cons_self, splitOn_reverse a x, splitOn_reverse a t,
      List.map_append, List.reverse_append]
  · rw [List.splitOn_eq_singleton h, List.splitOn_eq_singleton (mt List.mem_reverse.mp h)]
    rfl
termination_by s.length
decreasing_by all_goals (subst s; simp +arith)

theorem lookup_eq_some_iff_mem_of_nodup {α β} [BEq α] [LawfulBEq α] (l : List (α × β)) (hnd : (l.map (·.1)).Nodup) (k : α) (v : β) :
    l.lookup k = some v ↔ (k, v) ∈ l := by
  rw [List.lookup_eq_some_iff]
  constructor
  · rintro ⟨l₁, l₂, rfl, -⟩
    exact List.mem_append_right _ List.mem_cons_self
  · intro h
    obtain ⟨s, t, rfl⟩ := List.append_of_mem h
    rw [List.map_append, List.nodup_append] at hnd
    exact ⟨s, t, rfl, fun p hp => bne_iff_ne.mpr fun e =>
      hnd.2.2 _ (List.mem_map_of_mem hp) _ (List.mem_map_of_mem List.mem_cons_self) e.symm⟩

end BfeVerif.C10
