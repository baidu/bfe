import BfeVerif.C10.Model
import BfeVerif.C10.Basic
import BfeVerif.C10.Spec
/-! C10 — proofs.  A denotation of the trie (entry / splat stored at a path), what `get` and `set` do
    to it, and the translation between reversed paths and label suffixes; with them the built trie answers like
    the pattern list read backwards (`get_build`). -/
namespace BfeVerif.C10

/-- `Option.or`, with both equations by `rfl` -/
def orE {α : Type} : Option α → Option α → Option α
  | some a, _ => some a
  | none, b => b

@[simp] theorem orE_none_left {α} (b : Option α) : orE none b = b := rfl
@[simp] theorem orE_some {α} (a : α) (b : Option α) : orE (some a) b = some a := rfl

namespace Trie
variable {V : Type}

theorem lookupChild_setChild (k k' : Label) (c : Trie V) (ch : List (Label × Trie V)) :
    lookupChild k' (setChild k c ch) = if k' = k then some c else lookupChild k' ch := by
  fun_induction setChild k c ch with
  | case1 => rfl
  | case2 c0 rest =>
    rw [lookupChild, lookupChild]
    split <;> rfl
  | case3 k0 c0 rest h ih =>
    rw [lookupChild, lookupChild, ih]
    by_cases h' : k' = k
    · subst h'; simp only [if_neg h, if_true]
    · simp only [if_neg h']

def entryOf : Trie V → Option V
  | .node e _ _ => e

def splatOf : Trie V → Option V
  | .node _ s _ => s

theorem entryOf_set (p : List Label) (v : V) (t : Trie V) :
    entryOf (set p v t) = if p = [] then some v else entryOf t := by
  fun_cases set p v t <;> rfl

theorem splatOf_set (p : List Label) (v : V) (t : Trie V) :
    splatOf (set p v t) = if p = [star] then some v else splatOf t := by
  obtain ⟨e, s, ch⟩ := t
  cases p with
  | nil => rfl
  | cons k ks =>
    simp only [set, List.cons.injEq]
    by_cases hk : k = star <;> by_cases hks : ks = [] <;> simp [hk, hks, splatOf]

/-- the denotation: what is stored (field `f` = `entryOf` / `splatOf`) at a path, `none` off the trie -/
def readAt (f : Trie V → Option V) : List Label → Trie V → Option V
  | [], t => f t
  | k :: ks, .node _ _ ch => (lookupChild k ch).bind (readAt f ks)

theorem readAt_empty {f : Trie V → Option V} (he : f empty = none) (q : List Label) : readAt f q empty = none := by
  cases q with
  | nil => exact he
  | cons a b => rfl

/-- proper prefixes, longest first -/
def properPrefixes {α : Type} : List α → List (List α)
  | [] => []
  | k :: ks => (properPrefixes ks).map (k :: ·) ++ [[]]

theorem properPrefixes_snoc {α} (xs : List α) (y : α) : properPrefixes (xs ++ [y]) = xs :: properPrefixes xs := by
  induction xs with
  | nil => rfl
  | cons k xs ih => simp [properPrefixes, ih]

/-- `Get` returns the entry stored at the path, else the splat entry of the deepest proper prefix that has one. -/
theorem get_eq (q : List Label) (t : Trie V) :
    get q t = (readAt entryOf q t).or ((properPrefixes q).findSome? fun p => readAt splatOf p t) := by
  induction q generalizing t with
  | nil => cases t; exact Option.or_none.symm
  | cons k ks ih =>
    obtain ⟨e, s, ch⟩ := t
    simp only [get, properPrefixes, List.findSome?_append, List.findSome?_singleton, List.findSome?_map,
      Function.comp_def, readAt]
    cases lookupChild k ch with
    | none =>
      rw [List.findSome?_eq_none_iff.mpr fun _ _ => Option.bind_none _]
      rfl
    | some c =>
      simp only [Option.bind_some, ih c, ← Option.or_assoc]
      cases (readAt entryOf ks c).or (List.findSome? (fun p => readAt splatOf p c) (properPrefixes ks)) <;> rfl

/-- a path `Set` accepts: `*` only as last element -/
def validPath (p : List Label) : Bool := p.dropLast.all (· != star)

theorem validPath_cons (k : Label) (ks : List Label) :
    validPath (k :: ks) = if k = star ∧ ks ≠ [] then false else validPath ks := by
  cases ks <;> by_cases hk : k = star <;> simp [validPath, hk]

/-- reading field `f` at `q` after `set p v`: changed exactly when `p` is accepted and `p = q ++ w`
    (`f, w` = `entryOf, []` or `splatOf, [*]`) -/
theorem readAt_set {f : Trie V → Option V} {w : List Label}
    (hf : ∀ p v (t : Trie V), f (set p v t) = if p = w then some v else f t) (hw : validPath w = true)
    (he : f (empty : Trie V) = none) (p q : List Label) (v : V) (t : Trie V) :
    readAt f q (set p v t) = if validPath p = true ∧ p = q ++ w then some v else readAt f q t := by
  induction q generalizing p t with
  | nil =>
    show f (set p v t) = _
    rw [hf]
    by_cases h : p = w
    · rw [if_pos h, if_pos ⟨h ▸ hw, h⟩]
    · rw [if_neg h, if_neg fun x => h x.2]; rfl
  | cons k' qs ih =>
    obtain ⟨e, s, ch⟩ := t
    cases p with
    | nil => rw [if_neg (by simp)]; simp only [set, readAt]
    | cons k ks =>
      simp only [set, validPath_cons]
      by_cases hbad : k = star ∧ ks ≠ []
      · rw [if_pos hbad, if_pos hbad, if_neg fun x => Bool.noConfusion x.1]
      · rw [if_neg hbad, if_neg hbad, readAt, readAt, lookupChild_setChild]
        by_cases hk : k' = k
        · subst hk
          have hc : readAt f qs ((lookupChild k' ch).getD empty) = (lookupChild k' ch).bind (readAt f qs) := by
            cases lookupChild k' ch with
            | some c => rfl
            | none => exact readAt_empty he qs
          simp only [if_true, Option.bind_some, ih, hc, List.cons_append, List.cons.injEq, true_and]
        · have : ¬ (k :: ks = k' :: qs ++ w) := fun h => hk (List.cons.inj h).1.symm
          rw [if_neg hk, if_neg fun x => this x.2]

end Trie

open Trie

/-- the labels of the name reversed rune by rune, as Go does before it splits: the order reversed AND each
    label spelt backwards (`splitDot_reverseFqdn`) -/
def rev (ls : List Label) : List Label := (ls.map List.reverse).reverse

@[simp] theorem rev_cons (a : Label) (ls : List Label) : rev (a :: ls) = rev ls ++ [a.reverse] := by
  simp [rev]

@[simp] theorem rev_nil : rev [] = [] := rfl

theorem rev_rev (ls : List Label) : rev (rev ls) = ls := by
  simp [rev, List.map_reverse, Function.comp_def]

theorem rev_eq_iff {a b : List Label} : rev a = b ↔ a = rev b :=
  ⟨fun h => by rw [← h, rev_rev], fun h => by rw [h, rev_rev]⟩

theorem properPrefixes_rev (l : List Label) : properPrefixes (rev l) = (properSuffixes l).map rev := by
  induction l with
  | nil => rfl
  | cons a l ih => simp [properPrefixes_snoc, properSuffixes, ih]

theorem splitDot_eq (s : List Char) : splitDot s = s.splitOn '.' := by
  induction s with
  | nil => rfl
  | cons c cs ih =>
    rw [splitDot, ih, List.splitOn_cons_eq_if_modifyHead]
    cases h : cs.splitOn '.' with
    | nil => exact absurd h (List.splitOn_ne_nil _ _)
    | cons l ls => simp only [beq_iff_eq, List.modifyHead_cons]

theorem reverseFqdn_eq (s : List Char) : reverseFqdn s = (dropTrailingDot s).reverse := by
  unfold reverseFqdn dropTrailingDot
  split
  · next r h => simp
  · rfl

theorem splitDot_reverseFqdn (s : List Char) : splitDot (reverseFqdn s) = rev (splitDot (dropTrailingDot s)) := by
  rw [reverseFqdn_eq, splitDot_eq, splitDot_eq, splitOn_reverse, rev]

theorem confPath_eq (lc : Char → Char) (h : List Char) : confPath lc h = rev (confLabels lc h) :=
  splitDot_reverseFqdn _

theorem probePath_eq (lc : Char → Char) (h : List Char) : probePath lc h = rev (probeLabels lc h) :=
  splitDot_reverseFqdn _

theorem validPath_rev (ls : List Label) : validPath (rev ls) = validPattern ls := by
  rw [validPath, rev, List.dropLast_reverse, ← List.map_tail, List.all_reverse, List.all_map, validPattern]
  congr 1
  funext l
  by_cases h : l = star
  · subst h; decide
  · have : l.reverse ≠ star := fun h2 => h (List.reverse_eq_iff.mp h2)
    simp [h, this]

theorem readAt_build {f : Trie Route → Option Route} {w : List Label}
    (hf : ∀ p v (t : Trie Route), f (set p v t) = if p = w then some v else f t) (hw : validPath w = true)
    (he : f (empty : Trie Route) = none) (lc : Char → Char) (es : List Entry) (q : List Label) :
    readAt f q (buildHostRoute lc es) = specExact (patterns lc es).reverse (rev (q ++ w)) := by
  -- the fold from the left is a fold from the right over the reversed table: the outermost `set` is the last insertion
  rw [buildHostRoute, List.foldl_eq_foldr_reverse, patterns, ← List.filterMap_reverse]
  induction es.reverse with
  | nil => exact readAt_empty he q
  | cons e l ih =>
    rw [List.foldr_cons, readAt_set hf hw he, ih, confPath_eq, validPath_rev]
    simp only [rev_eq_iff]
    exact (specExact_patterns_cons lc e l _).symm

/-- for EVERY host table (no `WF`); `.reverse`: of two patterns with the same labels the one inserted last wins -/
theorem get_build (lc : Char → Char) (es : List Entry) (l : List Label) :
    Trie.get (rev l) (buildHostRoute lc es) = specFindHostAt (patterns lc es).reverse l := by
  have hs : ∀ s, readAt splatOf (rev s) (buildHostRoute lc es) = specExact (patterns lc es).reverse (star :: s) :=
    fun s => (readAt_build splatOf_set rfl rfl lc es _).trans (congrArg _ (rev_eq_iff.mpr (rev_cons star s).symm))
  rw [get_eq, readAt_build entryOf_set rfl rfl, List.append_nil, rev_rev, properPrefixes_rev, List.findSome?_map,
    specFindHostAt, specWild]
  simp only [Function.comp_def, hs]
  cases specExact (patterns lc es).reverse l <;> rfl

theorem findHostRoute_build (lc : Char → Char) (es : List Entry) (host : List Char) :
    findHostRoute lc (buildHostRoute lc es) host = specFindHostAt (patterns lc es).reverse (probeLabels lc host) := by
  rw [findHostRoute, probePath_eq, get_build]

end BfeVerif.C10
