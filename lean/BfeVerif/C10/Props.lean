import BfeVerif.C10.Proofs
import BfeVerif.C10.Norm
import BfeVerif.C10.Spec
/-!
  C10 — host → product resolution follows the host table.

  `lc` is the rune map of `strings.ToLower` (`lowerC` on ASCII, Go's `unicode.ToLower` elsewhere): the
  theorems hold for EVERY rune map, hence for arbitrary (also non-ASCII / invalid-UTF-8) host names — Go's
  decoding of invalid bytes to U+FFFD happens before the model (driver / harness) and is exercised only.

  FULL STATEMENT (false for the code as it is, see `C10_witness_ipv6_literal`):
      ∀ lc es vips dp host vip, WF lc es →
        lookupHostTagAndProduct lc es vips dp host vip = specLookup lc es vips dp host vip
  where the specification keeps a bracketed IPv6 literal whole when it removes the port.
-/
namespace BfeVerif.C10

/-- The trie on the labels the code extracts: for EVERY host table whose meaningful patterns are pairwise
    distinct after normalisation — in whatever order Go's map iteration inserts them — and EVERY request host,
    the reversed-label trie with splat entries returns the entry with exactly these labels, else the
    wildcard entry `*.s` with the longest proper label suffix `s`, else nothing. -/
theorem C10_trie_labels (lc : Char → Char) (es : List Entry) (host : List Char) (hwf : WF lc es) :
    findHostRoute lc (buildHostRoute lc es) host = specFindHostAt (patterns lc es) (probeLabels lc host) := by
  rw [findHostRoute_build, specFindHostAt_perm _ _ (List.reverse_perm _).symm hwf]

/-- Refinement against the specification, for every request host that is not a bracketed IPv6 literal. -/
theorem C10_trie_refines_partial (lc : Char → Char) (es : List Entry) (host : List Char) (hwf : WF lc es)
    (hb : (lower lc host).head? ≠ some '[') :
    findHostRoute lc (buildHostRoute lc es) host = specFindHost lc es host := by
  rw [C10_trie_labels lc es host hwf, specFindHost, specProbeLabels_eq lc host hb]

/-- The whole chain of `LookupHostTagAndProduct`: host table (exact > longest wildcard) > VIP table (the
    product of the address the connection arrived on, IPv4 = IPv4-mapped IPv6) > default product > no product. -/
theorem C10_chain_partial (lc : Char → Char) (es : List Entry) (vips : List (List UInt8 × String)) (dp : String)
    (host : List Char) (vip : Option (List UInt8)) (hwf : WF lc es) (hb : (lower lc host).head? ≠ some '[') :
    lookupHostTagAndProduct lc es vips dp host vip = specLookup lc es vips dp host vip :=
  lookupHostTagAndProduct_eq_of_host lc es vips dp host vip (C10_trie_refines_partial lc es host hwf hb)

/-- The bracket hypothesis is needed: a configured IPv6-literal host can never be reached, because the code cuts
    the request host at its FIRST colon (`[::1]` and `[::1]:80` both become `[`). -/
theorem C10_witness_ipv6_literal :
    ¬ ∀ (es : List Entry) (host : List Char), WF lowerC es →
        findHostRoute lowerC (buildHostRoute lowerC es) host = specFindHost lowerC es host := by
  intro h
  have := h [⟨"[::1]".toList, ⟨"p", "t"⟩⟩] "[::1]:80".toList (by unfold WF; decide +kernel)
  revert this
  decide +kernel

/-- VIP stage: with pairwise distinct configured addresses, the connection's VIP yields product `p` exactly when
    `p` is configured for that address — a 4-byte address and its IPv4-mapped 16-byte form being the same
    address; a VIP of any other length (and an empty VIP table) yields nothing. -/
theorem C10_vip (vips : List (List UInt8 × String)) (hnd : (vips.map (·.1)).Nodup) (v : List UInt8) (p : String) :
    findVipRoute vips v = some { product := p, tag := "" } ↔ ∃ k, to16 v = some k ∧ (k, p) ∈ vips := by
  rw [findVipRoute_eq]
  cases to16 v with
  | none => simp
  | some k =>
    simp only [Option.bind_some, Option.some.injEq, exists_eq_left', ← lookup_eq_some_iff_mem_of_nodup vips hnd k p]
    cases vips.lookup k with
    | none => simp
    | some q => simp only [Option.map_some, Option.some.injEq, Route.mk.injEq, and_true]

/-- IPv4 and IPv4-mapped IPv6 forms of the connection address select the same product. -/
theorem C10_vip_v4_mapped (vips : List (List UInt8 × String)) (a b c d : UInt8) :
    findVipRoute vips [a, b, c, d] = findVipRoute vips [0, 0, 0, 0, 0, 0, 0, 0, 0, 0, 255, 255, a, b, c, d] := by
  rw [findVipRoute_eq, findVipRoute_eq]; rfl

/-- Exact beats wildcard: if some entry has exactly the request's labels, its route is the answer. -/
theorem C10_exact_first (lc : Char → Char) (es : List Entry) (host : List Char) (r : Route) (hwf : WF lc es)
    (h : (probeLabels lc host, r) ∈ patterns lc es) :
    findHostRoute lc (buildHostRoute lc es) host = some r := by
  rw [C10_trie_labels lc es host hwf, specFindHostAt, (specExact_eq_some_iff _ hwf _ r).mpr h]

/-- A wildcard answer is the *longest* one. -/
theorem C10_wild_longest (lc : Char → Char) (es : List Entry) (host : List Char) (hwf : WF lc es)
    (hne : specExact (patterns lc es) (probeLabels lc host) = none) :
    findHostRoute lc (buildHostRoute lc es) host =
      (properSuffixes (probeLabels lc host)).findSome? fun s => specExact (patterns lc es) (star :: s) := by
  rw [C10_trie_labels lc es host hwf, specFindHostAt, hne]
  rfl

/-- The request-host normalisation of the code, for every trie and every rune map that leaves `:` and `.` alone:
    `:port` is ignored, ONE trailing dot is ignored; and with the ASCII map, ASCII case is ignored (the third
    conjunct is about `lowerC` alone: it uses neither `lc` nor a hypothesis). -/
theorem C10_norm (lc : Char → Char) (hk : KeepsSep lc) (t : Trie Route) (h port : List Char) (hc : ':' ∉ h) :
    findHostRoute lc t (h ++ ':' :: port) = findHostRoute lc t h ∧
    (h.getLast? ≠ some '.' → findHostRoute lc t (h ++ ['.']) = findHostRoute lc t h) ∧
    findHostRoute lowerC t (h.map upperAscii) = findHostRoute lowerC t h := by
  unfold findHostRoute
  refine ⟨by rw [probePath_port lc hk.1 h port], fun hd => by rw [probePath_dot lc hk h hc hd], by rw [probePath_case]⟩

/-- Independence of Go's map iteration order. -/
theorem C10_order_independent (lc : Char → Char) (es es' : List Entry) (hp : es.Perm es') (hwf : WF lc es)
    (host : List Char) :
    findHostRoute lc (buildHostRoute lc es) host = findHostRoute lc (buildHostRoute lc es') host := by
  have hpp : (patterns lc es).Perm (patterns lc es') := hp.filterMap _
  rw [C10_trie_labels lc es host hwf, C10_trie_labels lc es' host ((List.Perm.nodup_iff (hpp.map _)).mp hwf),
    specFindHostAt_perm _ _ hpp hwf]

/-- The hypothesis `WF` is needed: with two configured names that differ only in case (both accepted by
    `HostRuleConfLoad`) the answer depends on the order in which Go's map iteration inserts them. -/
theorem C10_witness_order_dependent :
    ¬ ∀ (es es' : List Entry), es.Perm es' → ∀ host,
        findHostRoute lowerC (buildHostRoute lowerC es) host = findHostRoute lowerC (buildHostRoute lowerC es') host := by
  intro h
  let e1 : Entry := ⟨"A.b".toList, ⟨"p1", "t1"⟩⟩
  let e2 : Entry := ⟨"a.b".toList, ⟨"p2", "t2"⟩⟩
  have := h [e1, e2] [e2, e1] (List.Perm.swap e2 e1 []) "a.b".toList
  revert this
  decide +kernel

def exTable : List Entry :=
  [⟨"example.org".toList, ⟨"pA", "t1"⟩⟩, ⟨"*.example.org".toList, ⟨"pB", "t2"⟩⟩,
   ⟨"*.Foo.example.org.".toList, ⟨"pC", "t3"⟩⟩, ⟨"a.*.org".toList, ⟨"pD", "t4"⟩⟩]

def v4 : List UInt8 := [10, 0, 0, 1]
def v4m : List UInt8 := [0, 0, 0, 0, 0, 0, 0, 0, 0, 0, 255, 255, 10, 0, 0, 1]

-- the string literals are read as character lists first: the kernel is slow to decode their UTF-8 bytes
-- (does not pay for the short literals of the two witnesses above)
example : WF lowerC exTable := by
  unfold WF exTable
  repeat rewrite [String.toList_ofList]
  decide +kernel
example : KeepsSep lowerC := lowerC_keepsSep
example : lookupHostTagAndProduct lowerC exTable [] "" "EXAMPLE.org.:8080".toList none = some ⟨"pA", "t1"⟩ := by
  unfold exTable
  repeat rewrite [String.toList_ofList]
  decide +kernel
example : lookupHostTagAndProduct lowerC exTable [] "" "x.y.example.org".toList none = some ⟨"pB", "t2"⟩ := by
  unfold exTable
  repeat rewrite [String.toList_ofList]
  decide +kernel
example : lookupHostTagAndProduct lowerC exTable [] "" "x.foo.example.org".toList none = some ⟨"pC", "t3"⟩ := by
  unfold exTable
  repeat rewrite [String.toList_ofList]
  decide +kernel
example : lookupHostTagAndProduct lowerC exTable [] "" "foo.example.org".toList none = some ⟨"pB", "t2"⟩ := by
  unfold exTable
  repeat rewrite [String.toList_ofList]
  decide +kernel
example : lookupHostTagAndProduct lowerC exTable [(v4m, "pV")] "pDef" "a.b.org".toList (some v4) = some ⟨"pV", ""⟩ := by
  unfold exTable
  repeat rewrite [String.toList_ofList]
  decide +kernel
example : lookupHostTagAndProduct lowerC exTable [(v4m, "pV")] "pDef" "a.b.org".toList (some [10, 0, 0, 2]) = some ⟨"pDef", ""⟩ := by
  unfold exTable
  repeat rewrite [String.toList_ofList]
  decide +kernel
example : lookupHostTagAndProduct lowerC exTable [(v4m, "pV")] "pDef" "a.b.org".toList (some [10, 0, 0]) = some ⟨"pDef", ""⟩ := by
  unfold exTable
  repeat rewrite [String.toList_ofList]
  decide +kernel
example : lookupHostTagAndProduct lowerC exTable [(v4m, "pV")] "" "org".toList none = none := by
  unfold exTable
  repeat rewrite [String.toList_ofList]
  decide +kernel

end BfeVerif.C10
