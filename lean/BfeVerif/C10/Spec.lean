import BfeVerif.C10.Model
import BfeVerif.C10.Basic
/-! C10: the specification read as list lookups — `specExact` is `List.lookup`, so under `WF` it does not depend on
    the order of the patterns; the VIP stage is a lookup too. -/
namespace BfeVerif.C10

theorem specExact_patterns_cons (lc : Char → Char) (e : Entry) (es : List Entry) (l : List Label) :
    specExact (patterns lc (e :: es)) l =
      if validPattern (confLabels lc e.host) = true ∧ confLabels lc e.host = l then some e.route
      else specExact (patterns lc es) l := by
  by_cases hv : validPattern (confLabels lc e.host) = true
  · have hp : patterns lc (e :: es) = (confLabels lc e.host, e.route) :: patterns lc es := by simp [patterns, hv]
    rw [hp, specExact, List.find?_cons]
    by_cases hl : confLabels lc e.host = l
    · simp [hv, ← hl]
    · simp [hl, specExact]
  · have hp : patterns lc (e :: es) = patterns lc es := by simp [patterns, hv]
    rw [hp, if_neg fun h => hv h.1]

theorem findVipRoute_eq (vips : List (List UInt8 × String)) (v : List UInt8) :
    findVipRoute vips v = ((to16 v).bind fun k => vips.lookup k).map fun p => { product := p, tag := "" } := by
  unfold findVipRoute
  cases vips with
  | nil => cases to16 v <;> rfl
  | cons a b => cases to16 v <;> rfl

theorem specExact_eq_lookup (ps : List (List Label × Route)) (l : List Label) : specExact ps l = ps.lookup l := by
  induction ps with
  | nil => rfl
  | cons p ps ih =>
    obtain ⟨a, r⟩ := p
    unfold specExact at ih ⊢
    by_cases h : a = l
    · simp [List.lookup, h]
    · have : (l == a) = false := by simpa using fun e => h e.symm
      simp [List.lookup, h, this, ih]

theorem specExact_eq_some_iff (ps : List (List Label × Route)) (hnd : (ps.map (·.1)).Nodup)
    (l : List Label) (r : Route) : specExact ps l = some r ↔ (l, r) ∈ ps := by
  rw [specExact_eq_lookup, lookup_eq_some_iff_mem_of_nodup ps hnd]

theorem specExact_perm (ps ps' : List (List Label × Route)) (hp : ps.Perm ps')
    (hnd : (ps.map (·.1)).Nodup) (l : List Label) : specExact ps l = specExact ps' l := by
  have hnd' : (ps'.map (·.1)).Nodup := (List.Perm.nodup_iff (hp.map _)).mp hnd
  apply Option.ext
  intro r
  rw [specExact_eq_some_iff ps hnd, specExact_eq_some_iff ps' hnd', hp.mem_iff]

theorem specFindHostAt_perm (ps ps' : List (List Label × Route)) (hp : ps.Perm ps')
    (hnd : (ps.map (·.1)).Nodup) (l : List Label) : specFindHostAt ps l = specFindHostAt ps' l := by
  simp only [specFindHostAt, specWild, specExact_perm _ _ hp hnd]

theorem specHostPart_eq_stripPort (s : List Char) (h : s.head? ≠ some '[') : specHostPart s = stripPort s := by
  unfold specHostPart stripPort
  split
  · next rest => simp at h
  · rfl

theorem specProbeLabels_eq (lc : Char → Char) (host : List Char) (h : (lower lc host).head? ≠ some '[') :
    specProbeLabels lc host = probeLabels lc host := by
  unfold specProbeLabels probeLabels
  rw [specHostPart_eq_stripPort _ h]

theorem lookupHostTagAndProduct_eq_of_host (lc : Char → Char) (es : List Entry) (vips : List (List UInt8 × String)) (dp : String)
    (host : List Char) (vip : Option (List UInt8))
    (h : findHostRoute lc (buildHostRoute lc es) host = specFindHost lc es host) :
    lookupHostTagAndProduct lc es vips dp host vip = specLookup lc es vips dp host vip := by
  unfold lookupHostTagAndProduct specLookup
  rw [h]
  cases specFindHost lc es host with
  | some r => rfl
  | none =>
    have hdef : (if dp ≠ "" then some (⟨dp, ""⟩ : Route) else none) = if dp = "" then none else some ⟨dp, ""⟩ :=
      ite_not ..
    cases vip with
    | none => exact hdef
    | some v =>
      dsimp only
      rw [findVipRoute_eq, Option.bind_some]
      cases (to16 v).bind fun k => vips.lookup k with
      | some p => rfl
      | none => exact hdef

end BfeVerif.C10
