import BfeVerif.C42.Proofs
import BfeVerif.C42.Cbc
import BfeVerif.C43.Props
/-!
  C42 — TLS records are integrity-protected.

  Setting.  The peer sealed the records `sent = [(typ₀,p₀), (typ₁,p₁), …]` (record `i` under sequence number `i`,
  counted from the end of the handshake) and put `honest enc vers 0 sent` on the wire.  The adversary hands the
  server an ARBITRARY byte string `w` (every drop / duplicate / reorder / modify / truncate / inject / splice of
  records and of bytes).  `runStream dec vers w` models the server calling `Conn.Read` until it returns an error.
  The strength of the ciphers is the hypothesis `Authentic dec enc sent`, never proved of the real ones.
-/
namespace BfeVerif.C42

/-- Main theorem.  Whatever byte string the server is fed, the part the record layer accepted is byte-for-byte the
    first `seq` honest records, in order; the rest (`raw`) starts with whatever made it stop; the application has
    been handed exactly the application bytes of the first `j ≤ seq` of those records. -/
theorem C42_accepts_only_honest_prefix {dec enc vers sent} (ha : Authentic dec enc sent) (w : Bytes) :
    let r := runStream dec vers w
    r.seq ≤ sent.length ∧
    w = honest enc vers 0 (sent.take r.seq) ++ r.raw ∧
    ∃ j, j ≤ r.seq ∧ r.out = appBytes (sent.take j) := by
  obtain ⟨hinv, hp⟩ := runStream_inv (vers := vers) ha w
  obtain ⟨j, hj, hjp⟩ := hinv.some_prefix
  rw [hp, List.append_nil] at hjp
  exact ⟨hinv.seqle, hinv.stream, j, hj, hjp⟩

/-- The property in the application's terms: `Conn.Read` hands out a prefix of what the peer's application wrote. -/
theorem C42_prefix {dec enc vers sent} (ha : Authentic dec enc sent) (w : Bytes) :
    (runStream dec vers w).out <+: appBytes sent := by
  obtain ⟨_, _, j, _, hj⟩ := C42_accepts_only_honest_prefix (vers := vers) ha w
  rw [hj]
  refine ⟨appBytes (sent.drop j), ?_⟩
  rw [← appBytes_append, List.take_append_drop]

/-- `Conn.Read` reports `io.EOF` (the only outcome an application reads as an orderly end) only if the peer's
    authentic close_notify was accepted in sequence, or the byte stream ran out with fewer than 5 bytes left after the
    accepted honest records; either way every application byte of the accepted records has been delivered.
    Every other deviation of `w` from the honest stream ends in a non-EOF error. -/
theorem C42_eof_only_close_or_exhausted {dec enc vers sent} (ha : Authentic dec enc sent) (w : Bytes) :
    let r := runStream dec vers w
    r.err = some .eof →
      r.out = appBytes (sent.take r.seq) ∧
      (r.raw.length < 5 ∨ ∃ lvl, 0 < r.seq ∧ sent[r.seq - 1]? = some (21, [lvl, 0])) := by
  intro r he
  have hinv := (runStream_inv (vers := vers) ha w).1
  exact ⟨hinv.eofx he, hinv.eofc he⟩

/-- Full-strength detection: `io.EOF` is reported only after the peer's close_notify.  The code does NOT satisfy it
    (`C42_witness_truncation`): `readRecord` deliberately maps a transport EOF at a record boundary (and inside a
    record header) to `io.EOF` ("popular web sites seem to do this, so we can't make it an error"). -/
def DetectFull (dec : Nat → UInt8 → Bytes → Dec) (vers : UInt8 × UInt8) (sent : List (UInt8 × Bytes)) : Prop :=
  ∀ w, (runStream dec vers w).err = some .eof →
    ∃ lvl, 0 < (runStream dec vers w).seq ∧ sent[(runStream dec vers w).seq - 1]? = some (21, [lvl, 0])

/-- It holds for everything except truncation at a record boundary (< 5 stray bytes after accepted records). -/
theorem C42_detect_partial {dec enc vers sent} (ha : Authentic dec enc sent) (w : Bytes)
    (hnt : 5 ≤ (runStream dec vers w).raw.length) (he : (runStream dec vers w).err = some .eof) :
    ∃ lvl, 0 < (runStream dec vers w).seq ∧ sent[(runStream dec vers w).seq - 1]? = some (21, [lvl, 0]) := by
  rcases (C42_eof_only_close_or_exhausted (vers := vers) ha w he).2 with h | h
  · omega
  · exact h

/-- Once `Conn.Read` has returned an error `e`, every later Read returns `e` again and hands NOTHING to the
    application, whatever `readRecord` left in `c.input`: the sticky error is tested before `c.input` is looked at.
    (After a failed decrypt of an application-data record the unauthenticated raw block IS parked there, see the
    example below; the model parks zeros of the same length, `dispatch` reads contents only at length 2.) -/
theorem C42_sticky (dec : Nat → UInt8 → Bytes → Dec) (vers : UInt8 × UInt8) (st : St) (e : Err)
    (he : st.err = some e) (k : Nat) :
    readMore dec vers k st = ([], List.replicate k (some e)) := by
  have h1 : readAgain dec vers st = (st, [], some e) := by
    unfold readAgain
    simp [he]
  induction k with
  | zero => rfl
  | succ k ih => simp [readMore, h1, ih, List.replicate_succ]

theorem C42_sticky_run (dec : Nat → UInt8 → Bytes → Dec) (vers : UInt8 × UInt8) (w : Bytes) (e : Err)
    (he : (runStream dec vers w).err = some e) (k : Nat) :
    readMore dec vers k (runStream dec vers w) = ([], List.replicate k (some e)) :=
  C42_sticky dec vers _ e he k

/-- Header integrity of the VERSION bytes rests on `readRecord`'s comparison `vers != c.vers`, not on the keyed
    check: the model's `dec` does not see the header version, which is the SSL 3.0 situation (ssl30MAC covers type
    and length only; from TLS 1.0 on the MAC / AEAD additional data cover the version too).  A version that differs
    in EITHER byte is rejected before decrypt is consulted.  (The type is an argument of `dec`, the length is the
    framing itself: both are covered by `C42_accepts_only_honest_prefix`.) -/
theorem C42_version_guard (dec : Nat → UInt8 → Bytes → Dec) (vers : UInt8 × UInt8) (t v1 v2 l1 l2 : UInt8)
    (rest : Bytes) (st : St) (fuel : Nat) (hraw : st.raw = t :: v1 :: v2 :: l1 :: l2 :: rest) (hv : (v1, v2) ≠ vers) :
    readRecord dec vers (fuel + 1) st = { st with err := some .badvers } ∧
    ∀ k, readMore dec vers k (readRecord dec vers (fuel + 1) st) = ([], List.replicate k (some .badvers)) := by
  have hres := readRecord_badvers (dec := dec) (fuel := fuel) hraw hv
  exact ⟨hres, fun k => C42_sticky _ _ _ _ (by rw [hres]) k⟩

/-- A record whose body is shorter than the cipher family's minimum (`minLen`) — injected, or a real record with a
    shrunk length field — is rejected by decrypt's key-independent length checks, whatever the keyed part would say:
    a non-EOF error (bad_record_mac, or the alert that overrides it), the sequence number not advanced, nothing
    delivered now or later, although for an application-data header the raw block sits in `c.input`. -/
theorem C42_short_record_rejected (fam : Family) (inner : Nat → UInt8 → Bytes → Dec) (vers : UInt8 × UInt8)
    (t : UInt8) (body rest : Bytes) (st : St) (fuel : Nat)
    (hraw : st.raw = frame vers t body ++ rest) (hb : body.length < minLen fam)
    (hmax : body.length ≤ maxCiphertext) :
    ∃ e, (readRecord (decryptFam fam inner) vers (fuel + 1) st).err = some e ∧ e ≠ .eof ∧
      (readRecord (decryptFam fam inner) vers (fuel + 1) st).seq = st.seq ∧
      (readRecord (decryptFam fam inner) vers (fuel + 1) st).out = st.out ∧
      ∀ k, readMore (decryptFam fam inner) vers k (readRecord (decryptFam fam inner) vers (fuel + 1) st)
        = ([], List.replicate k (some e)) := by
  have hd := hdrLen_ofNat body.length (by unfold maxCiphertext at hmax; omega)
  obtain ⟨e, inp, he, hres⟩ := readRecord_fail (dec := decryptFam fam inner) (fuel := fuel) (x := body.length)
    (rest := body ++ rest) hraw rfl (by rw [hd]; omega)
    (by rw [hd, List.length_append]; omega)
    (by rw [hd, List.take_left' rfl, decryptFam_short hb])
  exact ⟨e, by rw [hres], he, by rw [hres], by rw [hres], fun k => C42_sticky _ _ _ e (by rw [hres]) k⟩

/-- so every theorem above applies to `decryptFam fam inner` once the keyed part is authentic -/
theorem C42_family_authentic (fam : Family) {inner : Nat → UInt8 → Bytes → Dec} {enc : Nat → UInt8 → Bytes → Bytes}
    {sent : List (UInt8 × Bytes)} (ha : Authentic inner enc sent) : Authentic (decryptFam fam inner) enc sent :=
  fun s t c p h => ha s t c p (decryptFam_ok h)

/-- The CBC branch of decrypt (composed with C43's removePadding) accepts a record body only if the decrypted blocks
    carry VALID TLS padding (C43's `ValidPad`) and the bytes in front of it are `plaintext ++ MAC(seq, type, plaintext)`:
    a CBC suite meets `Authentic` as soon as its MAC and block cipher are ideal, and a padding defect would surface
    here.  `hlen` is what `C43_good_iff` needs; `unblock` is arbitrary, so the length guard of `readRecord` does not
    give it. -/
theorem C42_cbc_accepts_only_padded_and_maced (blockSize macSize explicitIV : Nat) (unblock : Bytes → Bytes → Bytes)
    (mac : Nat → UInt8 → Bytes → Bytes) (seq : Nat) (typ : UInt8) (body p : Bytes)
    (hlen : (unblock (body.take explicitIV) (body.drop explicitIV)).length < 2 ^ 31)
    (h : cbcDecrypt blockSize macSize explicitIV unblock mac seq typ body = .ok p) :
    BfeVerif.C43.ValidPad ((unblock (body.take explicitIV) (body.drop explicitIV)).map toBV) ∧
    (BfeVerif.C43.removePadding ((unblock (body.take explicitIV) (body.drop explicitIV)).map toBV)).1.map ofBV
      = p ++ mac seq typ p := by
  revert h
  fun_cases cbcDecrypt blockSize macSize explicitIV unblock mac seq typ body
  case case4 pt r payload _ n h3 =>
    -- accepted: the MAC matches and the padding verdict is 255
    rw [not_or, Decidable.not_not, Decidable.not_not] at h3
    intro h
    cases h
    rw [h3.1]
    exact ⟨(BfeVerif.C43.C43_good_iff _ (by rw [List.length_map]; exact hlen)).mp h3.2,
      (List.take_append_drop n payload).symm⟩
  all_goals nofun

/-- a toy cipher (identity) and MAC (one length byte), block size 4: `[1,2] ++ mac ++ padding [0]` is accepted, a wrong
    padding byte or MAC byte is not -/
example : cbcDecrypt 4 1 0 (fun _ c => c) (fun _ _ d => [UInt8.ofNat d.length]) 0 23 [1, 2, 2, 0] = .ok [1, 2] := by decide +kernel
example : cbcDecrypt 4 1 0 (fun _ c => c) (fun _ _ d => [UInt8.ofNat d.length]) 0 23 [1, 2, 2, 5] = .fail 2 := by decide +kernel
example : cbcDecrypt 4 1 0 (fun _ c => c) (fun _ _ d => [UInt8.ofNat d.length]) 0 23 [1, 2, 3, 0] = .fail 2 := by decide +kernel

def toyEnc (s : Nat) (t : UInt8) (p : Bytes) : Bytes := UInt8.ofNat s :: t :: p

def exSent : List (UInt8 × Bytes) := [(23, [1, 2]), (23, [3]), (21, [1, 0])]

example : Authentic (idealDec toyEnc exSent) toyEnc exSent := idealDec_authentic _ _

/-- the honest stream is delivered completely and ends with `io.EOF` -/
example : (runStream (idealDec toyEnc exSent) (3, 3) (honest toyEnc (3, 3) 0 exSent)).out = [1, 2, 3] ∧
    (runStream (idealDec toyEnc exSent) (3, 3) (honest toyEnc (3, 3) 0 exSent)).err = some .eof := by decide +kernel

/-- swapping the two data records: nothing is delivered, bad_record_mac -/
example : (runStream (idealDec toyEnc exSent) (3, 3)
      (frame (3, 3) 23 (toyEnc 1 23 [3]) ++ frame (3, 3) 23 (toyEnc 0 23 [1, 2]))).out = [] ∧
    (runStream (idealDec toyEnc exSent) (3, 3)
      (frame (3, 3) 23 (toyEnc 1 23 [3]) ++ frame (3, 3) 23 (toyEnc 0 23 [1, 2]))).err
        = some (.localAlert 20) := by decide +kernel

/-- a forged application-data record: the unauthenticated block is parked in `c.input`, the error is
    bad_record_mac, and four more Reads deliver nothing -/
example : (runStream (idealDec toyEnc exSent) (3, 3) (frame (3, 3) 23 [9, 9, 9])).input.isSome = true ∧
    (runStream (idealDec toyEnc exSent) (3, 3) (frame (3, 3) 23 [9, 9, 9])).err = some (.localAlert 20) ∧
    readMore (idealDec toyEnc exSent) (3, 3) 4 (runStream (idealDec toyEnc exSent) (3, 3) (frame (3, 3) 23 [9, 9, 9]))
      = ([], [some (.localAlert 20), some (.localAlert 20), some (.localAlert 20), some (.localAlert 20)]) := by decide +kernel

/-- cutting the stream after the first record yields `io.EOF` with only `[1,2]` delivered and no close_notify seen -/
theorem C42_witness_truncation : ¬ DetectFull (idealDec toyEnc exSent) (3, 3) exSent := by
  intro h
  obtain ⟨lvl, _, hget⟩ := h (honest toyEnc (3, 3) 0 (exSent.take 1)) (by decide +kernel)
  have hseq : (runStream (idealDec toyEnc exSent) (3, 3) (honest toyEnc (3, 3) 0 (exSent.take 1))).seq = 1 := by
    decide +kernel
  rw [hseq] at hget
  simp [exSent] at hget

end BfeVerif.C42
