import BfeVerif.C42.Model
/-! What `readRecord` does on each branch, and the invariant of the receive loop under the authenticity hypothesis. -/
namespace BfeVerif.C42

/-- Hypothesis on the record protection (never proved about the real ciphers).
    Whatever body `decrypt` accepts at sequence number `s` under header type `t` is exactly the body the
    peer produced for its `s`-th record, which had type `t` and plaintext `p`:  an ideal authenticator
    over (sequence number, type, version, length, content) and an adversary who cannot produce
    accepted bodies on its own. -/
def Authentic (dec : Nat → UInt8 → Bytes → Dec) (enc : Nat → UInt8 → Bytes → Bytes)
    (sent : List (UInt8 × Bytes)) : Prop :=
  ∀ s t c p, dec s t c = .ok p → c = enc s t p ∧ sent[s]? = some (t, p)

theorem idealDec_authentic (enc : Nat → UInt8 → Bytes → Bytes) (sent : List (UInt8 × Bytes)) :
    Authentic (idealDec enc sent) enc sent := by
  intro s t c p
  fun_cases idealDec enc sent s t c
  case case1 t' p' hs hc =>
    intro h
    cases h
    exact ⟨hc.2, by rw [hs, hc.1]⟩
  all_goals nofun

theorem of_ite_fail {c : Prop} [Decidable c] {n : Nat} {x : Dec} {p : Bytes}
    (h : (if c then Dec.fail n else x) = .ok p) : x = .ok p := by
  split at h
  · cases h
  · exact h

theorem decryptFam_ok {fam : Family} {inner : Nat → UInt8 → Bytes → Dec} {s t body p}
    (h : decryptFam fam inner s t body = .ok p) : inner s t body = .ok p := by
  cases fam with
  | aead e o => exact of_ite_fail (of_ite_fail h)
  | cbc bs m e => exact of_ite_fail h
  | stream m => exact of_ite_fail h

theorem decryptFam_short {fam : Family} {inner : Nat → UInt8 → Bytes → Dec} {s t body}
    (h : body.length < minLen fam) : decryptFam fam inner s t body = .fail body.length := by
  cases fam with
  | aead e o =>
    simp only [minLen] at h
    simp only [decryptFam]
    split
    · rfl
    · rw [if_pos (by omega)]
  | cbc bs m e => exact if_pos (Or.inr h)
  | stream m => exact if_pos h

theorem hdrLen_ofNat (n : Nat) (h : n < 65536) : hdrLen (UInt8.ofNat (n / 256)) (UInt8.ofNat (n % 256)) = n := by
  simp only [hdrLen, UInt8.toNat_ofNat']
  rw [Nat.mod_eq_of_lt (show n / 256 < 2 ^ 8 by omega), Nat.mod_mod]
  exact Nat.div_add_mod' n 256

theorem ofNat_hdrLen (l1 l2 : UInt8) :
    UInt8.ofNat (hdrLen l1 l2 / 256) = l1 ∧ UInt8.ofNat (hdrLen l1 l2 % 256) = l2 := by
  have h2 : l2.toNat < 256 := l2.toNat_lt
  unfold hdrLen
  rw [Nat.add_comm, Nat.add_mul_div_right _ _ (by decide), Nat.add_mul_mod_self_right, Nat.div_eq_of_lt h2,
    Nat.mod_eq_of_lt h2, Nat.zero_add]
  exact ⟨UInt8.ofNat_toNat, UInt8.ofNat_toNat⟩

theorem frame_eq {vers : UInt8 × UInt8} {v1 v2 l1 l2 : UInt8} {rest : Bytes} (t : UInt8)
    (hv : (v1, v2) = vers) (hn : hdrLen l1 l2 ≤ rest.length) :
    t :: v1 :: v2 :: l1 :: l2 :: rest
      = frame vers t (rest.take (hdrLen l1 l2)) ++ rest.drop (hdrLen l1 l2) := by
  unfold frame
  rw [List.length_take, Nat.min_eq_left hn, (ofNat_hdrLen l1 l2).1, (ofNat_hdrLen l1 l2).2, ← hv]
  simp only [List.cons_append, List.take_append_drop]

theorem honest_append (enc : Nat → UInt8 → Bytes → Bytes) (vers : UInt8 × UInt8)
    (a b : List (UInt8 × Bytes)) (i : Nat) :
    honest enc vers i (a ++ b) = honest enc vers i a ++ honest enc vers (i + a.length) b := by
  induction a generalizing i with
  | nil => rfl
  | cons x a ih =>
    simp only [List.cons_append, honest, ih, List.length_cons, List.append_assoc]
    rw [show i + 1 + a.length = i + (a.length + 1) by omega]

theorem appBytes_append (a b : List (UInt8 × Bytes)) : appBytes (a ++ b) = appBytes a ++ appBytes b := by
  induction a with
  | nil => rfl
  | cons x a ih => simp only [List.cons_append, appBytes, ih, List.append_assoc]

/-- non-EOF error | application data parked in `c.input` | warning alert dropped, `goto Again` | close_notify -/
theorem dispatch_cases (t : UInt8) (data : Bytes) (err0 : Option Err) :
    (∃ e, dispatch t data err0 = (some e, none, false) ∧ e ≠ .eof) ∨
    (t = 23 ∧ dispatch t data err0 = (err0, some data, false)) ∨
    (t = 21 ∧ data.length = 2 ∧ dispatch t data err0 = (err0, none, true)) ∨
    (t = 21 ∧ (∃ lvl, data = [lvl, 0]) ∧ dispatch t data err0 = (some .eof, none, false)) := by
  fun_cases dispatch t data err0
  case case2 ht lvl _ => exact .inr (.inr (.inr ⟨ht, ⟨lvl, rfl⟩, rfl⟩))
  case case3 ht _ _ _ => exact .inr (.inr (.inl ⟨ht, rfl, rfl⟩))
  case case8 _ _ ht _ => exact .inr (.inl ⟨ht, rfl⟩)
  -- every other leaf sets a non-EOF error
  all_goals exact .inl ⟨_, rfl, nofun⟩

theorem dispatch_err (t : UInt8) {data : Bytes} (hl : data.length ≠ 2) {e0 : Err} (he0 : e0 ≠ .eof) :
    ∃ e inp, dispatch t data (some e0) = (some e, inp, false) ∧ e ≠ .eof := by
  rcases dispatch_cases t data (some e0) with ⟨e, h, he⟩ | ⟨_, h⟩ | ⟨_, hl', _⟩ | ⟨_, ⟨_, rfl⟩, _⟩
  · exact ⟨e, _, h, he⟩
  · exact ⟨_, _, h, he0⟩
  · exact absurd hl' hl
  · exact absurd rfl hl

section readRecord
variable {dec : Nat → UInt8 → Bytes → Dec} {vers : UInt8 × UInt8} {fuel : Nat} {st : St}
  {t v1 v2 l1 l2 : UInt8} {rest : Bytes}

theorem readRecord_short (h : st.raw.length < 5) :
    readRecord dec vers (fuel + 1) st = { st with err := some .eof } := by
  rw [readRecord]
  split
  · rename_i hraw
    rw [hraw] at h
    simp only [List.length_cons] at h
    omega
  · rfl

/-! the guards of a complete header, in the order of the code: each lemma assumes that the earlier ones passed -/
variable (hraw : st.raw = t :: v1 :: v2 :: l1 :: l2 :: rest)
include hraw

theorem readRecord_badvers (hv : (v1, v2) ≠ vers) :
    readRecord dec vers (fuel + 1) st = { st with err := some .badvers } := by
  rw [readRecord, hraw]
  exact if_pos hv

variable (hv : (v1, v2) = vers)
include hv

theorem readRecord_oversize (hn : hdrLen l1 l2 > maxCiphertext) :
    readRecord dec vers (fuel + 1) st = { st with err := some .oversize } := by
  rw [readRecord, hraw]
  simp only [ne_eq, hv, not_true_eq_false, if_false, hn, if_true]

variable (hn1 : ¬ hdrLen l1 l2 > maxCiphertext)
include hn1

theorem readRecord_ueof (hn2 : rest.length < hdrLen l1 l2) :
    readRecord dec vers (fuel + 1) st = { st with err := some .ueof } := by
  rw [readRecord, hraw]
  simp only [ne_eq, hv, not_true_eq_false, if_false, hn1, hn2, if_true]

variable (hn2 : ¬ rest.length < hdrLen l1 l2)
include hn2

theorem readRecord_ok {p e inp again} (hdec : dec st.seq t (rest.take (hdrLen l1 l2)) = .ok p)
    (hd : dispatch t p none = (e, inp, again)) :
    readRecord dec vers (fuel + 1) st =
      let st' := { st with seq := st.seq + 1, raw := rest.drop (hdrLen l1 l2), err := e, input := inp }
      if again then readRecord dec vers fuel st' else st' := by
  rw [readRecord, hraw]
  simp only [ne_eq, hv, not_true_eq_false, if_false, hn1, hn2, hdec, hd]

theorem readRecord_fail {x} (hdec : dec st.seq t (rest.take (hdrLen l1 l2)) = .fail x) :
    ∃ e inp, e ≠ .eof ∧
      readRecord dec vers (fuel + 1) st = { st with err := some e, input := inp, macFailed := true } := by
  -- the block left behind (at least the 5 header bytes) is longer than an alert
  obtain ⟨e, inp, hd, he⟩ := dispatch_err t (data := List.replicate (x + 5) 0) (e0 := .localAlert 20)
    (by rw [List.length_replicate]; omega) nofun
  refine ⟨e, inp, he, ?_⟩
  rw [readRecord, hraw]
  simp only [ne_eq, hv, not_true_eq_false, if_false, hn1, hn2, hdec, hd, Bool.false_eq_true]

end readRecord

/-- bytes waiting in `c.input` that the next `Read` would return -/
def pend (st : St) : Bytes :=
  match st.err, st.input with
  | none, some p => p
  | _, _ => []

theorem pend_err {st : St} {e} (h : st.err = some e) : pend st = [] := by
  unfold pend; rw [h]

theorem pend_noinput {st : St} (h : st.input = none) : pend st = [] := by
  unfold pend
  rw [h]
  cases st.err <;> rfl

theorem pend_ready {st : St} {p} (he : st.err = none) (hi : st.input = some p) : pend st = p := by
  unfold pend; rw [he, hi]

/-- The invariant of the receive loop; `w`: the whole incoming stream, `sent`: the peer's record history. -/
structure Inv (enc : Nat → UInt8 → Bytes → Bytes) (vers : UInt8 × UInt8)
    (sent : List (UInt8 × Bytes)) (w : Bytes) (st : St) : Prop where
  stream : w = honest enc vers 0 (sent.take st.seq) ++ st.raw
  seqle : st.seq ≤ sent.length
  some_prefix : ∃ j, j ≤ st.seq ∧ st.out ++ pend st = appBytes (sent.take j)
  /-- `some_prefix` with `j = seq`: without an error nothing accepted is withheld -/
  exact : st.err = none → st.out ++ pend st = appBytes (sent.take st.seq)
  /-- why `io.EOF` was reported -/
  eofc : st.err = some .eof →
    st.raw.length < 5 ∨ ∃ lvl, 0 < st.seq ∧ sent[st.seq - 1]? = some (21, [lvl, 0])
  /-- at `io.EOF` everything accepted has been delivered -/
  eofx : st.err = some .eof → st.out = appBytes (sent.take st.seq)

section Inv
variable {dec : Nat → UInt8 → Bytes → Dec} {enc : Nat → UInt8 → Bytes → Bytes} {vers : UInt8 × UInt8}
  {sent : List (UInt8 × Bytes)} {w : Bytes} {st : St}

theorem inv_init : Inv enc vers sent w { raw := w } :=
  ⟨rfl, Nat.zero_le _, ⟨0, Nat.le_refl _, rfl⟩, fun _ => rfl, nofun, nofun⟩

theorem Inv.set_err {e : Err} {inp : Option Bytes} {mf : Bool} (h : Inv enc vers sent w st) (hp : pend st = [])
    (he : e = .eof → st.raw.length < 5 ∧ st.err = none) :
    Inv enc vers sent w { st with err := some e, input := inp, macFailed := mf } := by
  obtain ⟨j, hj, hjp⟩ := h.some_prefix
  rw [hp] at hjp
  refine ⟨h.stream, h.seqle, ⟨j, hj, hjp⟩, nofun, fun hc => .inl (he (Option.some.inj hc)).1, fun hc => ?_⟩
  have hex := h.exact (he (Option.some.inj hc)).2
  rwa [hp, List.append_nil] at hex

/-- `st'`: the state after `decrypt` accepted the next record, by `Authentic` the peer's record number `st.seq` -/
theorem Inv.accept {st' : St} {t p} (h : Inv enc vers sent w st) (hp : pend st = []) (herr : st.err = none)
    (hs : sent[st.seq]? = some (t, p)) (hseq : st'.seq = st.seq + 1) (hout : st'.out = st.out)
    (hraw : w = honest enc vers 0 (sent.take st'.seq) ++ st'.raw)
    (hpend : st'.err = none → pend st' = if t = 23 then p else [])
    (heof : st'.err = some .eof → t = 21 ∧ ∃ lvl, p = [lvl, 0]) : Inv enc vers sent w st' := by
  have hlt : st.seq < sent.length := (List.getElem?_eq_some_iff.mp hs).1
  have hex := h.exact herr
  rw [hp, List.append_nil] at hex
  have happ : appBytes (sent.take st'.seq) = st.out ++ if t = 23 then p else [] := by
    rw [hseq, List.take_add_one, hs, appBytes_append, hex]
    simp only [Option.toList_some, appBytes, List.append_nil]
  refine ⟨hraw, by omega, ?_, fun he => ?_, fun he => ?_, fun he => ?_⟩
  · cases he : st'.err with
    | none => exact ⟨st'.seq, Nat.le_refl _, by rw [hout, hpend he, happ]⟩
    | some e => exact ⟨st.seq, by omega, by rw [hout, pend_err he, List.append_nil, hex]⟩
  · rw [hout, hpend he, happ]
  · obtain ⟨ht, lvl, hpl⟩ := heof he
    exact .inr ⟨lvl, by omega, by rw [hseq, Nat.add_sub_cancel, hs, ht, hpl]⟩
  · rw [hout, happ, (heof he).1]
    exact (List.append_nil _).symm

theorem readRecord_inv (ha : Authentic dec enc sent) :
    ∀ (fuel : Nat) (st : St), Inv enc vers sent w st → st.input = none → st.err = none →
      Inv enc vers sent w (readRecord dec vers fuel st)
  | 0, _, h, _, _ => h
  | fuel + 1, st, h, hin, herr => by
    have hp := pend_noinput hin
    rcases hraw : st.raw with _ | ⟨t, _ | ⟨v1, _ | ⟨v2, _ | ⟨l1, _ | ⟨l2, rest⟩⟩⟩⟩⟩
    iterate 5
      rw [readRecord_short (by simp [hraw])]
      exact h.set_err hp fun _ => ⟨by simp [hraw], herr⟩
    by_cases hv : (v1, v2) = vers
    case neg =>
      rw [readRecord_badvers hraw hv]
      exact h.set_err hp nofun
    by_cases hn1 : hdrLen l1 l2 > maxCiphertext
    case pos =>
      rw [readRecord_oversize hraw hv hn1]
      exact h.set_err hp nofun
    by_cases hn2 : rest.length < hdrLen l1 l2
    case pos =>
      rw [readRecord_ueof hraw hv hn1 hn2]
      exact h.set_err hp nofun
    cases hdec : dec st.seq t (rest.take (hdrLen l1 l2)) with
    | fail x =>
      obtain ⟨e, inp, he, hr⟩ := readRecord_fail (fuel := fuel) hraw hv hn1 hn2 hdec
      rw [hr]
      exact h.set_err hp fun hc => absurd hc he
    | ok p =>
      -- the accepted body is the peer's record number `st.seq`, so the consumed bytes are its honest frame
      obtain ⟨hc, hs⟩ := ha _ _ _ _ hdec
      have hlt : st.seq < sent.length := (List.getElem?_eq_some_iff.mp hs).1
      have hstream : w = honest enc vers 0 (sent.take (st.seq + 1)) ++ rest.drop (hdrLen l1 l2) := by
        rw [h.stream, hraw, frame_eq t hv (Nat.le_of_not_lt hn2), hc, List.take_add_one, hs,
          honest_append, List.length_take, Nat.min_eq_left (Nat.le_of_lt hlt)]
        simp only [Option.toList_some, honest, Nat.zero_add, List.append_nil, List.append_assoc]
      have acc := fun e i => h.accept (t := t) (p := p)
        (st' := { st with seq := st.seq + 1, raw := rest.drop (hdrLen l1 l2), err := e, input := i })
        hp herr hs rfl rfl hstream
      rcases dispatch_cases t p none with ⟨e, hd, he⟩ | ⟨ht, hd⟩ | ⟨ht, _, hd⟩ | ⟨ht, hpl, hd⟩
      all_goals rw [readRecord_ok hraw hv hn1 hn2 hdec hd]
      · exact acc _ _ nofun fun hc => absurd (Option.some.inj hc) he
      · exact acc _ _ (fun _ => (if_pos ht).symm) nofun
      · exact readRecord_inv ha fuel _ (acc _ _ (fun _ => (if_neg (by rw [ht]; decide)).symm) nofun) rfl rfl
      · exact acc _ _ nofun fun _ => ⟨ht, hpl⟩

/-- `Conn.Read` hands over the pending block -/
theorem Inv.deliver {out : Bytes} {k : Nat} (h : Inv enc vers sent w st) (herr : st.err = none)
    (ho : out = st.out ++ pend st) : Inv enc vers sent w { st with input := none, out := out, empties := k } := by
  have hex := h.exact herr
  rw [← ho] at hex
  have hex' : out ++ pend { st with input := none, out := out, empties := k } = appBytes (sent.take st.seq) := by
    rw [pend_noinput rfl, List.append_nil, hex]
  have hne : st.err ≠ some .eof := by rw [herr]; nofun
  exact ⟨h.stream, h.seqle, ⟨st.seq, Nat.le_refl _, hex'⟩, fun _ => hex', fun hc => absurd hc hne,
    fun hc => absurd hc hne⟩

/-- the inner `for c.input == nil && c.in.err == nil` loop of `Conn.Read` -/
theorem Inv.readLoop (ha : Authentic dec enc sent) (h : Inv enc vers sent w st) (hin : st.input = none) :
    Inv enc vers sent w
      (if st.input.isNone ∧ st.err.isNone then readRecord dec vers (st.raw.length + 1) st else st) := by
  split
  · exact readRecord_inv ha _ st h hin (Option.isNone_iff_eq_none.mp ‹_ ∧ _›.2)
  · exact h

theorem serve_inv (ha : Authentic dec enc sent) (fuel : Nat) (st : St) (h : Inv enc vers sent w st)
    (hin : st.input = none) :
    Inv enc vers sent w (serve dec vers fuel st) ∧ pend (serve dec vers fuel st) = [] := by
  fun_induction serve dec vers fuel st
  case case1 => exact ⟨h, pend_noinput hin⟩
  -- in the other cases the let-variable of `serve` is the state after the inner loop
  all_goals have hst := h.readLoop ha hin
  case case2 e he => exact ⟨hst, pend_err he⟩
  case case3 he hi => exact ⟨hst, pend_noinput hi⟩
  case case4 he p hi hpe _ =>
    exact ⟨hst.set_err (by rw [pend_ready he hi, List.isEmpty_iff.mp hpe]) nofun, pend_err rfl⟩
  case case5 he p hi hpe _ ih =>
    exact ih (hst.deliver he (by rw [pend_ready he hi, List.isEmpty_iff.mp hpe, List.append_nil])) rfl
  case case6 he p hi hpe ih => exact ih (hst.deliver he (by rw [pend_ready he hi])) rfl

theorem runStream_inv (ha : Authentic dec enc sent) (w : Bytes) :
    Inv enc vers sent w (runStream dec vers w) ∧ pend (runStream dec vers w) = [] :=
  serve_inv ha _ _ inv_init rfl

end Inv

end BfeVerif.C42
