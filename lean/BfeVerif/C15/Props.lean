import BfeVerif.C15.Proofs
import BfeVerif.Generated.C15
/-!
  C15 — hot reload is atomic and race-free.

  Scope: the server-data configuration (`srv.ServerConf`: host, vip, route tables and cluster_conf).  The balancer
  table, TLS and module tables are separate snapshot domains and the snapshot theorems do not cover them (see
  checks/C15.json); the last two parts of the file say of them only that no exit of a lock-taking function keeps its
  mutex, and that a module request in flight keeps the data it took.
  Granularity: one mutex-protected block = one atomic step; theorems hold for EVERY step sequence (= every interleaving
  of any number of reload goroutines and requests).  The lock-set theorem is instantiated with the access table
  extracted from bfe_server/*.go on every check run (`Generated.C15.accesses`).
-/
namespace BfeVerif.C15

/-- **one snapshot per request**: in every interleaving, every routing read of request `i` sees the version its
    `GetServerConf()` captured, and that version passed `LoadServerDataConf` completely.
    `hc` and `hs` together say that `steps` has no `readLive`; `sites` only ties that to the extracted table
    (`C15_snapshot_current`). -/
theorem C15_snapshot (sites : List (String × Nat)) (hc : pathClean sites = true)
    (steps : List Step) (hs : Conforms (pathClean sites) steps) (i v : Nat)
    (h : v ∈ ((runSteps St.init steps).reqs i).reads) :
    ((runSteps St.init steps).reqs i).snap = some v ∧ v ∈ (runSteps St.init steps).valid := by
  have inv := inv_run steps St.init (inv_init steps)
  have hv := ((inv.req_ok i).2 v h).resolve_right (hs hc i)
  exact ⟨hv, (inv.req_ok i).1 v hv⟩

/-- all reads of one request agree (no request is served half by the old and half by the new configuration) -/
theorem C15_single_version (sites : List (String × Nat)) (hc : pathClean sites = true)
    (steps : List Step) (hs : Conforms (pathClean sites) steps) (i v w : Nat)
    (hv : v ∈ ((runSteps St.init steps).reqs i).reads) (hw : w ∈ ((runSteps St.init steps).reqs i).reads) : v = w :=
  Option.some.inj ((C15_snapshot sites hc steps hs i v hv).1.symm.trans (C15_snapshot sites hc steps hs i w hw).1)

/-- **in-flight requests keep their snapshot**: whatever happens after the snapshot (any number of reloads), the
    request's snapshot is unchanged, hence all its later reads still see that version. -/
theorem C15_inflight_keeps (sites : List (String × Nat)) (hc : pathClean sites = true)
    (pre post : List Step) (hconf : Conforms (pathClean sites) (pre ++ post)) (i v : Nat)
    (h : ((runSteps St.init pre).reqs i).snap = some v) :
    ((runSteps St.init (pre ++ post)).reqs i).snap = some v ∧
    ∀ w ∈ ((runSteps St.init (pre ++ post)).reqs i).reads, w = v := by
  have hs : ((runSteps St.init (pre ++ post)).reqs i).snap = some v := by
    simp only [runSteps, List.foldl_append]
    exact snap_stable_run post _ i v h
  exact ⟨hs, fun w hw => Option.some.inj ((C15_snapshot sites hc (pre ++ post) hconf i w hw).1.symm.trans hs)⟩

/-- **a failed reload is invisible**: the version the server holds, and every version a request can see, is the
    initial one or one whose load succeeded. -/
theorem C15_only_loaded_versions (sites : List (String × Nat)) (hc : pathClean sites = true)
    (steps : List Step) (hs : Conforms (pathClean sites) steps) :
    ((runSteps St.init steps).cur = 0 ∨ Step.load (runSteps St.init steps).cur true ∈ steps) ∧
    ∀ i v, ((runSteps St.init steps).reqs i).snap = some v → v = 0 ∨ Step.load v true ∈ steps :=
  loaded_run steps

/-- **one snapshot site per request, none in the request path** — `pathClean` checked on the table regenerated
    from the CURRENT bfe_server/*.go, following same-package calls (methods resolved by receiver type).  A
    `srv.GetServerConf()` inside ReverseProxy.ServeHTTP — or inside a helper it calls — makes this fail; extracting
    or renaming helpers elsewhere does not. -/
theorem C15_request_path_clean : pathClean BfeVerif.Generated.C15.pathSites = true := by decide +kernel

/-- the snapshot theorems for the code as it is now: every step sequence without live reads -/
theorem C15_snapshot_current (steps : List Step) (hs : Conforms (pathClean BfeVerif.Generated.C15.pathSites) steps)
    (i v w : Nat) (hv : v ∈ ((runSteps St.init steps).reqs i).reads) (hw : w ∈ ((runSteps St.init steps).reqs i).reads) :
    v = w ∧ ((runSteps St.init steps).reqs i).snap = some v :=
  ⟨C15_single_version _ C15_request_path_clean steps hs i v w hv hw,
   (C15_snapshot _ C15_request_path_clean steps hs i v hv).1⟩

/-- why the table matters: ONE live read in the request path (the cluster lookup reading `GetServerConf()`) lets a
    reload that lands between snapshot and lookup tear the request: routed under version 0, resolved under 7. -/
theorem C15_witness_live_read :
    ((runSteps St.init [.snap 1, .read 1, .load 7 true, .swap 7, .read 1, .readLive 1]).reqs 1).reads = [0, 0, 7] := by
  decide +kernel

example : pathClean [("ReverseProxy.ServeHTTP", 1), ("BfeServer.findProduct", 0), ("BfeServer.findCluster", 0), ("conn.readRequest", 1)] = false := by
  decide +kernel
example : Conforms true [.snap 1, .load 7 true, .swap 7, .read 1] := by
  intro _ i h; simp at h
-- request 1 snapshots version 0, a reload to 7 completes: request 1 still reads 0, request 2 reads 7
example : let s := runSteps St.init [.snap 1, .read 1, .load 7 true, .swap 7, .snap 2, .read 1, .read 2, .load 8 false, .swap 8]
    (s.reqs 1).reads = [0, 0] ∧ (s.reqs 2).reads = [7] ∧ s.cur = 7 := by decide +kernel

/-- **lock-set theorem** (generic): if every access site of a field holds the RWMutex (writes exclusively), no
    reachable state has two threads inside conflicting accesses. -/
theorem C15_lockset (table : List Access) (hd : ∀ a ∈ table, disciplined a = true)
    (ts : Threads) (hr : Reach table ts) : ¬ Race ts := by
  rintro ⟨t, u, a, b, htu, ha, hb, hw⟩
  have ⟨ma, xa⟩ := reach_held hr ha
  have ⟨mb, xb⟩ := reach_held hr hb
  have da := disciplined_spec (hd a ma)
  have db := disciplined_spec (hd b mb)
  -- the writer holds `Lock`, which excludes the `RLock` or `Lock` the other one holds
  rcases hw with hw | hw
  · have hex := xa u b (Ne.symm htu) hb (da.2 hw)
    rcases db.1 with h | h <;> omega
  · have hex := xb t a htu ha (db.2 hw)
    rcases da.1 with h | h <;> omega

/-- the access sites of `srv.ServerConf` outside start-up, from the CURRENT source -/
def serverConfTable : List Access := BfeVerif.Generated.C15.accesses.filter fun a => a.1 != "InitDataLoad"

/-- **`srv.ServerConf` is race-free** after start-up: instantiation with the extracted table
    (the repaired code, see fixes/C15-unlocked-read.md). -/
theorem C15_serverconf_race_free (ts : Threads) (hr : Reach serverConfTable ts) : ¬ Race ts :=
  C15_lockset serverConfTable (by decide +kernel) ts hr

/-- the request path never reads `srv.ServerConf` directly (only through the snapshot taken by GetServerConf):
    none of the routing functions occurs in the access table. -/
theorem C15_request_path_uses_snapshot :
    ∀ a ∈ BfeVerif.Generated.C15.accesses,
      a.1 ∉ ["findProduct", "findCluster", "FindLocation", "clusterInvoke", "ServeHTTP", "serveRequest", "FindProduct", "Balance"] := by
  decide +kernel

example : serverConfTable.length ≥ 2 := by decide +kernel
example : serverConfTable.any (fun a => a.2.1) = true := by decide +kernel   -- the swap (a locked write) is in the table
-- the row of the unlocked read (fixes/C15-unlocked-read.md) is not disciplined
example : disciplined ("serverDataConfReload", false, 0) = false := by decide +kernel

/-! ### the lock domain of the balancer table: no exit keeps the mutex -/

theorem callStep_free (s : MuState) (e : LockExit) (hs : s.held = false ∧ s.blocked = 0) (he : e.2.2 = true) :
    (callStep s e).held = false ∧ (callStep s e).blocked = 0 := by
  unfold callStep
  simp [hs.1, hs.2, he]

/-- **no lock leak** (generic): if every exit of the table releases the mutex, then after ANY sequence of complete
    calls (reloads that succeed, fail half-way, lookups …) the mutex is free and no call was ever blocked. -/
theorem C15_no_lock_leak (table : List LockExit) (ht : ∀ e ∈ table, e.2.2 = true)
    (calls : List LockExit) (hc : ∀ e ∈ calls, e ∈ table) :
    (runCalls calls).held = false ∧ (runCalls calls).blocked = 0 := by
  exact List.foldlRecOn calls callStep (b := {}) (motive := fun s => s.held = false ∧ s.blocked = 0) ⟨rfl, rfl⟩
    fun s hs e he => callStep_free s e hs (ht e (hc e he))

/-- every exit of every lock-taking function of bal_table.go, bal_gslb.go, bfe_confdata_load.go, bfe_server.go,
    reverseproxy.go and bfe_cluster.go — regenerated from the CURRENT source — releases its mutex
    (each `return` is preceded by `Unlock` or covered by a deferred one). -/
theorem C15_reload_paths_release_lock : ∀ e ∈ BfeVerif.Generated.C15.lockExits, e.2.2 = true := by decide +kernel

theorem C15_no_lock_leak_current (calls : List LockExit) (hc : ∀ e ∈ calls, e ∈ BfeVerif.Generated.C15.lockExits) :
    (runCalls calls).held = false ∧ (runCalls calls).blocked = 0 :=
  C15_no_lock_leak _ C15_reload_paths_release_lock calls hc

/-- one exit that keeps the mutex (an early `return` above `t.lock.Unlock()`) blocks every later call for ever -/
theorem C15_witness_lock_leak :
    (runCalls [("bal_table.go:BalTable.BalTableReload", 263, false), ("bal_table.go:BalTable.Lookup", 287, true),
      ("bal_table.go:BalTable.BalTableReload", 277, true)]).blocked = 2 := by decide +kernel

example : BfeVerif.Generated.C15.lockExits.any (fun e => e.1 == "bal_table.go:BalTable.BalTableReload") = true := by decide +kernel

/-! ### module data -/

theorem mstep_inv (s : MSt) (st : MStep) (ht : ∀ v, st ≠ .reload v true)
    (h : s.dead = [] ∧ ∀ o ∈ s.out, o.2.2 = some o.2.1) :
    (mstep s st).dead = [] ∧ ∀ o ∈ (mstep s st).out, o.2.2 = some o.2.1 := by
  obtain ⟨hd, ho⟩ := h
  -- with nothing dead, an answer appended to the output is the data of the version taken
  have push (l : String) (v : Nat) : ∀ o ∈ s.out ++ [(l, v, answer s.dead v)], o.2.2 = some o.2.1 := by
    intro o hmem
    rcases List.mem_append.mp hmem with hmem | hmem
    · exact ho o hmem
    · rw [List.mem_singleton.mp hmem, hd]; rfl
  cases st with
  | reload v t =>
    cases t with
    | true => exact absurd rfl (ht v)
    | false => exact ⟨hd, ho⟩
  | take i => exact ⟨hd, ho⟩
  | use i =>
    simp only [mstep]
    split
    · exact ⟨hd, push _ _⟩
    · exact ⟨hd, ho⟩
  | handle => exact ⟨hd, push _ _⟩

/-- **in-flight requests finish with the data they took**: in every interleaving of reloads, takes and uses in which no
    reload touches the value it replaced, every `use` (and every whole request) is answered by exactly the version it
    took — never a failure, never newer data. -/
theorem C15_module_inflight (steps : List MStep) (ht : ∀ v, MStep.reload v true ∉ steps) :
    ∀ o ∈ (mrun steps).out, o.2.2 = some o.2.1 := by
  exact (List.foldlRecOn steps mstep (b := {}) (motive := fun s => s.dead = [] ∧ ∀ o ∈ s.out, o.2.2 = some o.2.1) ⟨rfl, nofun⟩
    fun s h st hst => mstep_inv s st (fun v e => ht v (e ▸ hst)) h).2

/-- no module reload of the CURRENT source touches the value it replaces (mod_geo loadConfData, the rule-table
    `Update`s of mod_block / mod_redirect / mod_rewrite): regenerated from the source on every run. -/
theorem C15_module_reloads_keep_old_data : ∀ e ∈ BfeVerif.Generated.C15.moduleSwaps, e.2 = false := by decide +kernel

/-- what closing the replaced database does to a request that took it before the reload -/
theorem C15_witness_module_close :
    (mrun [.take 1, .reload 1 true, .use 1, .handle]).out = [("U1", 0, none), ("H", 1, some 1)] := by decide +kernel

example : BfeVerif.Generated.C15.moduleSwaps.any (fun e => e.1 == "mod_geo:ModuleGeo.loadConfData") = true := by decide +kernel

end BfeVerif.C15
