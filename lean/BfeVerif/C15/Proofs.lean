import BfeVerif.C15.Model
/-! Snapshots: `Inv` along `runSteps`, proved not against `step` but against `Eff`, an over-approximation of what one
    step may do (`step_eff`); `List.foldlRecOn` lifts each consumer of `Eff` to runs (and, in Props.lean, the step
    lemmas of the lock-leak and module-data parts, `callStep_free` and `mstep_inv`).  Lock sets: `reach_held`, the one
    induction along `Reach`. -/
namespace BfeVerif.C15

def ReqOK (valid : List Nat) (live : Prop) (r : Req) : Prop :=
  (∀ v, r.snap = some v → v ∈ valid) ∧ ∀ v ∈ r.reads, r.snap = some v ∨ live

/-- `steps` is the whole run the state lies on: a valid version other than the initial one was loaded somewhere in it,
    and a request with a live read anywhere in it is excused (`live`) from "every read is the snapshot" -/
structure Inv (steps : List Step) (s : St) : Prop where
  cur_valid : s.cur ∈ s.valid
  pending_valid : ∀ v ∈ s.pending, v ∈ s.valid
  valid_loaded : ∀ v ∈ s.valid, v = 0 ∨ Step.load v true ∈ steps
  req_ok : ∀ i, ReqOK s.valid (Step.readLive i ∈ steps) (s.reqs i)

theorem inv_init (steps : List Step) : Inv steps St.init :=
  ⟨List.mem_singleton.mpr rfl, nofun, fun _ h => .inl (List.mem_singleton.mp h), fun _ => ⟨nofun, nofun⟩⟩

theorem upd_cases {P : Req → Prop} {f : Nat → Req} {i j : Nat} {r : Req} (hf : P (f j)) (hr : j = i → P r) :
    P (upd f i r j) := by
  unfold upd
  split
  · exact hr ‹_›
  · exact hf

/-- what a step does to the state, and of `st` only what a consumer needs; `req i r`: request `i` gets the new record `r` -/
inductive Eff (s : St) (st : Step) : St → Prop
  | nothing : Eff s st s
  | load v : st = .load v true → Eff s st { s with valid := v :: s.valid, pending := v :: s.pending }
  | swap v : v ∈ s.pending → Eff s st { s with cur := v, pending := s.pending.erase v }
  | req i r (keep : ∀ w, (s.reqs i).snap = some w → r.snap = some w)
      (new : ∀ w, r.snap = some w → (s.reqs i).snap = some w ∨ w = s.cur)
      (reads : ∀ w ∈ r.reads, w ∈ (s.reqs i).reads ∨ r.snap = some w ∨ st = .readLive i) :
      Eff s st { s with reqs := upd s.reqs i r }

/-- along the branches of `step`: the enabled ones are 1 load, 3 swap, 5 snap, 8 read, 11 readLive, 13 finish -/
theorem step_eff (s : St) (st : Step) : Eff s st (step s st) := by
  fun_cases step s st with
  | case1 v => exact .load v rfl
  | case3 v h => exact .swap v (List.contains_iff_mem.mp h)
  | case5 i h =>
    simp only [Bool.and_eq_true, Option.isNone_iff_eq_none] at h
    exact .req i _ (fun w hw => nomatch h.1.symm.trans hw) (fun w hw => .inr (Option.some.inj hw).symm)
      fun w hw => .inl hw
  | case8 i v hv =>
    refine .req i _ (fun _ h => h) (fun _ h => .inl h) fun w hw => ?_
    exact (List.mem_append.mp hw).imp_right fun (hw : w ∈ [v]) => .inl (List.mem_singleton.mp hw ▸ hv)
  | case11 i =>
    refine .req i _ (fun _ h => h) (fun _ h => .inl h) fun w hw => ?_
    exact (List.mem_append.mp hw).imp_right fun _ => .inr rfl
  | case13 i => exact .req i _ (fun _ h => h) (fun _ h => .inl h) fun w hw => .inl hw
  | _ => exact .nothing

theorem Eff.inv {s s' : St} {st : Step} {steps : List Step} (e : Eff s st s') (h : Inv steps s) (hst : st ∈ steps) :
    Inv steps s' := by
  obtain ⟨h1, h2, hl, h3⟩ := h
  cases e with
  | nothing => exact ⟨h1, h2, hl, h3⟩
  | load v e =>
    exact ⟨List.mem_cons_of_mem _ h1, fun w hw => List.mem_cons.mpr ((List.mem_cons.mp hw).imp_right (h2 w)),
      fun w hw => (List.mem_cons.mp hw).elim (fun ew => .inr (ew ▸ e ▸ hst)) (hl w),
      fun i => ⟨fun w hw => List.mem_cons_of_mem _ ((h3 i).1 w hw), (h3 i).2⟩⟩
  | swap v hv => exact ⟨h2 v hv, fun w hw => h2 w (List.mem_of_mem_erase hw), hl, h3⟩
  | req j r hkeep hnew hreads =>
    refine ⟨h1, h2, hl, fun i => upd_cases (h3 i) ?_⟩
    rintro rfl
    refine ⟨fun w hw => ?_, fun w hw => ?_⟩
    · rcases hnew w hw with hw | rfl
      · exact (h3 i).1 w hw
      · exact h1
    · rcases hreads w hw with hw | hw | hw
      · exact ((h3 i).2 w hw).imp_left (hkeep w)
      · exact .inl hw
      · exact .inr (hw ▸ hst)

theorem inv_run (steps : List Step) (s : St) (h : Inv steps s) : Inv steps (runSteps s steps) :=
  List.foldlRecOn steps step h fun s h st hst => (step_eff s st).inv h hst

theorem Eff.snap_stable {s s' : St} {st : Step} (e : Eff s st s') {i v : Nat} (h : (s.reqs i).snap = some v) :
    (s'.reqs i).snap = some v := by
  cases e with
  | nothing | load | swap => exact h
  | req i' r hkeep => exact upd_cases (P := fun q => q.snap = some v) h fun hi => hkeep v (hi ▸ h)

theorem snap_stable_run (steps : List Step) (s : St) (i v : Nat) (h : (s.reqs i).snap = some v) :
    ((runSteps s steps).reqs i).snap = some v :=
  List.foldlRecOn steps step (motive := fun σ => (σ.reqs i).snap = some v) h fun s h st _ => (step_eff s st).snap_stable h

/-- on every run, live reads included -/
theorem loaded_run (steps : List Step) :
    ((runSteps St.init steps).cur = 0 ∨ Step.load (runSteps St.init steps).cur true ∈ steps) ∧
    ∀ i v, ((runSteps St.init steps).reqs i).snap = some v → v = 0 ∨ Step.load v true ∈ steps := by
  have inv := inv_run steps St.init (inv_init steps)
  exact ⟨inv.valid_loaded _ inv.cur_valid, fun i v h => inv.valid_loaded v ((inv.req_ok i).1 v h)⟩

/-- reading the thread map after thread `t0` entered (`x = some a0`) or left (`x = none`) -/
theorem threads_update_some {t t0 : Nat} {x : Option Access} {ts : Threads} {a : Access}
    (h : (if t = t0 then x else ts t) = some a) : (t = t0 ∧ x = some a) ∨ (t ≠ t0 ∧ ts t = some a) := by
  split at h
  · exact Or.inl ⟨‹_›, h⟩
  · exact Or.inr ⟨‹_›, h⟩

/-- a thread inside a `Lock` access excludes every other thread inside an `RLock` or `Lock` access -/
theorem reach_held {table : List Access} {ts : Threads} (h : Reach table ts) {t : Nat} {a : Access} (ha : ts t = some a) :
    a ∈ table ∧ ∀ u b, u ≠ t → ts u = some b → lockMode a = 2 → lockMode b ≠ 1 ∧ lockMode b ≠ 2 := by
  induction h generalizing t a with
  | init => cases ha
  | @enter ts t0 a0 _ hm hc ih =>
    obtain ⟨_, hw, hr⟩ := hc
    rcases threads_update_some ha with ⟨rfl, ea⟩ | ⟨_, ea⟩
    · cases ea
      refine ⟨hm, fun u b hu hb h2 => ?_⟩
      rcases threads_update_some hb with ⟨e, _⟩ | ⟨_, eb⟩
      · exact absurd e hu
      · exact hw h2 u b eb
    · refine ⟨(ih ea).1, fun u b hu hb h2 => ?_⟩
      rcases threads_update_some hb with ⟨_, eb⟩ | ⟨_, eb⟩
      · cases eb   -- `canEnter` forbids the entrant's mode 1 or 2 (`h4`) beside the old holder `a` of mode 2
        exact ⟨fun h4 => hr h4 t a ea h2, fun h4 => (hw h4 t a ea).2 h2⟩
      · exact (ih ea).2 u b hu eb h2
  | @leave ts t0 _ ih =>
    rcases threads_update_some ha with ⟨_, ha⟩ | ⟨_, ha⟩
    · cases ha
    refine ⟨(ih ha).1, fun u b hu hb => ?_⟩
    rcases threads_update_some hb with ⟨_, hb⟩ | ⟨_, hb⟩
    · cases hb
    exact (ih ha).2 u b hu hb

theorem disciplined_spec {a : Access} (h : disciplined a = true) :
    (lockMode a = 1 ∨ lockMode a = 2) ∧ (isWrite a = true → lockMode a = 2) := by
  simp only [disciplined, Bool.and_eq_true, Bool.or_eq_true, beq_iff_eq, Bool.not_eq_true'] at h
  exact ⟨h.1, fun hw => h.2.resolve_left (by simp [hw])⟩

end BfeVerif.C15
