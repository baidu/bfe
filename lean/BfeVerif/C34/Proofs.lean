import BfeVerif.C34.Model
/-!
  First the definitions the theorems of Props.lean are stated in (`Atom` … `runG`): order in terms of what a queue and
  a frame put on the wire (`pending`, `sentBy`), windows against the client's `Ghost`.
  `TakeFrom` lists the outcomes of `takeFrom` once and `take_elim` reduces `take` to it; the order and the window
  theorems are read off from these two, per `step` as `Keeps` (order) and `View` (windows = the client's `Ghost`).
-/
namespace BfeVerif.C34

/-- what a frame / a queue denotes: the sequence of octets and markers put on the wire -/
inductive Atom where
  | byte (msg idx : Nat)
  | hdr (endS : Bool)
  | fin                       -- END_STREAM flag on a DATA frame
deriving DecidableEq, Repr

def bytesOf (msg off len : Nat) : List Atom := (List.range' off len).map (Atom.byte msg)

def Wr.atoms : Wr → List Atom
  | .data msg off len e => bytesOf msg off len ++ (if e then [Atom.fin] else [])
  | .hdr e => [Atom.hdr e]

def qAtoms (q : List Wr) : List Atom := q.flatMap Wr.atoms

def Out.atoms : Out → List Atom
  | .data _ msg off len e _ => bytesOf msg off len ++ (if e then [Atom.fin] else [])
  | .hdr _ e => [Atom.hdr e]
  | _ => []

def Out.stream : Out → Option Nat
  | .data id .. => some id
  | .hdr id _ => some id
  | _ => none

def pending (s : St) (id : Nat) : List Atom := qAtoms ((s.sq.lookup id).getD [])

/-- atoms of stream `id` put on the wire by a frame -/
def sentBy (id : Nat) : Option Out → List Atom
  | some o => if o.stream = some id then o.atoms else []
  | none => []

def sentByL (id : Nat) (l : List Out) : List Atom := l.flatMap fun o => sentBy id (some o)

/-- what an operation appends to the queue of stream `id` -/
def addedBy (s : St) (msg id : Nat) : Op → List Atom
  | .addData i len e => if i = id ∧ (s.streams.lookup i).isSome then Wr.atoms (.data msg 0 len e) else []
  | .addHdr i e => if i = id ∧ (s.streams.lookup i).isSome then Wr.atoms (.hdr e) else []
  | _ => []

def nextMsg (msg : Nat) : Op → Nat
  | .addData .. => msg + 1
  | _ => msg

/-- run a list of operations; collect, for stream `id`, what was put on the wire and what was queued -/
def trace (id : Nat) : St → Nat → List Op → St × List Atom × List Atom
  | s, _, [] => (s, [], [])
  | s, msg, op :: r =>
    let t := trace id (step s msg op).2.2 (nextMsg msg op) r
    (t.1, sentByL id (step s msg op).2.1 ++ t.2.1, addedBy s msg id op ++ t.2.2)

/-- stream `id` is still a stream of the connection after every one of the operations, and none of
    the frames written so far carried its END_STREAM -/
def aliveAfterEach (id : Nat) : St → Nat → List Op → Prop
  | _, _, [] => True
  | s, msg, op :: r =>
    (step s msg op).2.2.streams.lookup id ≠ none ∧ (∀ o ∈ (step s msg op).2.1, o.ends ≠ some id) ∧
    aliveAfterEach id (step s msg op).2.2 (nextMsg msg op) r

def I32 (x : Int) : Prop := -2147483648 ≤ x ∧ x ≤ 2147483647

def AllR (l : List (Nat × Int)) : Prop := ∀ p ∈ l, I32 p.2

/-- what the CLIENT knows it has granted (see `C34_view_eq_ghost`) -/
structure Ghost where
  conn : Int := 65535
  win : List (Nat × Int) := []
  iws : Int := 65535
deriving Repr

def ghostFrame (g : Ghost) : Out → Ghost
  | .data id _ _ len _ _ =>
    if len = 0 then g else
    match g.win.lookup id with
    | some w => { g with conn := g.conn - len, win := setKey id (w - len) g.win }
    | none => { g with conn := g.conn - len }
  | _ => g

/-- a frame with END_STREAM ends the stream: its window is forgotten -/
def ghostEnds (g : Ghost) (o : Out) : Ghost :=
  match o.ends with
  | some id => { g with win := delKey id g.win }
  | none => g

def ghostChain (g : Ghost) (l : List Out) : Ghost := l.foldl (fun g o => ghostEnds (ghostFrame g o) o) g

def ghostStep (g : Ghost) (op : Op) (tok : String) (outs : List Out) : Ghost :=
  match op with
  | .openS id _ => if tok == "+" then { g with win := setKey id g.iws g.win } else g
  | .takeOp _ => ghostChain g outs
  | .wu id inc =>
    if tok == "ok" then
      if id == 0 then { g with conn := g.conn + inc }
      else match g.win.lookup id with
        | some w => { g with win := setKey id (w + inc) g.win }
        | none => g
    else if tok == "rst" then { g with win := delKey id g.win }
    else g
  | .setIws v =>
    if tok == "ok" then { g with iws := v, win := g.win.map fun p => (p.1, p.2 + ((v : Int) - g.iws)) } else g
  | .forgetOp id => if tok == "+" then { g with win := delKey id g.win } else g
  | _ => g

/-- what the frame parser / `Setting.Valid` guarantee about the numbers in client frames -/
def Op.valid : Op → Prop
  | .wu _ inc => inc ≤ 2147483647
  | .setIws v => v ≤ 2147483647
  | _ => True

/-- run the operations and the ghost side by side, as long as the connection lives -/
def runG : St → Ghost → Nat → List Op → St × Ghost
  | s, g, _, [] => (s, g)
  | s, g, msg, op :: r =>
    let t := step s msg op
    if t.2.2.dead then (s, g) else runG t.2.2 (ghostStep g op t.1 t.2.1) (nextMsg msg op) r

theorem beq_false_of_beq_of_ne {j k k' : Nat} (hj : (j == k') = true) (hk : ¬ (k' == k) = true) : (j == k) = false := by
  rw [beq_iff_eq.mp hj]; exact Bool.eq_false_iff.mpr hk

theorem lookup_setKey {α : Type} (k j : Nat) (v : α) (l : List (Nat × α)) :
    (setKey k v l).lookup j = if j == k then some v else l.lookup j := by
  fun_induction setKey k v l with
  | case1 => rw [List.lookup_cons]; cases j == k <;> rfl
  | case2 k' v' r hk =>
    rw [List.lookup_cons, List.lookup_cons, beq_iff_eq.mp hk]; cases j == k <;> rfl
  | case3 k' v' r hk ih =>
    rw [List.lookup_cons, List.lookup_cons, ih]
    cases hj : j == k'
    · rfl
    · rw [beq_false_of_beq_of_ne hj hk]; rfl

theorem lookup_delKey {α : Type} (k j : Nat) (l : List (Nat × α)) :
    (delKey k l).lookup j = if j == k then none else l.lookup j := by
  fun_induction delKey k l with
  | case1 => cases j == k <;> rfl
  | case2 k' v' r hk ih =>
    rw [ih, List.lookup_cons, beq_iff_eq.mp hk]; cases j == k <;> rfl
  | case3 k' v' r hk ih =>
    rw [List.lookup_cons, List.lookup_cons, ih]
    cases hj : j == k'
    · rfl
    · rw [beq_false_of_beq_of_ne hj hk]; rfl

theorem mem_setKey {α : Type} (k : Nat) (v : α) (l : List (Nat × α)) (p : Nat × α)
    (h : p ∈ setKey k v l) : p = (k, v) ∨ p ∈ l := by
  fun_induction setKey k v l with
  | case1 => exact Or.inl (List.mem_singleton.mp h)
  | case2 k' v' r hk => exact (List.mem_cons.mp h).imp id (List.mem_cons_of_mem _)
  | case3 k' v' r hk ih =>
    rcases List.mem_cons.mp h with h | h
    · exact Or.inr (h ▸ List.mem_cons_self)
    · exact (ih h).imp id (List.mem_cons_of_mem _)

theorem mem_delKey {α : Type} (k : Nat) (l : List (Nat × α)) (p : Nat × α)
    (h : p ∈ delKey k l) : p ∈ l := by
  fun_induction delKey k l with
  | case1 => exact h
  | case2 k' v' r hk ih => exact List.mem_cons_of_mem _ (ih h)
  | case3 k' v' r hk ih =>
    rcases List.mem_cons.mp h with h | h
    · exact h ▸ List.mem_cons_self
    · exact List.mem_cons_of_mem _ (ih h)

theorem lookup_mem {α : Type} {l : List (Nat × α)} {k : Nat} {v : α} (h : l.lookup k = some v) : (k, v) ∈ l := by
  obtain ⟨l₁, l₂, rfl, _⟩ := List.lookup_eq_some_iff.mp h
  exact List.mem_append_right _ List.mem_cons_self

theorem setKey_same {α : Type} {l : List (Nat × α)} {k : Nat} {v : α} (h : l.lookup k = some v) : setKey k v l = l := by
  fun_induction setKey k v l with
  | case1 => cases h
  | case2 k' v' r hk =>
    cases beq_iff_eq.mp hk
    rw [List.lookup_cons, beq_self_eq_true] at h
    cases h; rfl
  | case3 k' v' r hk ih =>
    have : (k == k') = false := Bool.eq_false_iff.mpr fun e => hk (beq_iff_eq.mpr (beq_iff_eq.mp e).symm)
    rw [List.lookup_cons, this] at h
    rw [ih h]

theorem bytesOf_split (msg off a len : Nat) (h : a ≤ len) :
    bytesOf msg off len = bytesOf msg off a ++ bytesOf msg (off + a) (len - a) := by
  unfold bytesOf
  rw [← List.map_append, List.range'_append_1, Nat.add_sub_cancel' h]

theorem atoms_chunk (id msg off a len : Nat) (e : Bool) (rest : List Wr) (h : a ≤ len) :
    Wr.atoms (.data msg off len e) ++ qAtoms rest =
      Out.atoms (.data id msg off a false false) ++ qAtoms (.data msg (off + a) (len - a) e :: rest) := by
  simp only [Wr.atoms, Out.atoms, qAtoms, List.flatMap_cons, bytesOf_split msg off a len h,
    List.append_assoc, Bool.false_eq_true, if_false, List.nil_append]

theorem pending_of_lookup {s : St} {id : Nat} {q : List Wr} (h : s.sq.lookup id = some q) :
    pending s id = qAtoms q := by
  rw [pending, h]; rfl

theorem pending_sq (s1 s2 : St) (id : Nat) (h : s1.sq = s2.sq) : pending s1 id = pending s2 id := by
  unfold pending; rw [h]

theorem pending_shiftQ (s : St) (j id : Nat) (rest : List Wr) :
    pending (shiftQ s j rest) id = if id = j then qAtoms rest else pending s id := by
  have hl : (shiftQ s j rest).sq.lookup id =
      if (id == j) = true then (if rest.isEmpty = true then none else some rest) else s.sq.lookup id := by
    cases rest
    · exact lookup_delKey j id s.sq
    · exact lookup_setKey j id _ s.sq
  rw [pending, hl]
  by_cases h : id = j
  · rw [if_pos (beq_iff_eq.mpr h), if_pos h]; cases rest <;> rfl
  · rw [if_neg (fun e => h (beq_iff_eq.mp e)), if_neg h]; rfl

theorem pending_forget_other (s : St) (j id : Nat) (h : id ≠ j) : pending (forget s j) id = pending s id := by
  have hb : (id == j) = false := by simp [h]
  unfold pending forget; simp [lookup_delKey, hb]

theorem forget_lookup_self (s : St) (id : Nat) :
    (forget s id).sq.lookup id = none ∧ (forget s id).streams.lookup id = none := by
  rw [forget, lookup_delKey, lookup_delKey]
  exact ⟨if_pos (beq_self_eq_true _), if_pos (beq_self_eq_true _)⟩

/-- `wroteFrame` closes the stream; the RST_STREAM it may queue first shows in `zero` only -/
theorem afterEnd_eq_forget (s : St) (id : Nat) : afterEnd s id = forget { s with zero := (afterEnd s id).zero } id := by
  unfold afterEnd; split <;> rfl

theorem pending_afterEnd_other (s : St) (j id : Nat) (h : id ≠ j) : pending (afterEnd s j) id = pending s id := by
  rw [afterEnd_eq_forget]; exact pending_forget_other { s with zero := _ } j id h

theorem pending_pushQ (s : St) (i id : Nat) (w : Wr) :
    pending (pushQ s i w) id = if i = id then pending s id ++ w.atoms else pending s id := by
  unfold pushQ pending
  by_cases h : i = id
  · subst h
    cases s.sq.lookup i <;> simp [lookup_setKey, qAtoms]
  · have hb : (id == i) = false := by simp [Ne.symm h]
    cases s.sq.lookup i <;> simp [lookup_setKey, hb, h]

theorem flowTake_sq (s s1 : St) (id : Nat) (n : Int) (h : flowTake s id n = some s1) : s1.sq = s.sq := by
  revert h
  fun_cases flowTake s id n
  case case2 => exact fun h => Option.some.inj h ▸ rfl
  all_goals exact nofun

theorem availOf_eq_min (c n : Int) : availOf c n = min c n := by
  unfold availOf; omega

theorem allowedOf_eq_min (mfs : Nat) (a0 : Int) : allowedOf mfs a0 = min (mfs : Int) a0 := by
  unfold allowedOf; omega

theorem allowedOf_pos (mfs : Nat) (a0 : Int) (hm : 0 < mfs) (ha : 0 < a0) : 0 < allowedOf mfs a0 := by
  rw [allowedOf_eq_min]; omega

theorem wrap32_of_I32 {x : Int} (h : I32 x) : wrap32 x = x := by
  unfold I32 at h
  unfold wrap32
  rw [Int.emod_eq_of_lt (by omega) (by omega)]; omega

theorem wrap32_period (x : Int) : wrap32 (x + 4294967296) = wrap32 x := by
  unfold wrap32
  rw [Int.add_right_comm, Int.add_emod_right]

/-- a sum of two int32 values that overflows wraps by 2^32, to the wrong side of `inc` for the sign of `n` -/
theorem flowAdd_eq (n inc : Int) (hn : I32 n) (hi : I32 inc) :
    flowAdd n inc = if -2147483648 ≤ n + inc ∧ n + inc ≤ 2147483647 then some (n + inc) else none := by
  unfold flowAdd
  dsimp only
  unfold I32 at hn hi
  by_cases hr : -2147483648 ≤ n + inc ∧ n + inc ≤ 2147483647
  · rw [if_pos hr, wrap32_of_I32 hr, if_pos]
    rw [beq_iff_eq, decide_eq_decide]; omega
  · rw [if_neg hr, if_neg]
    rw [beq_iff_eq, decide_eq_decide]
    by_cases hlo : n + inc < -2147483648
    · rw [← wrap32_period, wrap32_of_I32 (x := n + inc + 4294967296) ⟨by omega, by omega⟩]; omega
    · rw [← Int.sub_add_cancel (n + inc) 4294967296, wrap32_period,
        wrap32_of_I32 (x := n + inc - 4294967296) ⟨by omega, by omega⟩]; omega

theorem flowAdd_some {n inc r : Int} (hn : I32 n) (hi : I32 inc) (h : flowAdd n inc = some r) :
    r = n + inc ∧ I32 r := by
  rw [flowAdd_eq n inc hn hi] at h
  split at h
  · cases h; exact ⟨rfl, ‹_›⟩
  · cases h

/-- the state after `flow.take(n)` -/
def debit (s : St) (id : Nat) (w n : Int) : St :=
  { s with conn := s.conn - n, streams := setKey id (w - n) s.streams }

theorem debit_zero {s : St} {id : Nat} {w : Int} (hw : s.streams.lookup id = some w) : debit s id w 0 = s := by
  rw [debit, Int.sub_zero, Int.sub_zero, setKey_same hw]

theorem flowTake_eq {s : St} {id : Nat} {w n : Int} (hw : s.streams.lookup id = some w)
    (hn : n ≤ min s.conn w) : flowTake s id n = some (debit s id w n) := by
  rw [flowTake, avail, hw]; dsimp only
  rw [availOf_eq_min, if_neg (Int.not_lt.mpr hn)]; rfl

theorem takeFrom_nostream {s : St} {id msg off len : Nat} {e : Bool} {rest : List Wr}
    (hq : s.sq.lookup id = some (.data msg off len e :: rest)) (hw : s.streams.lookup id = none)
    (hl : 0 < len) : takeFrom s id = (.panic "nil stream", s) := by
  unfold takeFrom
  rw [hq]
  simp [hl, avail, hw]

theorem takeFrom_zero {s : St} {id msg off : Nat} {e : Bool} {rest : List Wr}
    (hq : s.sq.lookup id = some (.data msg off 0 e :: rest)) :
    takeFrom s id = (.data id msg off 0 e true, shiftQ s id rest) := by
  unfold takeFrom
  rw [hq]
  simp

theorem takeFrom_hdr {s : St} {id : Nat} {e : Bool} {rest : List Wr}
    (hq : s.sq.lookup id = some (.hdr e :: rest)) :
    takeFrom s id = (.hdr id e, shiftQ s id rest) := by
  unfold takeFrom
  rw [hq]

theorem takeFrom_none {s : St} {id : Nat} (hq : s.sq.lookup id = none) :
    takeFrom s id = (.panic "no queue", s) := by
  unfold takeFrom
  rw [hq]

theorem takeFrom_nil {s : St} {id : Nat} (hq : s.sq.lookup id = some []) :
    takeFrom s id = (.panic "invalid use of queue", s) := by
  unfold takeFrom
  rw [hq]

def SameWin (s s' : St) : Prop := s'.iws = s.iws ∧ s'.conn = s.conn ∧ s'.streams = s.streams

theorem shiftQ_win (s : St) (id : Nat) (rest : List Wr) : SameWin s (shiftQ s id rest) := by
  unfold shiftQ; exact iteInduction (fun _ => ⟨rfl, rfl, rfl⟩) (fun _ => ⟨rfl, rfl, rfl⟩)

theorem pushQ_win (s : St) (i : Nat) (w : Wr) : SameWin s (pushQ s i w) := by
  unfold pushQ; cases s.sq.lookup i <;> exact ⟨rfl, rfl, rfl⟩

/-- effect of handing frame `o` to the writer on the send windows -/
def WinEff (s : St) (o : Out) (s' : St) : Prop :=
  s'.iws = s.iws ∧
  match o with
  | .data id _ _ len _ _ =>
    if len = 0 then s'.conn = s.conn ∧ s'.streams = s.streams
    else ∃ w, s.streams.lookup id = some w ∧ (len : Int) ≤ min (s.mfs : Int) (min s.conn w) ∧
      s'.conn = s.conn - len ∧ s'.streams = setKey id (w - len) s.streams
  | _ => s'.conn = s.conn ∧ s'.streams = s.streams

theorem WinEff.same {s s1 s' : St} {o : Out} (h : WinEff s o s1) (h' : SameWin s1 s') : WinEff s o s' := by
  obtain ⟨hi, hc, hs⟩ := h'
  unfold WinEff at *
  rw [hc, hs, hi]; exact h

inductive PanicCause (s : St) (id : Nat) : Prop
  | noQueue (h : s.sq.lookup id = none)
  | emptyQueue (h : s.sq.lookup id = some [])
  | noStream (h : s.streams.lookup id = none)
  | negAvail {n : Int} (h : s.streams.lookup id = some n) (hneg : min s.conn n < 0)

/-- the outcomes of `takeFrom s id`; of a panic the cause is kept, the text left open -/
inductive TakeFrom (s : St) (id : Nat) : Out × St → Prop
  | panic (why : String) (h : PanicCause s id) : TakeFrom s id (.panic why, s)
  | blocked : TakeFrom s id (.nothing, s)
  | served {o : Out} {s' : St} (hid : o.stream = some id) (hpre : pending s id = o.atoms ++ pending s' id)
      (hoth : ∀ j, j ≠ id → pending s' j = pending s j) (hwin : WinEff s o s') : TakeFrom s id (o, s')

/-- `o` is cut from the head `w0`, `q'` stays queued; `s1` is `s` with the windows charged -/
theorem TakeFrom.shift {s s1 : St} {id : Nat} {o : Out} {w0 : Wr} {rest q' : List Wr}
    (hq : s.sq.lookup id = some (w0 :: rest)) (hid : o.stream = some id)
    (hat : w0.atoms ++ qAtoms rest = o.atoms ++ qAtoms q') (hwin : WinEff s o s1) (hsq : s1.sq = s.sq) :
    TakeFrom s id (o, shiftQ s1 id q') := by
  refine .served hid ?_ (fun j hj => ?_) (hwin.same (shiftQ_win _ _ _))
  · rw [pending_of_lookup hq, pending_shiftQ, if_pos rfl]; exact hat
  · rw [pending_shiftQ, if_neg hj]; exact pending_sq _ _ j hsq

theorem takeFrom_spec (s : St) (id : Nat) : TakeFrom s id (takeFrom s id) := by
  cases hq : s.sq.lookup id with
  | none => rw [takeFrom_none hq]; exact .panic _ (.noQueue hq)
  | some q =>
    match q, hq with
    | [], hq => rw [takeFrom_nil hq]; exact .panic _ (.emptyQueue hq)
    | .hdr e0 :: rest, hq =>
      rw [takeFrom_hdr hq]
      exact .shift hq rfl rfl ⟨rfl, rfl, rfl⟩ rfl
    | .data msg off len e :: rest, hq =>
      by_cases hl0 : len = 0
      · subst hl0
        rw [takeFrom_zero hq]
        exact .shift hq rfl rfl ⟨rfl, rfl, rfl⟩ rfl
      · cases hw : s.streams.lookup id with
        | none =>
          rw [takeFrom_nostream hq hw (by omega)]
          exact .panic _ (.noStream hw)
        | some w =>
          rw [takeFrom, hq]; dsimp only
          rw [if_pos (Nat.pos_of_ne_zero hl0), avail, hw]; dsimp only
          -- `allowed` is `min maxFrameSize (min conn w)`, the bound `WinEff` asks for
          rw [allowedOf_eq_min, availOf_eq_min]
          -- `available() == 0`: blocked; then `len > allowed` or not
          refine iteInduction (fun _ => .blocked) fun _ => iteInduction (fun hgt => ?_) fun hgt => ?_
          · -- a chunk of `allowed` octets; the rest of the write stays at the head of the queue
            rw [flowTake_eq hw (by omega)]; dsimp only
            refine iteInduction (fun hneg => .panic _ (.negAvail hw (by omega)))
              fun hneg => ?_
            generalize hal : min (s.mfs : Int) (min s.conn w) = al at *
            have hcast : (al.toNat : Int) = al := by omega
            refine .shift (s1 := debit s id w al) (q' := .data msg (off + al.toNat) (len - al.toNat) e :: rest)
              hq rfl (atoms_chunk id msg off al.toNat len e rest (by omega)) ⟨rfl, ?_⟩ rfl
            dsimp only
            by_cases hz : al.toNat = 0
            · -- allowed = 0 (only with maxFrameSize = 0): an empty chunk, nothing is charged
              have h0' : al = 0 := by omega
              rw [if_pos hz, h0']
              rw [debit_zero hw]; exact ⟨rfl, rfl⟩
            · rw [if_neg hz, hcast]
              exact ⟨w, hw, Int.le_of_eq hal.symm, rfl, rfl⟩
          · -- `len ≤ allowed`: the whole write
            rw [flowTake_eq hw (by omega)]
            refine .shift (s1 := debit s id w len) hq rfl rfl ⟨rfl, ?_⟩ rfl
            dsimp only
            rw [if_neg hl0]
            exact ⟨w, hw, Int.not_lt.mp hgt, rfl, rfl⟩

theorem takeFrom_winEff (s : St) (j : Nat) : WinEff s (takeFrom s j).1 (takeFrom s j).2 :=
  match takeFrom s j, takeFrom_spec s j with
  | _, .panic _ _ | _, .blocked => ⟨rfl, rfl, rfl⟩       -- the state is unchanged
  | _, .served _ _ _ hwin => hwin

theorem scan_found (sq : List (Nat × List Wr)) (ord : List Nat) (id : Nat)
    (h : scanNoCost sq ord = .found id) : (sq.lookup id).isSome = true := by
  fun_induction scanNoCost sq ord with
  | case1 => cases h
  | case2 a r hq ih => exact ih h
  | case3 a r hq => cases h
  | case4 a r w q hq hw => cases h; rw [hq]; rfl
  | case5 a r w q hq hw ih => exact ih h

theorem take_elim {P : Out × St → Prop} (s : St) (o1 o2 : List Nat) (hpanic : ∀ w, P (.panic w, s))
    (hctl : P (.ctl, { s with zero := s.zero - 1 })) (hnothing : P (.nothing, s))
    (hfrom : ∀ id, (s.sq.lookup id).isSome = true → P (takeFrom s id)) : P (take s o1 o2) := by
  fun_cases take s o1 o2
  case case1 | case4 => exact hpanic _              -- `maxFrameSize` 0; the first loop met an empty queue
  case case2 => exact hctl
  case case3 | case6 => exact hnothing              -- no queue at all; no stream is writable
  case case5 id hscan => exact hfrom id (scan_found _ _ _ hscan)
  case case7 id _ hf =>
    have hm := (List.mem_filter.mp (hf ▸ List.mem_cons_self : id ∈ o2.filter _)).2
    exact hfrom id (Bool.and_eq_true_iff.mp hm).1

theorem take_winEff (s : St) (o1 o2 : List Nat) : WinEff s (take s o1 o2).1 (take s o1 o2).2 :=
  take_elim (P := fun r => WinEff s r.1 r.2) s o1 o2 (fun _ => ⟨rfl, rfl, rfl⟩) ⟨rfl, rfl, rfl⟩ ⟨rfl, rfl, rfl⟩
    (fun id _ => takeFrom_winEff s id)

theorem takeFrom_keeps (s : St) (j id : Nat) :
    pending s id = sentBy id (some (takeFrom s j).1) ++ pending (takeFrom s j).2 id := by
  match takeFrom s j, takeFrom_spec s j with
  | _, .panic _ _ | _, .blocked => rfl
  | _, .served hid hpre hoth _ =>
    unfold sentBy
    dsimp only
    by_cases hji : j = id
    · rw [← hji, if_pos hid]; exact hpre
    · rw [if_neg (fun e => hji (Option.some.inj (hid.symm.trans e))), hoth id (Ne.symm hji)]; rfl

theorem take_keeps (s : St) (o1 o2 : List Nat) (id : Nat) :
    pending s id = sentBy id (some (take s o1 o2).1) ++ pending (take s o1 o2).2 id :=
  take_elim (P := fun r => pending s id = sentBy id (some r.1) ++ pending r.2 id) s o1 o2
    (fun _ => rfl) rfl rfl (fun j _ => takeFrom_keeps s j id)

theorem takeChain_keeps (id : Nat) (fuel : Nat) (s : St) (ords : List (List Nat))
    (h : ∀ o ∈ (takeChain fuel s ords).1, o.ends ≠ some id) :
    pending s id = sentByL id (takeChain fuel s ords).1 ++ pending (takeChain fuel s ords).2 id := by
  fun_induction takeChain fuel s ords with
  | case1 s ords => rfl
  | case2 fuel s ords r j he rest ih =>
    -- `r.1` ends stream `j`, which is not `id`: closing `j` leaves `id` alone
    have hne : id ≠ j := fun e => h _ List.mem_cons_self (e ▸ he)
    have hrest := ih fun o ho => h o (List.mem_cons_of_mem _ ho)
    rw [pending_afterEnd_other _ j id hne] at hrest
    rw [sentByL, List.flatMap_cons, List.append_assoc, ← sentByL, ← hrest]
    exact take_keeps s _ _ id
  | case3 fuel s ords r he =>
    have hk : pending s id = sentBy id (some r.1) ++ pending r.2 id := take_keeps s _ _ id
    cases ho : r.1 == Out.nothing
    · rw [if_neg Bool.false_ne_true]
      simpa only [sentByL, List.flatMap_cons, List.flatMap_nil, List.append_nil] using hk
    · rw [if_pos rfl]; rw [beq_iff_eq.mp ho] at hk; exact hk

/-- the FIFO equation for one `step`, under the one-step part of `aliveAfterEach`; the token `r.1` plays no part -/
def Keeps (s : St) (id : Nat) (added : List Atom) (r : String × List Out × St) : Prop :=
  r.2.2.streams.lookup id ≠ none → (∀ o ∈ r.2.1, o.ends ≠ some id) →
    pending s id ++ added = sentByL id r.2.1 ++ pending r.2.2 id

theorem keeps_quiet {s s' : St} {id : Nat} (tok : String) (h : s'.sq = s.sq) : Keeps s id [] (tok, [], s') :=
  fun _ _ => (List.append_nil _).trans (pending_sq s s' id h.symm)

theorem keeps_forget {s s0 : St} {id : Nat} (tok : String) (j : Nat) (h : s0.sq = s.sq) :
    Keeps s id [] (tok, [], forget s0 j) := by
  intro hal _
  have hji : id ≠ j := fun e => hal (e ▸ (forget_lookup_self s0 id).2)
  exact (List.append_nil _).trans ((pending_sq s s0 id h.symm).trans (pending_forget_other s0 j id hji).symm)

theorem keeps_push (s : St) (i id : Nat) (w : Wr) :
    Keeps s id (if i = id ∧ (s.streams.lookup i).isSome = true then w.atoms else [])
      (if (s.streams.lookup i).isSome = true then ("+", [], pushQ s i w) else ("!", [], s)) := by
  by_cases hs : (s.streams.lookup i).isSome = true
  · rw [if_pos hs]
    intro _ _
    show _ = pending (pushQ s i w) id
    rw [pending_pushQ]
    by_cases hi : i = id
    · rw [if_pos ⟨hi, hs⟩, if_pos hi]
    · rw [if_neg (fun h => hi h.1), if_neg hi]; exact List.append_nil _
  · rw [if_neg hs, if_neg (fun h => hs h.2)]; exact keeps_quiet _ rfl

theorem step_keeps (s : St) (msg : Nat) (op : Op) (id : Nat) : Keeps s id (addedBy s msg id op) (step s msg op) := by
  cases op with
  | openS j hh =>
    refine iteInduction (fun _ => keeps_quiet _ rfl) fun _ => ?_
    cases flowAdd 0 s.iws <;> exact keeps_quiet _ rfl
  | addData i len e => exact keeps_push s i id _
  | addHdr i e => exact keeps_push s i id _
  | addCtl => exact keeps_quiet _ rfl
  | takeOp ords => exact fun _ he => (List.append_nil _).trans (takeChain_keeps id _ s ords he)
  | wu j inc =>
    refine iteInduction (fun _ => ?_) fun _ => ?_
    · cases flowAdd s.conn inc <;> exact keeps_quiet _ rfl
    · cases s.streams.lookup j with
      | none => exact keeps_quiet _ rfl
      | some n =>
        dsimp only
        cases flowAdd n inc with
        | none => exact keeps_forget _ j rfl
        | some n' => exact keeps_quiet _ rfl
  | setIws v => cases hg : growAll ((v : Int) - s.iws) s.streams <;> (rw [step, hg]; exact keeps_quiet _ rfl)
  | setMfs v => exact keeps_quiet _ rfl
  | forgetOp j => exact iteInduction (fun _ => keeps_forget _ j rfl) fun _ => keeps_quiet _ rfl

/-- the server's view of every send window equals the ghost (and everything fits int32) -/
structure View (s : St) (g : Ghost) : Prop where
  conn : s.conn = g.conn
  win : s.streams = g.win
  iws : s.iws = g.iws
  conn0 : 0 ≤ s.conn
  connR : I32 s.conn
  iws0 : 0 ≤ s.iws       -- so that the SETTINGS delta `v - s.iws` fits int32 (`growAll_some` in `step_view`)
  iwsR : I32 s.iws
  allR : AllR s.streams

theorem allR_setKey (k : Nat) {v : Int} {l : List (Nat × Int)} (h : AllR l) (hv : I32 v) :
    AllR (setKey k v l) := by
  intro p hp
  rcases mem_setKey k v l p hp with e | e
  · subst e; exact hv
  · exact h p e

theorem allR_delKey (k : Nat) {l : List (Nat × Int)} (h : AllR l) : AllR (delKey k l) :=
  fun p hp => h p (mem_delKey k l p hp)

theorem growAll_some {g : Int} (hg : I32 g) {l l' : List (Nat × Int)} (hr : AllR l) (h : growAll g l = some l') :
    l' = l.map (fun p => (p.1, p.2 + g)) ∧ AllR l' := by
  fun_induction growAll g l generalizing l' with
  | case1 => cases h; exact ⟨rfl, nofun⟩
  | case2 id n r n' r' hr' hn ih =>
    cases h
    obtain ⟨rfl, hn'⟩ := flowAdd_some (hr (id, n) List.mem_cons_self) hg hn
    obtain ⟨rfl, hr''⟩ := ih (fun p hp => hr p (List.mem_cons_of_mem _ hp)) hr'
    exact ⟨rfl, List.forall_mem_cons.mpr ⟨hn', hr''⟩⟩
  | case3 => cases h

theorem view_same {s s' : St} {g : Ghost} (hv : View s g) (h : SameWin s s') : View s' g := by
  cases s; cases s'
  obtain ⟨rfl, rfl, rfl⟩ := h
  exact { hv with }

theorem view_frame {s s' : St} {g : Ghost} {o : Out} (hv : View s g) (he : WinEff s o s') :
    View s' (ghostFrame g o) := by
  obtain ⟨hiws, heff⟩ := he
  cases o
  case data id msg off len e d =>
    dsimp only at heff
    rw [ghostFrame]
    by_cases hl : len = 0
    · rw [if_pos hl] at heff ⊢
      exact view_same hv ⟨hiws, heff⟩
    · rw [if_neg hl] at heff ⊢
      obtain ⟨w, hw, hle, hconn, hstr⟩ := heff
      replace hle := Int.le_min.mp (Int.le_min.mp hle).2
      have hwr : I32 w := hv.allR (id, w) (lookup_mem hw)
      have hcr := hv.connR
      rw [← hv.win, hw]
      unfold I32 at hcr hwr
      exact { conn := hconn.trans (by rw [hv.conn]), win := hstr, iws := hiws.trans hv.iws, conn0 := by omega,
              connR := by unfold I32; omega, iws0 := hiws ▸ hv.iws0, iwsR := hiws ▸ hv.iwsR,
              allR := hstr ▸ allR_setKey _ hv.allR (by unfold I32; omega) }
  all_goals exact view_same hv ⟨hiws, heff⟩

theorem view_forget {s : St} {g : Ghost} (id : Nat) (hv : View s g) :
    View (forget s id) { g with win := delKey id g.win } :=
  { hv with win := congrArg (delKey id) hv.win, allR := allR_delKey _ hv.allR }

theorem view_zero {s : St} {g : Ghost} (z : Nat) (hv : View s g) : View { s with zero := z } g := { hv with }

theorem view_afterEnd {s : St} {g : Ghost} (id : Nat) (hv : View s g) :
    View (afterEnd s id) { g with win := delKey id g.win } := by
  rw [afterEnd_eq_forget]; exact view_forget id (view_zero _ hv)

theorem view_chain (fuel : Nat) (s : St) (g : Ghost) (ords : List (List Nat)) (hv : View s g) :
    View (takeChain fuel s ords).2 (ghostChain g (takeChain fuel s ords).1) := by
  fun_induction takeChain fuel s ords generalizing g with
  | case1 s ords => exact hv
  | case2 fuel s ords r id he rest ih =>
    have h3 := ih _ (view_afterEnd id (view_frame hv (take_winEff s _ _)))
    simpa only [ghostChain, List.foldl_cons, ghostEnds, he] using h3
  | case3 fuel s ords r he =>
    have hf : View r.2 (ghostFrame g r.1) := view_frame hv (take_winEff s _ _)
    cases ho : r.1 == Out.nothing
    · rw [if_neg Bool.false_ne_true]
      simpa only [ghostChain, List.foldl_cons, List.foldl_nil, ghostEnds, he] using hf
    · rw [if_pos rfl]; rw [beq_iff_eq.mp ho] at hf; exact hf

def ViewAfter (g : Ghost) (op : Op) (r : String × List Out × St) : Prop :=
  r.2.2.dead = false → View r.2.2 (ghostStep g op r.1 r.2.1)

theorem step_view (s : St) (g : Ghost) (msg : Nat) (op : Op) (hv : View s g) (hok : op.valid) :
    ViewAfter g op (step s msg op) := by
  -- in each branch the ghost's move `hg` is computed once from the result token, then compared
  have ghost : ∀ {tok outs s' g'}, ghostStep g op tok outs = g' → View s' g' → ViewAfter g op (tok, outs, s') :=
    fun hg h _ => hg ▸ h
  cases op with
  | openS id h =>
    refine iteInduction (fun _ => ghost rfl hv) fun _ => ?_
    cases hn : flowAdd 0 s.iws with
    | none => exact ghost rfl hv
    | some n =>
      obtain ⟨rfl, hr⟩ := flowAdd_some ⟨by omega, by omega⟩ hv.iwsR hn
      have hg : ghostStep g (.openS id h) "+" [] = { g with win := setKey id (0 + s.iws) g.win } := by
        rw [Int.zero_add, hv.iws]; rfl
      exact ghost hg { hv with win := congrArg (setKey id (0 + s.iws)) hv.win, allR := allR_setKey _ hv.allR hr }
  | addData i len e =>
    exact iteInduction (fun _ => ghost rfl (view_same hv (pushQ_win s i _))) fun _ => ghost rfl hv
  | addHdr i e =>
    exact iteInduction (fun _ => ghost rfl (view_same hv (pushQ_win s i _))) fun _ => ghost rfl hv
  | addCtl => exact ghost rfl (view_zero _ hv)
  | takeOp ords => exact ghost rfl (view_chain _ s g ords hv)
  | wu id inc =>
    have hinc : I32 (inc : Int) := ⟨by omega, by simp only [Op.valid] at hok; omega⟩
    refine iteInduction (fun h0 => ?_) fun h0 => ?_
    · cases hn : flowAdd s.conn inc with
      | none => exact nofun
      | some n =>
        obtain ⟨rfl, hr⟩ := flowAdd_some hv.connR hinc hn
        have hg : ghostStep g (.wu id inc) "ok" [] = { g with conn := g.conn + inc } := by
          rw [ghostStep, if_pos (beq_self_eq_true _), if_pos h0]
        exact ghost hg { hv with conn := congrArg (· + (inc : Int)) hv.conn, connR := hr,
                                 conn0 := Int.add_nonneg hv.conn0 (Int.natCast_nonneg inc) }
    · cases hl : s.streams.lookup id with
      | none => exact ghost rfl hv
      | some n =>
        dsimp only
        cases hadd : flowAdd n inc with
        | some n' =>
          obtain ⟨rfl, hr⟩ := flowAdd_some (hv.allR (id, n) (lookup_mem hl)) hinc hadd
          have hg : ghostStep g (.wu id inc) "ok" [] = { g with win := setKey id (n + inc) g.win } := by
            rw [ghostStep, if_pos (beq_self_eq_true _), if_neg h0, ← hv.win, hl]
          exact ghost hg { hv with win := congrArg (setKey id (n + inc)) hv.win, allR := allR_setKey _ hv.allR hr }
        | none => exact ghost rfl (view_forget id (view_zero _ hv))
  | setIws v =>
    have hvr : (v : Int) ≤ 2147483647 := by simp only [Op.valid] at hok; omega
    rw [step]
    cases hg : growAll ((v : Int) - s.iws) s.streams with
    | none => exact nofun
    | some st' =>
      have hir := hv.iwsR
      have hi0 := hv.iws0
      have := growAll_some (by unfold I32 at hir ⊢; omega) hv.allR hg
      have hv0 : (0 : Int) ≤ v := Int.natCast_nonneg v
      refine ghost (g' := { g with iws := v, win := g.win.map fun p => (p.1, p.2 + ((v : Int) - g.iws)) }) rfl
        { hv with win := ?_, iws := rfl, iws0 := hv0, iwsR := ⟨Int.le_trans (by decide) hv0, hvr⟩, allR := this.2 }
      show st' = g.win.map fun p => (p.1, p.2 + ((v : Int) - g.iws))
      rw [this.1, hv.win, hv.iws]
  | setMfs v => exact ghost rfl { hv with }
  | forgetOp id => exact iteInduction (fun _ => ghost rfl (view_forget id hv)) fun _ => ghost rfl hv

theorem runG_view (ops : List Op) (s : St) (g : Ghost) (msg : Nat) (hv : View s g)
    (hok : ∀ op ∈ ops, op.valid) : View (runG s g msg ops).1 (runG s g msg ops).2 := by
  fun_induction runG s g msg ops with
  | case1 => exact hv
  | case2 => exact hv
  | case3 s g msg op r t hd ih =>
    exact ih (step_view s g msg op hv (hok op List.mem_cons_self) (Bool.eq_false_iff.mpr hd))
      fun o ho => hok o (List.mem_cons_of_mem _ ho)

theorem init_view : View init {} :=
  { conn := rfl, win := rfl, iws := rfl, conn0 := by decide, connR := ⟨by decide, by decide⟩, iws0 := by decide,
    iwsR := ⟨by decide, by decide⟩, allR := nofun }

end BfeVerif.C34
