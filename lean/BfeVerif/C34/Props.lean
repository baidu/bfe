import BfeVerif.C34.Proofs
/-!
  C34 — HTTP/2 outbound DATA respects peer windows and frame order.
  `take s o1 o2` is `writeScheduler.take` with the two map-iteration orders `o1`, `o2` as parameters;
  every theorem holds for ALL orders (scheduling choices).
-/
namespace BfeVerif.C34

/-- `flow.add` (fixed) accepts exactly the additions whose true sum fits in int32 and then stores the
    true sum: no spurious FLOW_CONTROL_ERROR for negative windows, no wrap-around. -/
theorem C34_flowAdd_exact (n inc : Int)
    (hn : -2147483648 ≤ n ∧ n ≤ 2147483647) (hi : -2147483648 ≤ inc ∧ inc ≤ 2147483647) :
    flowAdd n inc =
      if -2147483648 ≤ n + inc ∧ n + inc ≤ 2147483647 then some (n + inc) else none :=
  flowAdd_eq n inc hn hi

/-- `C34_within_window` for `takeFrom` on a given stream; the frame is of that stream -/
theorem C34_takeFrom_within_window (s : St) (id id' msg off len : Nat) (e d : Bool) (s' : St)
    (h : takeFrom s id = (.data id' msg off len e d, s')) (hl : 0 < len) :
    id' = id ∧ ∃ w, s.streams.lookup id = some w ∧ (len : Int) ≤ w ∧ (len : Int) ≤ s.conn ∧ len ≤ s.mfs ∧
      s'.conn = s.conn - len ∧ s'.streams.lookup id = some (w - len) := by
  cases h ▸ takeFrom_spec s id with
  | served hid _ _ hwin =>
    cases Option.some.inj hid
    have heff := hwin.2
    dsimp only at heff
    rw [if_neg (Nat.ne_of_gt hl)] at heff
    obtain ⟨w, hw, hle, hconn, hstr⟩ := heff
    obtain ⟨hlm, hle⟩ := Int.le_min.mp hle
    obtain ⟨hlc, hlw⟩ := Int.le_min.mp hle
    refine ⟨rfl, w, hw, hlw, hlc, Int.ofNat_le.mp hlm, hconn, ?_⟩
    rw [hstr, lookup_setKey, if_pos (beq_self_eq_true _)]

theorem take_cases (s : St) (o1 o2 : List Nat) :
    (∃ w, take s o1 o2 = (.panic w, s)) ∨ (take s o1 o2).1 = .ctl ∨ take s o1 o2 = (.nothing, s) ∨
    ∃ id, take s o1 o2 = takeFrom s id :=
  take_elim (P := fun r => (∃ w, r = (.panic w, s)) ∨ r.1 = .ctl ∨ r = (.nothing, s) ∨ ∃ id, r = takeFrom s id)
    s o1 o2 (fun w => Or.inl ⟨w, rfl⟩) (Or.inr (Or.inl rfl)) (Or.inr (Or.inr (Or.inl rfl)))
    (fun id _ => Or.inr (Or.inr (Or.inr ⟨id, rfl⟩)))

/-- **C34 (windows)**: whatever the iteration order of the scheduler's map, a DATA frame returned by
    `writeScheduler.take` fits the stream window, the connection window and MAX_FRAME_SIZE as they
    are at that moment, and both windows are debited by its length. -/
theorem C34_within_window (s : St) (o1 o2 : List Nat) (id msg off len : Nat) (e d : Bool) (s' : St)
    (h : take s o1 o2 = (.data id msg off len e d, s')) (hl : 0 < len) :
    ∃ w, s.streams.lookup id = some w ∧ (len : Int) ≤ w ∧ (len : Int) ≤ s.conn ∧ len ≤ s.mfs ∧
      s'.conn = s.conn - len ∧ s'.streams.lookup id = some (w - len) := by
  refine take_elim (P := fun r => r = (.data id msg off len e d, s') → _) s o1 o2 nofun nofun nofun
    (fun j _ hj => ?_) h
  obtain ⟨rfl, rest⟩ := C34_takeFrom_within_window s j id msg off len e d s' hj hl
  exact rest

/-- **C34 (order)**: `takeFrom` removes a PREFIX of the stream's pending wire content, leaves the rest
    queued in the same order, and touches no other stream.  A split chunk never carries END_STREAM
    (the `fin` marker stays with the remainder). -/
theorem C34_takeFrom_fifo (s : St) (id : Nat) (o : Out) (s' : St) (h : takeFrom s id = (o, s'))
    (hp : ∀ w, o ≠ .panic w) (hn : o ≠ .nothing) :
    o.stream = some id ∧ pending s id = o.atoms ++ pending s' id ∧
    ∀ j, j ≠ id → pending s' j = pending s j := by
  cases h ▸ takeFrom_spec s id with
  | panic why _ => exact absurd rfl (hp why)
  | blocked => exact absurd rfl hn
  | served hid hpre hoth _ => exact ⟨hid, hpre, hoth⟩

/-- **C34 (no internal panic in takeFrom)**: for a queue that exists, is non-empty and belongs to a
    live stream whose `available()` is not negative, `takeFrom` never reaches `flow.take`'s
    "took too much" panic (its precondition `n ≤ available()` holds by construction) nor a bad slice. -/
theorem C34_takeFrom_no_panic (s : St) (id : Nat) (w0 : Wr) (rest : List Wr) (n : Int)
    (hq : s.sq.lookup id = some (w0 :: rest)) (hs : s.streams.lookup id = some n)
    (hav : 0 ≤ n ∧ 0 ≤ s.conn) :
    ∀ why, (takeFrom s id).1 ≠ .panic why := by
  intro why hp
  match takeFrom s id, takeFrom_spec s id, hp with
  | _, .blocked, hp => cases hp
  | _, .served hid _ _ _, hp => dsimp only at hp; rw [hp] at hid; cases hid       -- a served frame has a stream, a panic has none
  | _, .panic _ hc, _ =>
    cases hc with
    | noQueue hc => rw [hq] at hc; cases hc
    | emptyQueue hc => rw [hq] at hc; cases hc
    | noStream hc => rw [hs] at hc; cases hc
    | negAvail hn' hneg =>
      cases hs.symm.trans hn'
      exact absurd (Int.le_min.mpr ⟨hav.2, hav.1⟩) (Int.not_le.mpr hneg)

theorem takeFrom_stream (s : St) (j : Nat) : (takeFrom s j).1.stream = none ∨ (takeFrom s j).1.stream = some j := by
  match takeFrom s j, takeFrom_spec s j with
  | _, .panic _ _ | _, .blocked => exact Or.inl rfl
  | _, .served hid _ _ _ => exact Or.inr hid

/-- **C34 (nothing after close)**: once `closeStream` has run `forgetStream(id)` — after END_STREAM was
    written, or after a reset — no scheduling order makes `take` return a frame of that stream. -/
theorem C34_nothing_after_close (s : St) (id : Nat) (o1 o2 : List Nat) :
    (take (forget s id) o1 o2).1.stream ≠ some id := by
  refine take_elim (P := fun r => r.1.stream ≠ some id) (forget s id) o1 o2 nofun nofun nofun fun j hq h => ?_
  -- a frame of stream `id` could only come from the queue of `id`, which `forget` has deleted
  rcases takeFrom_stream (forget s id) j with h1 | h1
  · rw [h1] at h; cases h
  · cases Option.some.inj (h1.symm.trans h)
    rw [(forget_lookup_self s id).1] at hq
    cases hq

/-- a frame with END_STREAM goes through `wroteFrame`, which closes the stream: afterwards neither a
    queue nor the stream is left (whatever was still queued behind it is dropped by `forgetStream`) -/
theorem C34_end_closes (s : St) (id : Nat) :
    (afterEnd s id).sq.lookup id = none ∧ (afterEnd s id).streams.lookup id = none := by
  rw [afterEnd_eq_forget]; exact forget_lookup_self _ id

/-- **C34 (per-stream FIFO over whole histories)**: for every sequence of operations (any `Op`s, among them
    writer chains with ANY map-iteration orders, ends and resets of OTHER streams) during which stream `id` stays open:
    what was pending on `id` before, followed by everything queued on it since, equals everything
    written on it followed by what is still pending — as sequences of octets, HEADERS markers and
    END_STREAM markers.  So the DATA chunks of a stream concatenate to the queued writes in order,
    nothing is duplicated, dropped or reordered, and an END_STREAM marker can only come out after every
    octet queued before it. -/
theorem C34_fifo_trace (id : Nat) (s : St) (msg : Nat) (ops : List Op)
    (h : aliveAfterEach id s msg ops) :
    pending s id ++ (trace id s msg ops).2.2 =
      (trace id s msg ops).2.1 ++ pending (trace id s msg ops).1 id := by
  induction ops generalizing s msg with
  | nil => exact List.append_nil _
  | cons op r ih =>
    obtain ⟨h1, h1', h2⟩ := h
    simp only [trace]
    rw [← List.append_assoc, step_keeps s msg op id h1 h1', List.append_assoc, ih _ _ h2, List.append_assoc]

theorem C34_fifo_from_open (id : Nat) (s : St) (msg : Nat) (ops : List Op)
    (h0 : s.sq.lookup id = none) (h : aliveAfterEach id s msg ops) :
    (trace id s msg ops).2.1 ++ pending (trace id s msg ops).1 id = (trace id s msg ops).2.2 := by
  have hnil : pending s id = [] := by rw [pending, h0]; rfl
  rw [← C34_fifo_trace id s msg ops h, hnil, List.nil_append]

/-- ... and the frame that ends the history (possibly the one carrying END_STREAM, after which
    `C34_end_closes` / `C34_nothing_after_close` apply) is the next piece of that same sequence. -/
theorem C34_fifo_last_frame (id : Nat) (s : St) (msg : Nat) (ops : List Op) (o1 o2 : List Nat)
    (h : aliveAfterEach id s msg ops) :
    pending s id ++ (trace id s msg ops).2.2 =
      (trace id s msg ops).2.1 ++ sentBy id (some (take (trace id s msg ops).1 o1 o2).1) ++
        pending (take (trace id s msg ops).1 o1 o2).2 id := by
  rw [C34_fifo_trace id s msg ops h, List.append_assoc, ← take_keeps]

/-- **C34 (the server's view of the send windows = what the client granted)**: run any sequence of
    operations (numbers as the frame parser / `Setting.Valid` allow) while the connection lives —
    including streams reset or ended with DATA still queued (`forgetStream`), refused WINDOW_UPDATEs,
    SETTINGS shrinking windows below zero.  Side by side runs the client-side GHOST, updated only from
    the operations, their verdicts and the frames written: initial windows + WINDOW_UPDATEs + SETTINGS
    deltas − DATA received.  Then `sc.flow.n` equals the ghost connection window, every live stream's
    `flow.n` equals its ghost window (the two maps are equal), `sc.flow.n ≥ 0`, and every counter fits
    int32 (no wrap-around anywhere).  Closing a stream changes neither window: bytes that were queued
    but never written were never charged. -/
theorem C34_view_eq_ghost (ops : List Op) (hok : ∀ op ∈ ops, op.valid) :
    let r := runG init {} 0 ops
    r.1.conn = r.2.conn ∧ r.1.streams = r.2.win ∧ 0 ≤ r.1.conn ∧ I32 r.1.conn ∧ AllR r.1.streams := by
  have h := runG_view ops init {} 0 init_view hok
  exact ⟨h.conn, h.win, h.conn0, h.connR, h.allR⟩

/-- with `C34_within_window`: every DATA frame fits the windows the client really granted -/
theorem C34_data_within_granted (ops : List Op) (hok : ∀ op ∈ ops, op.valid) (o1 o2 : List Nat)
    (id msg off len : Nat) (e d : Bool) (s' : St)
    (h : take (runG init {} 0 ops).1 o1 o2 = (.data id msg off len e d, s')) (hl : 0 < len) :
    (len : Int) ≤ (runG init {} 0 ops).2.conn ∧
    ∃ w, (runG init {} 0 ops).2.win.lookup id = some w ∧ (len : Int) ≤ w := by
  have hv := runG_view ops init {} 0 init_view hok
  obtain ⟨w, hw, h1, h2, _⟩ := C34_within_window _ o1 o2 id msg off len e d s' h hl
  exact ⟨hv.conn ▸ h2, w, hv.win ▸ hw, h1⟩

/-! ### non-vacuity and concrete behaviour (also replayed through the harness: corpus/C34) -/

/-- window 10 left on the stream, 100 bytes queued with END_STREAM: a 10-byte chunk without END_STREAM -/
example :
    (take { init with streams := [(1, 10)], sq := [(1, [.data 0 0 100 true])] } [1] [1]).1
      = .data 1 0 0 10 false false := by decide +kernel

/-- the connection window (5) is the tighter one -/
example :
    (take { init with conn := 5, streams := [(1, 10)], sq := [(1, [.data 0 0 100 true])] } [1] [1]).1
      = .data 1 0 0 5 false false := by decide +kernel

/-- a two-stream history, from the moment stream 1 is open (stream window 5): 8 octets + END_STREAM are
    queued on stream 1; stream 3's HEADERS go first, then a 5-octet chunk without END_STREAM; 3 octets
    and the END_STREAM marker stay queued -/
def demoStart : St := (trace 1 init 0 [.setIws 5, .openS 1 false]).1
def demoOps : List Op :=
  [.openS 3 true, .addData 1 8 true, .addHdr 3 false, .takeOp [[3, 1]], .takeOp [[1]]]

example : aliveAfterEach 1 demoStart 0 demoOps := by
  simp only [demoOps, aliveAfterEach]; decide +kernel

example : (trace 1 demoStart 0 demoOps).2.1 = bytesOf 0 0 5 ∧
    pending (trace 1 demoStart 0 demoOps).1 1 = bytesOf 0 5 3 ++ [Atom.fin] ∧
    (trace 1 demoStart 0 demoOps).2.2 = bytesOf 0 0 8 ++ [Atom.fin] := by decide +kernel

/-- a stream is reset while 100000 octets are still queued, another one is ended by END_STREAM with a
    write queued behind it: both windows of the model and of the ghost agree and nothing is refunded -/
def closeOps : List Op :=
  [.openS 1 false, .addData 1 100000 false, .forgetOp 1, .openS 3 true, .addData 3 10 true,
   .addData 3 7 false, .takeOp [[3], []], .takeOp [[]]]

example : (∀ op ∈ closeOps, op.valid) := by
  simp only [closeOps, List.forall_mem_cons, Op.valid, List.not_mem_nil, false_imp_iff, implies_true, and_self]
example : (runG init {} 0 closeOps).1.conn = 65525 ∧ (runG init {} 0 closeOps).2.conn = 65525 ∧
    (runG init {} 0 closeOps).1.streams = [] ∧ (runG init {} 0 closeOps).1.sq = [] := by decide +kernel

/-- a WINDOW_UPDATE on a negative stream window (after a SETTINGS shrink) is honoured
    (before fix C34-flow-add it was answered with FLOW_CONTROL_ERROR) -/
example : flowAdd (-10) 5 = some (-5) := by decide +kernel
example : flowAdd 2147483647 1 = none := by decide +kernel

end BfeVerif.C34
