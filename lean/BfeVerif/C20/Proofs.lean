import BfeVerif.C20.Model

/-! C20: bucket chains and the free list as ghost lists (`IsChain`, `Inv`), the abstraction relation `R` to a
    duplicate-free key list, its preservation by `add`/`remove` (`sim_step`), and the flat byte pools. -/
namespace BfeVerif.C20

/-- found once: each `beq_iff_eq` on keys asks for it and the search through `List UInt8` is slow -/
theorem lawfulBEqKey : LawfulBEq Key := inferInstance

attribute [local instance] lawfulBEqKey

theorem getD_set_eq {α : Type} (l : List α) (i : Nat) (v d : α) (h : i < l.length) : (l.set i v).getD i d = v := by
  rw [List.getD_eq_getElem?_getD, List.getElem?_set_self h, Option.getD_some]

theorem getD_set_ne {α : Type} (l : List α) (i j : Nat) (v d : α) (h : j ≠ i) :
    (l.set i v).getD j d = l.getD j d := by
  rw [List.getD_eq_getElem?_getD, List.getD_eq_getElem?_getD, List.getElem?_set_ne (Ne.symm h)]

theorem nextOf_set_eq (next : List (Option Nat)) (i : Nat) (v : Option Nat) (h : i < next.length) :
    nextOf (next.set i v) i = v := getD_set_eq next i v none h

theorem nextOf_set_ne (next : List (Option Nat)) (i j : Nat) (v : Option Nat) (h : j ≠ i) :
    nextOf (next.set i v) j = nextOf next j := getD_set_ne next i j v none h

theorem lt_of_nextOf_eq_some {next : List (Option Nat)} {i j : Nat} (h : nextOf next i = some j) : i < next.length :=
  Nat.lt_of_not_le fun hle => by
    rw [nextOf, List.getD_eq_getElem?_getD, List.getElem?_eq_none hle] at h
    exact nomatch h

theorem keyOf_set_eq (keys : List Key) (i : Nat) (k : Key) (h : i < keys.length) :
    keyOf (keys.set i k) i = k := getD_set_eq keys i k [] h

theorem keyOf_set_ne (keys : List Key) (i j : Nat) (k : Key) (h : j ≠ i) :
    keyOf (keys.set i k) j = keyOf keys j := getD_set_ne keys i j k [] h

/-- the linked list from `h` visits exactly the nodes `l`, then `-1` -/
def IsChain (next : List (Option Nat)) : Option Nat → List Nat → Prop
  | h, [] => h = none
  | h, n :: l => h = some n ∧ IsChain next (nextOf next n) l

theorem isChain_congr {next next' : List (Option Nat)} {l : List Nat} {h : Option Nat} (hc : IsChain next h l)
    (hn : ∀ n ∈ l, nextOf next' n = nextOf next n) : IsChain next' h l := by
  induction l generalizing h with
  | nil => exact hc
  | cons a t ih =>
    rw [List.forall_mem_cons] at hn
    exact ⟨hc.1, hn.1 ▸ ih hc.2 hn.2⟩

theorem isChain_set {next : List (Option Nat)} {n : Nat} {v : Option Nat} {l : List Nat} {h : Option Nat}
    (hc : IsChain next h l) (hn : n ∉ l) : IsChain (next.set n v) h l :=
  isChain_congr hc fun a ha => nextOf_set_ne next n a v fun e => hn (e ▸ ha)

theorem isChain_none {next : List (Option Nat)} {l : List Nat} (h : IsChain next none l) : l = [] := by
  cases l with
  | nil => rfl
  | cons a t => exact nomatch h.1

theorem isChain_some {next : List (Option Nat)} {l : List Nat} {n : Nat} (h : IsChain next (some n) l) :
    ∃ t, l = n :: t ∧ IsChain next (nextOf next n) t := by
  cases l with
  | nil => exact nomatch h
  | cons a t =>
    obtain rfl := Option.some.inj h.1
    exact ⟨t, rfl, h.2⟩

theorem existLoop_chain {next : List (Option Nat)} (keys : List Key) (k : Key) {l : List Nat} {h : Option Nat}
    {fuel : Nat} (hc : IsChain next h l) (hf : l.length ≤ fuel) :
    existLoop next keys k fuel h = l.any (fun n => keyOf keys n == k) := by
  induction l generalizing h fuel with
  | nil =>
    obtain rfl : h = none := hc
    cases fuel <;> rfl
  | cons a t ih =>
    obtain rfl : h = some a := hc.1
    cases fuel with
    | zero => exact absurd hf (Nat.not_succ_le_zero _)
    | succ f =>
      rw [existLoop, List.any_cons, ← ih hc.2 (Nat.le_of_succ_le_succ hf)]
      cases keyOf keys a == k <;> rfl

/-- The loop of `np.del` with what is done to its result: Go unlinks inside the loop (`next[p'] = next[i]`), the model
    searches here and rewires in `remove`. -/
theorem delLoop_unlink {next : List (Option Nat)} (keys : List Key) (k : Key)
    {rest : List Nat} {p fuel : Nat} (hc : IsChain next (nextOf next p) rest) (hf : rest.length ≤ fuel) (hn : (p :: rest).Nodup) :
    (delLoop next keys k fuel p = none ∧ ∀ n ∈ rest, keyOf keys n ≠ k) ∨
    ∃ p' i, delLoop next keys k fuel p = some (p', i) ∧ keyOf keys i = k ∧ p' ∈ p :: rest ∧ i ∈ rest ∧
      IsChain (next.set p' (nextOf next i)) (some p) ((p :: rest).erase i) := by
  induction rest generalizing p fuel with
  | nil =>
    have hp : nextOf next p = none := hc
    refine Or.inl ⟨?_, fun _ h => nomatch h⟩
    cases fuel with
    | zero => rfl
    | succ f => rw [delLoop, hp]
  | cons j t ih =>
    cases fuel with
    | zero => exact absurd hf (Nat.not_succ_le_zero _)
    | succ f =>
      have hp : nextOf next p = some j := hc.1
      obtain ⟨hpn, hn'⟩ := List.nodup_cons.mp hn
      rw [delLoop, hp]
      dsimp only
      by_cases hk : (keyOf keys j == k) = true
      · refine Or.inr ⟨p, j, if_pos hk, beq_iff_eq.mp hk, List.mem_cons_self, List.mem_cons_self, ?_⟩
        rw [List.mem_cons, not_or] at hpn
        rw [List.erase_cons_tail (mt beq_iff_eq.mp hpn.1), List.erase_cons_head]
        refine ⟨rfl, ?_⟩
        rw [nextOf_set_eq _ _ _ (lt_of_nextOf_eq_some hp)]
        exact isChain_set hc.2 hpn.2
      · rw [if_neg hk]
        rcases ih hc.2 (Nat.le_of_succ_le_succ hf) hn' with
          ⟨e, hall⟩ | ⟨p', i, e, hi, hp', hit, hch⟩
        · exact Or.inl ⟨e, List.forall_mem_cons.mpr ⟨fun h => hk (beq_iff_eq.mpr h), hall⟩⟩
        · have hit : i ∈ j :: t := List.mem_cons_of_mem _ hit
          have hpi : p ≠ i := fun e => hpn (e ▸ hit)
          refine Or.inr ⟨p', i, e, hi, List.mem_cons_of_mem _ hp', hit, ?_⟩
          -- `p` is neither `i` nor `p'`, so it stays and still links to `j`
          rw [List.erase_cons_tail (mt beq_iff_eq.mp hpi)]
          refine ⟨rfl, ?_⟩
          rw [nextOf_set_ne _ _ _ _ fun e : p = p' => hpn (e ▸ hp'), hp]
          exact hch

/-- `ch b` = nodes of bucket `b`'s chain in order, `fl` = the free list in order.  That a chain visits distinct nodes
    (so is acyclic) follows from `nodupK` (`Inv.chNodup`), that two chains share no node from `node`, which ties a node
    to the bucket of its key (`Inv.bucket_unique`); `count` is why a set that is not full has a free node
    (`Inv.free_cons`). -/
structure Inv (hash : Key → Nat) (s : HS) (ch : Nat → List Nat) (fl : List Nat) : Prop where
  haLen : s.ha.length = s.cap * 5
  capPos : 0 < s.cap
  nextLen : s.next.length = s.cap
  keysLen : s.keys.length = s.cap
  chains : ∀ b, b < s.ha.length → IsChain s.next (s.ha.getD b none) (ch b)
  freeCh : IsChain s.next s.free fl
  node : ∀ b, b < s.ha.length → ∀ n ∈ ch b,
    n < s.cap ∧ hash (keyOf s.keys n) % s.ha.length = b ∧ validKey s.es s.fixed (keyOf s.keys n) = true
  nodupK : ∀ b, b < s.ha.length → ((ch b).map (keyOf s.keys)).Nodup
  flNodup : fl.Nodup
  flLt : ∀ n ∈ fl, n < s.cap
  disj : ∀ b, b < s.ha.length → ∀ n ∈ ch b, n ∉ fl
  count : fl.length + s.len = s.cap

/-- `s` holds exactly the keys of the duplicate-free list `l`, each in the chain of its bucket -/
def R (hash : Key → Nat) (c : Cfg) (s : HS) (l : List Key) : Prop :=
  ∃ ch fl, Inv hash s ch fl ∧ s.cap = c.cap ∧ s.es = c.es ∧ s.fixed = c.fixed ∧ l.Nodup ∧ s.len = l.length ∧
    ∀ k, k ∈ l ↔ ∃ n ∈ ch (hash k % s.ha.length), keyOf s.keys n = k

theorem Inv.bucketLt {hash s ch fl} (h : Inv hash s ch fl) (k : Key) : hash k % s.ha.length < s.ha.length :=
  Nat.mod_lt _ (h.haLen ▸ Nat.mul_pos h.capPos (by decide))

theorem Inv.nodeLt {hash s ch fl} (h : Inv hash s ch fl) {b n : Nat} (hb : b < s.ha.length) (hn : n ∈ ch b) :
    n < s.cap := (h.node b hb n hn).1

theorem R.len_eq {hash c s l} (h : R hash c s l) : s.len = l.length :=
  let ⟨_, _, _, _, _, _, _, hlen, _⟩ := h; hlen

theorem R.cap_eq {hash c s l} (h : R hash c s l) : s.cap = c.cap :=
  let ⟨_, _, _, hcap, _⟩ := h; hcap

theorem Inv.chNodup {hash s ch fl} (h : Inv hash s ch fl) {b : Nat} (hb : b < s.ha.length) : (ch b).Nodup :=
  (List.pairwise_map.mp (h.nodupK b hb)).imp fun hne e => hne (congrArg _ e)

/-- so the loops' fuel `cap` suffices -/
theorem Inv.chLen {hash s ch fl} (h : Inv hash s ch fl) {b : Nat} (hb : b < s.ha.length) : (ch b).length ≤ s.cap :=
  calc (ch b).length
    _ ≤ (List.range s.cap).length :=
      (h.chNodup hb).length_le_of_subset fun _ hn => List.mem_range.mpr (h.nodeLt hb hn)
    _ = s.cap := List.length_range

theorem Inv.bucket_unique {hash s ch fl} (h : Inv hash s ch fl) {b b' n : Nat} (hb : b < s.ha.length)
    (hb' : b' < s.ha.length) (h1 : n ∈ ch b) (h2 : n ∈ ch b') : b = b' := by
  obtain ⟨-, e, -⟩ := h.node b hb n h1
  obtain ⟨-, e', -⟩ := h.node b' hb' n h2
  rw [← e, ← e']

theorem Inv.existLoop_iff {hash s ch fl} (h : Inv hash s ch fl) {b : Nat} (hb : b < s.ha.length) (k : Key) :
    existLoop s.next s.keys k s.cap (s.ha.getD b none) = true ↔ ∃ n ∈ ch b, keyOf s.keys n = k := by
  rw [existLoop_chain _ _ (h.chains b hb) (h.chLen hb)]
  simp only [List.any_eq_true, beq_iff_eq]

theorem R.exist_iff {hash c s l} (h : R hash c s l) (k : Key) : exist hash s k = true ↔ k ∈ l := by
  obtain ⟨ch, fl, hI, -, -, -, -, -, hm⟩ := h
  have hb := hI.bucketLt k
  rw [exist]
  cases hv : validKey s.es s.fixed k
  · refine iff_of_false Bool.false_ne_true fun hk => ?_
    obtain ⟨n, hn, e⟩ := (hm k).mp hk
    obtain ⟨-, -, hvn⟩ := hI.node _ hb n hn
    exact Bool.false_ne_true (hv.symm.trans (e ▸ hvn))
  · rw [hm k]
    exact hI.existLoop_iff hb k

theorem nextOf_initNext (cap m : Nat) (h : m < cap) :
    nextOf (initNext cap) m = if m + 1 < cap then some (m + 1) else none := by
  unfold nextOf initNext
  simp [List.getD_eq_getElem?_getD, h]

theorem isChain_initNext (cap n m : Nat) (h : m + n = cap) :
    IsChain (initNext cap) (if m < cap then some m else none) (List.range' m n) := by
  induction n generalizing m with
  | zero => exact if_neg (Nat.not_lt.mpr (Nat.le_of_eq h.symm))
  | succ n ih =>
    have hm : m < cap := h ▸ Nat.lt_add_of_pos_right (Nat.succ_pos n)
    rw [if_pos hm, List.range'_succ]
    exact ⟨rfl, nextOf_initNext cap m hm ▸ ih (m + 1) ((Nat.add_right_comm m 1 n).trans h)⟩

theorem R_new (hash : Key → Nat) (cap es : Nat) (fixed : Bool) (s0 : HS) (h : new cap es fixed = some s0) :
    R hash ⟨cap, es, fixed⟩ s0 [] := by
  unfold new at h
  by_cases hc : cap = 0 ∨ es = 0
  · rw [if_pos hc] at h; exact nomatch h
  · rw [if_neg hc] at h
    obtain rfl := Option.some.inj h
    have hcap : 0 < cap := Nat.pos_of_ne_zero fun e => hc (Or.inl e)
    refine ⟨fun _ => [], List.range cap, ?_, rfl, rfl, rfl, List.nodup_nil, rfl, fun k => ?_⟩
    · refine {
        haLen := List.length_replicate, capPos := hcap, keysLen := List.length_replicate
        nextLen := by rw [initNext, List.length_map, List.length_range]
        chains := fun b _ => ?_, freeCh := ?_
        node := fun _ _ _ hn => (nomatch hn), nodupK := fun _ _ => List.nodup_nil, disj := fun _ _ _ hn => (nomatch hn)
        flNodup := List.nodup_range, flLt := fun _ => List.mem_range.mp, count := List.length_range }
      · show (List.replicate (cap * 5) none).getD b none = none
        rw [List.getD_eq_getElem?_getD, List.getElem?_replicate]
        split <;> rfl
      · have := isChain_initNext cap cap 0 (Nat.zero_add _)
        rwa [if_pos hcap, ← List.range_eq_range'] at this
    · exact ⟨fun hk => (nomatch hk), fun ⟨_, hn, _⟩ => (nomatch hn)⟩

theorem add_full (hash : Key → Nat) {s : HS} (k : Key) (h : s.len ≥ s.cap) : add hash s k = (s, .errFull) := if_pos h

theorem add_invalid (hash : Key → Nat) {s : HS} {k : Key} (h : ¬ s.len ≥ s.cap)
    (hv : validKey s.es s.fixed k = false) : add hash s k = (s, .errLen) := by
  simp only [add, h, hv, if_false, Bool.not_false, if_true]

theorem Inv.free_cons {hash s ch fl} (hI : Inv hash s ch fl) (h : ¬ s.len ≥ s.cap) : ∃ node fl', fl = node :: fl' := by
  cases fl with
  | nil => exact absurd (Nat.le_of_eq ((Nat.zero_add _).symm.trans hI.count).symm) h
  | cons node fl' => exact ⟨node, fl', rfl⟩

def upd (ch : Nat → List Nat) (b : Nat) (v : List Nat) : Nat → List Nat := fun b' => if b' = b then v else ch b'

theorem upd_self (ch : Nat → List Nat) (b : Nat) (v : List Nat) : upd ch b v b = v := if_pos rfl

theorem upd_ne (ch : Nat → List Nat) {b b' : Nat} (v : List Nat) (h : b' ≠ b) : upd ch b v b' = ch b' := if_neg h

theorem mem_upd_cons {ch : Nat → List Nat} {b b' x n : Nat} :
    n ∈ upd ch b (x :: ch b) b' ↔ (b' = b ∧ n = x) ∨ n ∈ ch b' := by
  by_cases e : b' = b
  · subst e
    rw [upd_self, List.mem_cons]
    exact or_congr_left ⟨fun h => ⟨rfl, h⟩, And.right⟩
  · rw [upd_ne _ _ e]
    exact (or_iff_right fun h => e h.1).symm

theorem R_add_node {hash s ch node fl'} {c : Cfg} {l : List Key} (hI : Inv hash s ch (node :: fl'))
    (hcap : s.cap = c.cap) (hes : s.es = c.es) (hfx : s.fixed = c.fixed) (hnd : l.Nodup) (hlen : s.len = l.length)
    (hm : ∀ k, k ∈ l ↔ ∃ n ∈ ch (hash k % s.ha.length), keyOf s.keys n = k)
    {k : Key} (hv : validKey s.es s.fixed k = true) (hkl : k ∉ l) {b : Nat} (hbk : hash k % s.ha.length = b) :
    R hash c { s with free := nextOf s.next node
                      next := s.next.set node (s.ha.getD b none)
                      keys := s.keys.set node k
                      len := s.len + 1
                      ha := s.ha.set b (some node) } (k :: l) := by
  have hb : b < s.ha.length := hbk ▸ hI.bucketLt k
  have hfn := List.nodup_cons.mp hI.flNodup
  have hnode_lt : node < s.cap := hI.flLt node List.mem_cons_self
  have hnode_ch : ∀ b', b' < s.ha.length → node ∉ ch b' := fun b' hb' hn =>
    hI.disj b' hb' node hn List.mem_cons_self
  have hkN : keyOf (s.keys.set node k) node = k := keyOf_set_eq _ _ _ (hI.keysLen.symm ▸ hnode_lt)
  have hkO : ∀ b', b' < s.ha.length → ∀ n ∈ ch b', keyOf (s.keys.set node k) n = keyOf s.keys n :=
    fun b' hb' n hn => keyOf_set_ne _ _ _ _ fun e => hnode_ch b' hb' (e ▸ hn)
  have hnew : ¬ ∃ n ∈ ch b, keyOf s.keys n = k := fun h => hkl ((hm k).mpr (hbk ▸ h))
  have hset : ∀ b', b' < s.ha.length → IsChain (s.next.set node (s.ha.getD b none)) (s.ha.getD b' none) (ch b') :=
    fun b' hb' => isChain_set (hI.chains b' hb') (hnode_ch b' hb')
  have hb_old : ∀ {b'}, b' < (s.ha.set b (some node)).length → b' < s.ha.length := fun h => List.length_set .. ▸ h
  -- open: `chains`, `node`, `nodupK`, `disj`, membership
  refine ⟨upd ch b (node :: ch b), fl',
    ⟨(List.length_set ..).trans hI.haLen, hI.capPos, (List.length_set ..).trans hI.nextLen,
      (List.length_set ..).trans hI.keysLen, ?_, isChain_set hI.freeCh.2 hfn.1, ?_, ?_, hfn.2,
      fun n hn => hI.flLt n (List.mem_cons_of_mem _ hn), ?_,
      (Nat.add_right_comm fl'.length s.len 1).trans hI.count⟩,
    hcap, hes, hfx, List.nodup_cons.mpr ⟨hkl, hnd⟩, congrArg (· + 1) hlen, ?_⟩
  · intro b' hb'
    dsimp only
    by_cases e : b' = b
    · rw [e, upd_self, getD_set_eq _ _ _ _ hb]
      exact ⟨rfl, (nextOf_set_eq _ _ _ (hI.nextLen.symm ▸ hnode_lt)).symm ▸ hset b hb⟩
    · rw [upd_ne _ _ e, getD_set_ne _ _ _ _ _ e]
      exact hset b' (hb_old hb')
  · intro b' hb' n hn
    dsimp only
    rw [List.length_set]
    rcases mem_upd_cons.mp hn with ⟨rfl, rfl⟩ | hn'
    · rw [hkN]; exact ⟨hnode_lt, hbk, hv⟩
    · rw [hkO b' (hb_old hb') n hn']; exact hI.node b' (hb_old hb') n hn'
  · intro b' hb'
    dsimp only
    have hmap := List.map_congr_left (hkO b' (hb_old hb'))
    by_cases e : b' = b
    · subst e
      rw [upd_self, List.map_cons, hkN, hmap]
      exact List.nodup_cons.mpr ⟨fun h => hnew (List.mem_map.mp h), hI.nodupK b' hb⟩
    · rw [upd_ne _ _ e, hmap]
      exact hI.nodupK b' (hb_old hb')
  · intro b' hb' n hn
    rcases mem_upd_cons.mp hn with ⟨-, rfl⟩ | hn'
    · exact hfn.1
    · exact fun h => hI.disj b' (hb_old hb') n hn' (List.mem_cons_of_mem _ h)
  · intro k'
    dsimp only
    have hb' := hI.bucketLt k'
    rw [List.length_set, List.mem_cons, hm k']
    constructor
    · rintro (rfl | ⟨n, hn, e⟩)
      · exact ⟨node, mem_upd_cons.mpr (Or.inl ⟨hbk, rfl⟩), hkN⟩
      · exact ⟨n, mem_upd_cons.mpr (Or.inr hn), (hkO _ hb' n hn).trans e⟩
    · rintro ⟨n, hn, e⟩
      rcases mem_upd_cons.mp hn with ⟨-, rfl⟩ | hn'
      · exact Or.inl (e.symm.trans hkN)
      · exact Or.inr ⟨n, hn', (hkO _ hb' n hn').symm.trans e⟩

theorem sim_add {hash c s l} (h : R hash c s l) (k : Key) :
    (add hash s k).2 = (specStep c l (.add k)).2 ∧ R hash c (add hash s k).1 (specStep c l (.add k)).1 := by
  have hR := h
  obtain ⟨ch, fl, hI, hcap, hes, hfx, hnd, hlen, hm⟩ := h
  rw [specStep, ← hcap, ← hes, ← hfx, ← hlen]
  by_cases hfull : s.len ≥ s.cap
  · rw [add_full hash k hfull, if_pos hfull]
    exact ⟨rfl, hR⟩
  · rw [if_neg hfull]
    cases hv : validKey s.es s.fixed k
    · rw [add_invalid hash hfull hv, Bool.not_false, if_pos rfl]
      exact ⟨rfl, hR⟩
    · have hiff := (hI.existLoop_iff (hI.bucketLt k) k).trans (hm k).symm
      rw [Bool.not_true, if_neg Bool.false_ne_true]
      by_cases hkl : k ∈ l
      · rw [if_pos (List.contains_iff_mem.mpr hkl),
          show add hash s k = (s, .ok) by simp only [add, bucket, HS.haSize, hfull, hv, hiff.mpr hkl, if_false,
            Bool.not_true, Bool.false_eq_true, if_true]]
        exact ⟨rfl, hR⟩
      · obtain ⟨node, fl', rfl⟩ := hI.free_cons hfull
        rw [if_neg (mt List.contains_iff_mem.mp hkl)]
        simp only [add, bucket, HS.haSize, hfull, hv, Bool.eq_false_iff.mpr (mt hiff.mp hkl), hI.freeCh.1, if_false,
          Bool.not_true, Bool.false_eq_true]
        exact ⟨trivial, R_add_node hI hcap hes hfx hnd hlen hm hv hkl rfl⟩

theorem remove_invalid (hash : Key → Nat) {s : HS} {k : Key} (hv : validKey s.es s.fixed k = false) :
    remove hash s k = (s, .errLen) := by
  simp only [remove, hv, Bool.not_false, if_true]

/-- How `i` is unlinked differs between the head and the inside of a chain: the caller gives the arrays `ha'`, `nx`
    after it.  What `recyleNode(i)` then does is the same in both: `next[i] = freeNode; freeNode = i; length--`. -/
theorem R_remove_node {hash s ch fl} {c : Cfg} {l : List Key} (hI : Inv hash s ch fl)
    (hcap : s.cap = c.cap) (hes : s.es = c.es) (hfx : s.fixed = c.fixed) (hnd : l.Nodup) (hlen : s.len = l.length)
    (hm : ∀ k, k ∈ l ↔ ∃ n ∈ ch (hash k % s.ha.length), keyOf s.keys n = k)
    {k : Key} {b : Nat} (hbk : hash k % s.ha.length = b) (i : Nat) (hi_in : i ∈ ch b)
    (hki : keyOf s.keys i = k) {ha' nx : List (Option Nat)} (hhaLen : ha'.length = s.ha.length)
    (hnxLen : nx.length = s.next.length)
    (hha : ∀ b', b' ≠ b → ha'.getD b' none = s.ha.getD b' none)
    (hnx : ∀ n, n ∉ ch b → nextOf nx n = nextOf s.next n)
    (hchain : IsChain nx (ha'.getD b none) ((ch b).erase i)) :
    R hash c { s with ha := ha', next := nx.set i s.free, free := some i, len := s.len - 1 } (l.erase k) := by
  have hb : b < s.ha.length := hbk ▸ hI.bucketLt k
  have hnext : ∀ n, n ∉ ch b → nextOf (nx.set i s.free) n = nextOf s.next n := fun n hn =>
    (nextOf_set_ne _ _ _ _ fun e : n = i => hn (e ▸ hi_in)).trans (hnx n hn)
  have hfree : nextOf (nx.set i s.free) i = s.free :=
    nextOf_set_eq _ _ _ (hnxLen ▸ hI.nextLen ▸ hI.nodeLt hb hi_in)
  have hkl : k ∈ l := (hm k).mpr ⟨i, hbk ▸ hi_in, hki⟩
  -- no other node of the chain carries `k`
  have hiv := (List.nodup_cons.mp
    (((List.perm_cons_erase hi_in).map (keyOf s.keys)).nodup_iff.mp (hI.nodupK b hb))).1
  have hmem : ∀ {b' n}, b' < s.ha.length → (n ∈ (ch b').erase i ↔ n ≠ i ∧ n ∈ ch b') :=
    fun hb' => (hI.chNodup hb').mem_erase_iff
  -- the ghost chains lose `i` as `l` loses `k`: erased everywhere (it stood in `ch b` only, `Inv.bucket_unique`)
  -- open: `chains`, `freeCh`, `node`, `disj`, `count`, length, membership
  refine ⟨fun b' => (ch b').erase i, i :: fl, ⟨hhaLen.trans hI.haLen, hI.capPos,
    ((List.length_set ..).trans hnxLen).trans hI.nextLen, hI.keysLen, ?_, ⟨rfl, ?_⟩, ?_,
    fun b' hb' => (hI.nodupK b' (hhaLen ▸ hb')).sublist (List.erase_sublist.map _),
    List.nodup_cons.mpr ⟨hI.disj b hb i hi_in, hI.flNodup⟩,
    List.forall_mem_cons.mpr ⟨hI.nodeLt hb hi_in, hI.flLt⟩, ?_, ?_⟩, hcap, hes, hfx, hnd.erase k, ?_, ?_⟩
  · intro b' hb'
    by_cases e : b' = b
    · rw [e]; exact isChain_set hchain (hI.chNodup hb).not_mem_erase
    · have hb' := hhaLen ▸ hb'
      dsimp only
      rw [hha b' e, List.erase_of_not_mem fun h => e (hI.bucket_unique hb' hb h hi_in)]
      exact isChain_congr (hI.chains b' hb') fun n hn => hnext n fun h => e (hI.bucket_unique hb' hb hn h)
  · dsimp only
    rw [hfree]
    exact isChain_congr hI.freeCh fun n hn => hnext n fun h => hI.disj b hb n h hn
  · intro b' hb' n hn
    dsimp only
    rw [hhaLen]
    exact hI.node b' (hhaLen ▸ hb') n (List.mem_of_mem_erase hn)
  · intro b' hb' n hn
    have hb' := hhaLen ▸ hb'
    obtain ⟨hne, hn'⟩ := (hmem hb').mp hn
    rw [List.mem_cons, not_or]
    exact ⟨hne, hI.disj b' hb' n hn'⟩
  · have hpos : 1 ≤ s.len := hlen ▸ List.length_pos_of_mem hkl
    dsimp only
    rw [List.length_cons, Nat.add_assoc, Nat.add_sub_cancel' hpos]
    exact hI.count
  · dsimp only
    rw [List.length_erase_of_mem hkl, hlen]
  · intro k'
    dsimp only
    rw [hnd.mem_erase_iff, hhaLen, hm k']
    constructor
    · rintro ⟨hk', n, hn, e⟩
      exact ⟨n, (hmem (hI.bucketLt k')).mpr ⟨fun h => hk' (e.symm.trans (h ▸ hki)), hn⟩, e⟩
    · rintro ⟨n, hn, e⟩
      refine ⟨fun ek => ?_, n, List.mem_of_mem_erase hn, e⟩
      rw [ek, hbk] at hn
      exact hiv (List.mem_map.mpr ⟨n, hn, e.trans (ek.trans hki.symm)⟩)

theorem sim_remove {hash c s l} (h : R hash c s l) (k : Key) :
    (remove hash s k).2 = (specStep c l (.rm k)).2 ∧ R hash c (remove hash s k).1 (specStep c l (.rm k)).1 := by
  have hR := h
  obtain ⟨ch, fl, hI, hcap, hes, hfx, hnd, hlen, hm⟩ := h
  rw [specStep, ← hes, ← hfx]
  cases hv : validKey s.es s.fixed k
  · rw [remove_invalid hash hv, Bool.not_false, if_pos rfl]
    exact ⟨rfl, hR⟩
  rw [Bool.not_true, if_neg Bool.false_ne_true]
  -- `remove` is unfolded once, in `hr`; cases: empty bucket, head carries `k`, `delLoop` finds nothing / `(p', i)`
  generalize hr : remove hash s k = r
  simp only [remove, bucket, HS.haSize, hv, Bool.not_true, Bool.false_eq_true, if_false] at hr
  have hb := hI.bucketLt k
  generalize hbk : hash k % s.ha.length = b at hb hr
  have hchain := hI.chains b hb
  -- a key carried by no node of its bucket is not in the set
  have hnot : (∀ n ∈ ch b, keyOf s.keys n ≠ k) → l.erase k = l := fun hall =>
    List.erase_of_not_mem fun hkl => let ⟨n, hn, e⟩ := (hm k).mp hkl; hall n (hbk ▸ hn) e
  cases hh : s.ha.getD b none with
  | none =>
    rw [hh] at hchain
    rw [hh] at hr
    rw [← hr, hnot (by rw [isChain_none hchain]; exact fun _ hn => nomatch hn)]
    exact ⟨rfl, hR⟩
  | some head =>
    rw [hh] at hchain
    obtain ⟨rest, hch, hrest⟩ := isChain_some hchain
    have hrm := R_remove_node hI hcap hes hfx hnd hlen hm hbk
    by_cases hk0 : keyOf s.keys head = k
    · -- the head goes: `ha' := s.ha.set b (nextOf s.next head)`, `nx := s.next`
      have hin : head ∈ ch b := hch ▸ List.mem_cons_self
      simp only [hh, beq_iff_eq.mpr hk0, if_true] at hr
      rw [← hr]
      refine ⟨rfl, hrm head hin hk0 (List.length_set ..) rfl (fun b' e => getD_set_ne _ _ _ _ _ e) (fun _ _ => rfl) ?_⟩
      dsimp only [recycle]
      rw [getD_set_eq _ _ _ _ hb, hch, List.erase_cons_head]
      exact hrest
    · have hfuel : rest.length ≤ s.cap := Nat.le_of_succ_le (by have := hI.chLen hb; rwa [hch] at this)
      rcases delLoop_unlink s.keys k hrest hfuel (hch ▸ hI.chNodup hb) with
        ⟨hd, hall⟩ | ⟨p', i, hd, hki, hpin, hiin, hcv⟩
      · simp only [hh, beq_iff_eq, hk0, if_false, hd] at hr
        rw [← hr, hnot (hch ▸ List.forall_mem_cons.mpr ⟨hk0, hall⟩)]
        exact ⟨rfl, hR⟩
      · -- `i` behind `p'` goes: `ha' := s.ha`, `nx := s.next.set p' (nextOf s.next i)`
        have hpin : p' ∈ ch b := hch ▸ hpin
        have hiin : i ∈ ch b := hch ▸ List.mem_cons_of_mem _ hiin
        simp only [hh, beq_iff_eq, hk0, if_false, hd] at hr
        rw [← hr]
        exact ⟨rfl, hrm i hiin hki rfl (List.length_set ..) (fun _ _ => rfl)
          (fun n hn => nextOf_set_ne _ _ _ _ fun e : n = p' => hn (e ▸ hpin)) (hh ▸ hch ▸ hcv)⟩

theorem sim_step {hash c s l} (h : R hash c s l) (o : Op) :
    (step hash s o).2 = (specStep c l o).2 ∧ R hash c (step hash s o).1 (specStep c l o).1 := by
  cases o with
  | add k => exact sim_add h k
  | rm k => exact sim_remove h k
  | ex k =>
    refine ⟨congrArg Out.bool (Bool.eq_iff_iff.mpr ?_), h⟩
    exact (h.exist_iff k).trans List.contains_iff_mem.symm
  | len =>
    exact ⟨congrArg Out.nat h.len_eq, h⟩
  | full =>
    exact ⟨show Out.bool (decide (s.len ≥ s.cap)) = Out.bool (decide (l.length ≥ c.cap)) by rw [h.len_eq, h.cap_eq], h⟩

theorem sim_run {hash c s l} (ops : List Op) (h : R hash c s l) :
    runOps hash s ops = specRun c l ops := by
  induction ops generalizing s l with
  | nil => rfl
  | cons o os ih =>
    have := sim_step h o
    rw [runOps, specRun, this.1, ih this.2]

/-! The flat byte pools (`byte_pool.go`, `fixed_byte_pool.go`). -/

theorem slice_splice_disjoint (buf k : List UInt8) (a c n : Nat) (hfit : a + k.length ≤ buf.length)
    (h : c + n ≤ a ∨ a + k.length ≤ c) :
    ((buf.take a ++ k ++ buf.drop (a + k.length)).drop c).take n = (buf.drop c).take n := by
  have h1 : (buf.take a).length = a := List.length_take_of_le (Nat.le_trans (Nat.le_add_right ..) hfit)
  rcases h with h | h
  · rw [List.take_drop, List.take_drop, List.append_assoc, List.take_append_of_le_length (h1.symm ▸ h),
      List.take_take, Nat.min_eq_left h]
  · obtain ⟨d, rfl⟩ := Nat.exists_eq_add_of_le h
    have h2 : (buf.take a ++ k).length = a + k.length := by rw [List.length_append, h1]
    rw [← h2, List.drop_length_add_append, List.drop_drop]

theorem slot_le {i j : Nat} (h : j < i) (size : Nat) : j * size + size ≤ i * size := by
  rw [← Nat.succ_mul]; exact Nat.mul_le_mul_right _ h

/-- `n` slots of `p.size` bytes -/
def PoolInv (p : FlatPool) (n : Nat) : Prop :=
  p.buf.length = n * p.size ∧ p.lens.length = n ∧ ∀ j, p.lens.getD j 0 ≤ p.size

theorem PoolInv.slot_fits {p : FlatPool} {n i : Nat} {k : Key} (hI : PoolInv p n) (hi : i < n)
    (hk : k.length ≤ p.size) : i * p.size + k.length ≤ p.buf.length :=
  hI.1 ▸ Nat.le_trans (Nat.add_le_add_left hk _) (slot_le hi _)

theorem poolInv_set {p : FlatPool} {n i : Nat} {k : Key} (hI : PoolInv p n) (hi : i < n) (hk : k.length ≤ p.size) :
    PoolInv (p.set i k) n := by
  have hfit := hI.slot_fits hi hk
  obtain ⟨hbuf, hlens, hle⟩ := hI
  refine ⟨?_, (List.length_set ..).trans hlens, fun j => ?_⟩
  · show (p.buf.take (i * p.size) ++ k ++ p.buf.drop (i * p.size + k.length)).length = _
    rw [List.length_append, List.length_append, List.length_take_of_le (Nat.le_trans (Nat.le_add_right ..) hfit),
      List.length_drop, Nat.add_sub_cancel' hfit]
    exact hbuf
  · show (p.lens.set i k.length).getD j 0 ≤ _
    by_cases e : j = i
    · rw [e, getD_set_eq _ _ _ _ (hlens.symm ▸ hi)]; exact hk
    · rw [getD_set_ne _ _ _ _ _ e]; exact hle j

theorem trySet_cases (p : FlatPool) (fixed : Bool) (i : Nat) (k : Key) :
    (p.trySet fixed i k = (p.set i k, .ok) ∧ i < p.lens.length ∧ k.length ≤ p.size) ∨
    ((p.trySet fixed i k).1 = p ∧ (p.trySet fixed i k).2 ≠ .ok) := by
  unfold FlatPool.trySet
  by_cases h1 : i ≥ p.lens.length
  · rw [if_pos h1]; exact Or.inr ⟨rfl, nofun⟩
  · rw [if_neg h1]
    by_cases h2 : (if fixed then k.length != p.size else decide (k.length > p.size)) = true
    · rw [if_pos h2]; exact Or.inr ⟨rfl, nofun⟩
    · rw [if_neg h2]
      refine Or.inl ⟨rfl, Nat.lt_of_not_le h1, ?_⟩
      cases fixed
      · exact Nat.le_of_not_lt fun h => h2 (decide_eq_true h)
      · exact Nat.le_of_eq (Decidable.of_not_not fun h => h2 (bne_iff_ne.mpr h))

end BfeVerif.C20
