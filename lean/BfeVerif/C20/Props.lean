import BfeVerif.C20.Proofs
/-!
  C20 — the hash set behaves as a bounded set.

  `runOps hash s0 ops` is the model of a whole history of `Add/Remove/Exist/Len/Full` calls on the `HashSet`
  created by `NewHashSet(cap, es, fixed, hash)`; `specRun ⟨cap, es, fixed⟩ [] ops` is the same history on a
  mathematical set of keys with capacity `cap` (a duplicate-free list; `Add` refused with an error when the set
  holds `cap` keys, keys of invalid length rejected: length ≠ es for fixed-length sets, > es otherwise).
  `hash` is arbitrary (constant functions included), `cap`, `es`, the history and all keys are arbitrary.
-/
namespace BfeVerif.C20

/-- **C20 (full strength)**: for every hash function, capacity, element size, pool kind and history, every answer
    of the hash set (Add/Remove results, membership, size, fullness) equals the answer of the mathematical bounded set. -/
theorem C20_refines (hash : Key → Nat) (cap es : Nat) (fixed : Bool) (s0 : HS)
    (h : new cap es fixed = some s0) (ops : List Op) :
    runOps hash s0 ops = specRun ⟨cap, es, fixed⟩ [] ops :=
  sim_run ops (R_new hash cap es fixed s0 h)

/-- The abstraction relation (representation invariant `Inv` + "the chains hold exactly the keys of `l`" +
    `len = |l|`) is preserved by every operation, with equal answers; it holds initially (`C20_inv_initial`). -/
theorem C20_inv_preserved (hash : Key → Nat) (c : Cfg) (s : HS) (l : List Key) (h : R hash c s l) (o : Op) :
    (step hash s o).2 = (specStep c l o).2 ∧ R hash c (step hash s o).1 (specStep c l o).1 :=
  sim_step h o

theorem C20_inv_initial (hash : Key → Nat) (cap es : Nat) (fixed : Bool) (s0 : HS) (h : new cap es fixed = some s0) :
    R hash ⟨cap, es, fixed⟩ s0 [] := R_new hash cap es fixed s0 h

theorem C20_exist_iff (hash : Key → Nat) (c : Cfg) (s : HS) (l : List Key) (h : R hash c s l) (k : Key) :
    exist hash s k = true ↔ k ∈ l := h.exist_iff k

/-- `Len()` is the cardinality of the set (the list is duplicate-free) and never exceeds the capacity -/
theorem C20_len_eq_card (hash : Key → Nat) (c : Cfg) (s : HS) (l : List Key) (h : R hash c s l) :
    s.len = l.length ∧ l.Nodup ∧ s.len ≤ c.cap := by
  obtain ⟨ch, fl, hI, hcap, _, _, hnd, hlen, _⟩ := h
  exact ⟨hlen, hnd, hcap ▸ (hI.count ▸ Nat.le_add_left .. : s.len ≤ s.cap)⟩

theorem C20_full_fails_clean (hash : Key → Nat) (s : HS) (k : Key) (hfull : s.len ≥ s.cap) :
    add hash s k = (s, .errFull) := add_full hash k hfull

theorem C20_invalid_rejected (hash : Key → Nat) (s : HS) (k : Key) (hbad : validKey s.es s.fixed k = false) :
    (s.len < s.cap → add hash s k = (s, .errLen)) ∧ remove hash s k = (s, .errLen) ∧ exist hash s k = false := by
  refine ⟨fun h => add_invalid hash (Nat.not_le.mpr h) hbad, remove_invalid hash hbad, ?_⟩
  rw [exist, hbad]; rfl

/-- which lengths are invalid: for a fixed-length set everything but `es` (the former defect accepted shorter keys) -/
theorem C20_valid_lengths (es : Nat) (k : Key) :
    (validKey es true k = true ↔ k.length = es) ∧ (validKey es false k = true ↔ k.length ≤ es) := by
  unfold validKey
  constructor
  · by_cases h : k.length = es <;> simp [h]
  · simp

/-- Byte pools (`BytePool` / `FixedBytePool`): `Get(i)` after `Set(i, k)` returns exactly `k` … -/
theorem C20_pool_get_set_same (p : FlatPool) (i : Nat) (k : Key) (hi : i < p.lens.length)
    (hfit : i * p.size + k.length ≤ p.buf.length) : (p.set i k).get i = k := by
  have h1 : (p.buf.take (i * p.size)).length = i * p.size :=
    List.length_take_of_le (Nat.le_trans (Nat.le_add_right ..) hfit)
  show ((p.buf.take (i * p.size) ++ k ++ _).drop (i * p.size)).take ((p.lens.set i k.length).getD i 0) = k
  rw [getD_set_eq _ _ _ _ hi, List.append_assoc, List.drop_left' h1, List.take_left' rfl]

/-- … and `Set(i, k)` with `len(k) ≤ size` does not disturb any other slot (this is what justifies modelling the
    pool as one byte string per node in `HS.keys`). -/
theorem C20_pool_get_set_other (p : FlatPool) (i j : Nat) (k : Key) (hne : j ≠ i)
    (hk : k.length ≤ p.size) (hj : p.lens.getD j 0 ≤ p.size)
    (hfit : i * p.size + k.length ≤ p.buf.length) : (p.set i k).get j = p.get j := by
  show ((p.buf.take (i * p.size) ++ k ++ _).drop (j * p.size)).take ((p.lens.set i k.length).getD j 0) = _
  rw [getD_set_ne _ _ _ _ _ hne]
  refine slice_splice_disjoint _ _ _ _ _ hfit ?_
  rcases Nat.lt_or_gt_of_ne hne with h | h
  · exact Or.inl (Nat.le_trans (Nat.add_le_add_left hj _) (slot_le h _))
  · exact Or.inr (Nat.le_trans (Nat.add_le_add_left hk _) (slot_le h _))

/-- one `Set` call, failed ones included, from any state with `PoolInv`; with `C20_pool_new_inv` this covers every
    sequence of calls after `New…Pool` -/
theorem C20_pool_set_contract (p : FlatPool) (n : Nat) (hI : PoolInv p n) (fixed : Bool) (i : Nat) (k : Key) :
    PoolInv (p.trySet fixed i k).1 n ∧
    ((p.trySet fixed i k).2 = .ok →
      (p.trySet fixed i k).1.get i = k ∧ ∀ j, j ≠ i → (p.trySet fixed i k).1.get j = p.get j) ∧
    ((p.trySet fixed i k).2 ≠ .ok → (p.trySet fixed i k).1 = p) := by
  rcases trySet_cases p fixed i k with ⟨e, hi, hk⟩ | ⟨e, hne⟩
  · have hfit := hI.slot_fits (hI.2.1 ▸ hi) hk
    rw [e]
    exact ⟨poolInv_set hI (hI.2.1 ▸ hi) hk, fun _ => ⟨C20_pool_get_set_same p i k hi hfit,
      fun j hj => C20_pool_get_set_other p i j k hj hk (hI.2.2 j) hfit⟩, fun h => absurd rfl h⟩
  · exact ⟨e.symm ▸ hI, fun h => absurd h hne, fun _ => e⟩

theorem C20_pool_new_inv (n size : Nat) (fixed : Bool) : PoolInv (FlatPool.new n size fixed) n := by
  refine ⟨List.length_replicate, List.length_replicate, fun j => ?_⟩
  show (List.replicate n (if fixed then size else 0)).getD j 0 ≤ size
  rw [List.getD_eq_getElem?_getD, List.getElem?_replicate]
  split
  · cases fixed
    · exact Nat.zero_le _
    · exact Nat.le_refl _
  · exact Nat.zero_le _

/-- The former witness (fixes/C20-fixed-keylen.md): a short key on a fixed-length set is rejected and changes nothing
    (before the fix: `Add` returned nil, `Len()` became 1, `Exist` stayed false). -/
theorem C20_short_key_rejected_example :
    (new 4 4 true).map (fun s => runOps (fun _ => 7) s [.add [1, 2], .len, .ex [1, 2]]) =
      some [.errLen, .nat 0, .bool false] := by
  decide +kernel

/-! Non-vacuity: `new` succeeds, and a history with collisions (constant hash), removal from the middle of a chain,
    free-list reuse and a full set runs through the non-trivial branches. -/
example : (new 3 2 false).isSome = true := by decide +kernel
example : ((⟨2, [0, 0, 0, 0, 0, 0], [0, 0, 0]⟩ : FlatPool).set 1 [7, 8]).get 1 = [7, 8] := by decide +kernel
example : (new 3 2 false).map (fun s => runOps (fun _ => 7) s
      [.add [1], .add [2], .add [3], .add [4], .rm [2], .ex [2], .ex [1], .ex [3], .add [5, 5], .len, .full, .rm [9, 9, 9]]) =
    some [.ok, .ok, .ok, .errFull, .ok, .bool false, .bool true, .bool true, .ok, .nat 3, .bool true, .errLen] := by
  decide +kernel

end BfeVerif.C20
