/-
  C20 — model of bfe_util/hash_set (HashSet + nodePool) over bfe_util/byte_pool.  Core-only.

  Mirrors the Go code (after the fix of `validateKey`, see fixes/C20-fixed-keylen.md):

    NewHashSet(elemNum, elemSize, isFixKeyLen, hashFunc): error if elemNum <= 0 || elemSize <= 0;
        ha = [-1; elemNum*LOAD_FACTOR(5)]; np.array[i].next = i+1 (last -1); freeNode = 0; length = 0
    validateKey(key): if fixed && len(key) != elemSize -> error;  if len(key) <= elemSize -> nil else error
    Add(key):    if Full() -> error;  validateKey;  h := hashFunc(key) % haSize;  if exist(h,key) -> nil
                 node := freeNode (error if -1); freeNode = next[node]; next[node] = ha[h]; pool.Set(node,key);
                 length++; ha[h] = node
    Remove(key): validateKey;  h := ...;  head := ha[h]; if head == -1 -> nil;  ha[h] = del(head, key)
    del(head,key): if key == elem(head) { nh := next[head]; recycle(head); return nh }
                   p := head; for { i := next[p]; if i == -1 break;
                                    if key == elem(i) { next[p] = next[i]; recycle(i); return head }; p = i }; return head
    recycle(n):  next[n] = freeNode; freeNode = n; length--
    exist(h,key): for i := ha[h]; i != -1; i = next[i] { if key == elem(i) return true }; false
    Len() = length;  Full() = length >= capacity

  int32 index `-1` is `none`.  The byte pool is modelled as one byte string per node (`keys`): after the fix
  `pool.Set(node,key)` never fails and `pool.Get(node)` returns exactly the last key set (`FlatPool` below models
  the flat buffer and `Props.lean` proves that law: `C20_pool_get_set_same/_other`).  Loops over chains carry a fuel of `cap` (chains of a
  well-formed set have at most `cap` nodes; proved).  The hash function is a parameter.
-/
namespace BfeVerif.C20

abbrev Key := List UInt8

structure HS where
  cap : Nat
  es : Nat
  fixed : Bool
  ha : List (Option Nat)
  next : List (Option Nat)
  free : Option Nat
  len : Nat
  keys : List Key
  deriving Repr

def HS.haSize (s : HS) : Nat := s.ha.length

/-- `np.array[i].next` -/
def nextOf (next : List (Option Nat)) (i : Nat) : Option Nat := next.getD i none
/-- `np.element(i)` -/
def keyOf (keys : List Key) (i : Nat) : Key := keys.getD i []

def initNext (cap : Nat) : List (Option Nat) :=
  (List.range cap).map fun i => if i + 1 < cap then some (i + 1) else none

def new (cap es : Nat) (fixed : Bool) : Option HS :=
  if cap = 0 ∨ es = 0 then none
  else some {
    cap := cap, es := es, fixed := fixed
    ha := List.replicate (cap * 5) none
    next := initNext cap
    free := some 0
    len := 0
    keys := List.replicate cap (if fixed then List.replicate es 0 else []) }

def validKey (es : Nat) (fixed : Bool) (k : Key) : Bool :=
  if fixed && k.length != es then false else decide (k.length ≤ es)

inductive Out where
  | ok | errFull | errLen | errOther
  | bool (b : Bool)
  | nat (n : Nat)
  deriving DecidableEq, Repr

inductive Op where
  | add (k : Key) | rm (k : Key) | ex (k : Key) | len | full
  deriving Repr

/-- `np.exist(head, key)` -/
def existLoop (next : List (Option Nat)) (keys : List Key) (key : Key) : Nat → Option Nat → Bool
  | _, none => false
  | 0, some _ => false
  | fuel + 1, some i => if keyOf keys i == key then true else existLoop next keys key fuel (nextOf next i)

/-- the `for` loop of `np.del`: finds `(pindex, index)` with `next[pindex] = index` and `elem(index) = key` -/
def delLoop (next : List (Option Nat)) (keys : List Key) (key : Key) : Nat → Nat → Option (Nat × Nat)
  | 0, _ => none
  | fuel + 1, p =>
    match nextOf next p with
    | none => none
    | some i => if keyOf keys i == key then some (p, i) else delLoop next keys key fuel i

def bucket (hash : Key → Nat) (s : HS) (k : Key) : Nat := hash k % s.haSize

def exist (hash : Key → Nat) (s : HS) (k : Key) : Bool :=
  if !validKey s.es s.fixed k then false
  else existLoop s.next s.keys k s.cap (s.ha.getD (bucket hash s k) none)

/-- `recyleNode(n)` -/
def recycle (s : HS) (n : Nat) : HS :=
  { s with next := s.next.set n s.free, free := some n, len := s.len - 1 }

def add (hash : Key → Nat) (s : HS) (k : Key) : HS × Out :=
  if s.len ≥ s.cap then (s, .errFull)
  else if !validKey s.es s.fixed k then (s, .errLen)
  else
    let b := bucket hash s k
    let head := s.ha.getD b none
    if existLoop s.next s.keys k s.cap head then (s, .ok)
    else match s.free with
      | none => (s, .errOther)
      | some node =>
        ({ s with free := nextOf s.next node
                  next := s.next.set node head
                  keys := s.keys.set node k
                  len := s.len + 1
                  ha := s.ha.set b (some node) }, .ok)

def remove (hash : Key → Nat) (s : HS) (k : Key) : HS × Out :=
  if !validKey s.es s.fixed k then (s, .errLen)
  else
    let b := bucket hash s k
    match s.ha.getD b none with
    | none => (s, .ok)
    | some head =>
      if keyOf s.keys head == k then
        let nh := nextOf s.next head
        let s' := recycle s head
        ({ s' with ha := s'.ha.set b nh }, .ok)
      else
        match delLoop s.next s.keys k s.cap head with
        | none => (s, .ok)                -- `ha[h] = head` re-assigns the same head: no-op
        | some (p, i) =>
          let s1 := { s with next := s.next.set p (nextOf s.next i) }
          (recycle s1 i, .ok)

def step (hash : Key → Nat) (s : HS) : Op → HS × Out
  | .add k => add hash s k
  | .rm k => remove hash s k
  | .ex k => (s, .bool (exist hash s k))
  | .len => (s, .nat s.len)
  | .full => (s, .bool (decide (s.len ≥ s.cap)))

def runOps (hash : Key → Nat) : HS → List Op → List Out
  | _, [] => []
  | s, o :: os => let r := step hash s o; r.2 :: runOps hash r.1 os

/-! Specification: a mathematical set of keys (duplicate-free list) with a capacity. -/

structure Cfg where
  cap : Nat
  es : Nat
  fixed : Bool

def specStep (c : Cfg) (l : List Key) : Op → List Key × Out
  | .add k =>
    if l.length ≥ c.cap then (l, .errFull)                -- at capacity: refused, members untouched
    else if !validKey c.es c.fixed k then (l, .errLen)    -- invalid length: rejected
    else if l.contains k then (l, .ok) else (k :: l, .ok)
  | .rm k => if !validKey c.es c.fixed k then (l, .errLen) else (l.erase k, .ok)
  | .ex k => (l, .bool (l.contains k))
  | .len => (l, .nat l.length)
  | .full => (l, .bool (decide (l.length ≥ c.cap)))

def specRun (c : Cfg) : List Key → List Op → List Out
  | _, [] => []
  | l, o :: os => let r := specStep c l o; r.2 :: specRun c r.1 os

/-! The flat byte pools (bfe_util/byte_pool): `buf` of `n*size` bytes, variable pool with a length array. -/

structure FlatPool where
  size : Nat
  buf : List UInt8
  lens : List Nat      -- BytePool.length;  FixedBytePool: every entry is `size`

/-- `copy(pool.buf[start:], key)` with `start = index*size`, then `length[index] = len(key)` -/
def FlatPool.set (p : FlatPool) (i : Nat) (k : Key) : FlatPool :=
  { p with buf := p.buf.take (i * p.size) ++ k ++ p.buf.drop (i * p.size + k.length)
           lens := p.lens.set i k.length }

/-- `pool.buf[start : start+length[index]]` -/
def FlatPool.get (p : FlatPool) (i : Nat) : Key :=
  (p.buf.drop (i * p.size)).take (p.lens.getD i 0)

/-- `NewBytePool(n, size)` / `NewFixedBytePool(n, size)`: zeroed buffer; the fixed pool always returns `size` bytes -/
def FlatPool.new (n size : Nat) (fixed : Bool) : FlatPool :=
  { size := size, buf := List.replicate (n * size) 0, lens := List.replicate n (if fixed then size else 0) }

inductive PoolOut where
  | ok | errIndex | errSize
  deriving DecidableEq, Repr

/-- `pool.Set(index, key)` with its two checks: `int(index) >= maxElemNum` -> error; wrong size
    (`len(key) != elemSize` for the fixed pool, `len(key) > maxElemSize` otherwise) -> error; else store -/
def FlatPool.trySet (p : FlatPool) (fixed : Bool) (i : Nat) (k : Key) : FlatPool × PoolOut :=
  if i ≥ p.lens.length then (p, .errIndex)
  else if (if fixed then k.length != p.size else decide (k.length > p.size)) then (p, .errSize)
  else (p.set i k, .ok)

end BfeVerif.C20
