import BfeVerif.C39.Proofs
/-!
  C39 — SPDY frames round-trip and parsing is robust.

  Full statement (round trip): every frame the framer writes, with any header names and values, is read back with
  the same fields and headers.  What is proved here is the name/value-block core of it for the FIXED writer
  (`C39_block_roundtrip`), plus the robustness clauses that hold and concrete witnesses for those that do not.
-/
namespace BfeVerif.C39

/-- **Round trip of the name/value block** (the part of every SYN_STREAM / SYN_REPLY / HEADERS frame that carries
    the headers), for ANY header names and values: parsing what `writeHeaderValueBlock` wrote, followed by arbitrary
    further bytes, consumes exactly the block, raises no flag, and yields the entries in order with lower-cased
    names and NUL-joined values.  Hypotheses: at most 1024 headers (the reader's limit), lengths fit 32 bits,
    `ToLower` idempotent on the names, and no lower-cased name equals the canonical key of an earlier entry (the
    reader's duplicate check).  No hypothesis on the byte length of the lower-cased name: after the fix the length
    written is the length of the text written. -/
theorem C39_block_roundtrip (E : Env) (hs : Hdrs) (rest : Bytes)
    (hn : hs.length ≤ 1024) (hsm : Small E hs) (hc : Clean E hs) :
    ∃ s, parseBlock E (writeBlock E hs ++ rest) = .ok (s, rest) ∧ s.flag = none ∧
      s.raw = hs.map fun p => (E.lower (E.lower p.1), joinNul p.2) :=
  ⟨hs.foldl (stepEntry E) {}, parseBlock_write E hs hsm hn rest, flag_fold E hs {} hc rfl fun _ _ => rfl,
    (raw_fold E hs {}).trans (List.nil_append _)⟩

/-- the header map built while parsing contains exactly the canonical keys of the written names. -/
theorem C39_block_keys (E : Env) (hs : Hdrs) (k : Bytes) :
    hHas (hs.foldl (stepEntry E) {}).hdrs k = hs.any fun p => decide (E.canon (E.lower (E.lower p.1)) = k) :=
  (hHas_foldEntries E hs {} k).trans (Bool.false_or _)

def idEnv : Env := { lower := id, canon := id }

-- the hypotheses `Clean`, `Small` of `C39_block_roundtrip` can be met
example : Clean idEnv [([0x61], [[0x62]]), ([0x63], [[0x64], [0x65]])] := by
  refine ⟨rfl, ?_, rfl, ?_, trivial⟩ <;> simp [idEnv]
example : Small idEnv [([0x61], [[0x62]])] := by
  intro p hp; simp at hp; subst hp; decide

/-- **After a per-frame header error the reader still stands at the end of the block**: upper-case or duplicate
    names only set a flag (`UnlowercasedHeaderName`, `DuplicateHeaders`), the loop parses on — so whether and where
    the parse of a block ends does not depend on `ToLower` / the canonical keys at all; in particular a block with an
    offending name is consumed exactly like the same block without the offence, and the next frame of the shared
    decompression stream starts where it should. -/
theorem C39_block_end_independent_of_name_errors (E E' : Env) (inp : Bytes) :
    restOf (parseBlock E inp) = restOf (parseBlock E' inp) := by
  unfold parseBlock
  rcases rd32 inp with _ | ⟨n, r⟩
  · rfl
  dsimp only
  split
  · rfl
  · exact parseEntries_rest_indep E E' n r {} {}

/-- the writer of bfe without fixes/C39-name-length.md: the length of the name is taken before `ToLower`. -/
def writeBlockOld (E : Env) (hs : Hdrs) : Bytes :=
  be32 hs.length ++
    hs.flatMap fun (n, vs) => be32 n.length ++ E.lower n ++ be32 (joinNul vs).length ++ joinNul vs

/-- a `ToLower` that maps the Kelvin sign (E2 84 AA) to `k`, as Go does -/
def kelvinEnv : Env :=
  { lower := fun l => if l = [0xE2, 0x84, 0xAA] then [0x6B] else l, canon := id }

/-- **Witness of the fixed defect**: with the old writer a header named U+212A cannot be read back (the block
    announces 3 name bytes but carries 1); the fixed writer round-trips it by `C39_block_roundtrip`. -/
theorem C39_witness_name_length_old :
    (match parseBlock kelvinEnv (writeBlockOld kelvinEnv [([0xE2, 0x84, 0xAA], [[0x76]])]) with
      | .error .blk => true
      | _ => false) = true := by
  decide +kernel

/-- bytes a `ReadFrame` takes from the connection -/
def used (E : Env) (rd : Rd) : Nat := rd.inp.length - (readFrame E rd).rd.inp.length

/-- Full statement (frame boundaries): a successful read consumes exactly `8 + length` bytes. -/
def BoundaryOK (E : Env) (rd : Rd) : Prop :=
  ∀ f l, (readFrame E rd).res = .ok f → declaredLen rd.inp = some l → used E rd = 8 + l

/-- **Witness (known finding `ctl-length-unchecked`)**: a PING announcing 8 payload bytes is accepted after 4 of
    them were read: the next frame is read from the wrong offset. -/
theorem C39_witness_ping_boundary :
    ¬ BoundaryOK idEnv { inp := [0x80, 3, 0, 6, 0, 0, 0, 8, 0, 0, 0, 1, 0, 0, 0, 0] } := by
  intro h
  have := h (.ping 1 8) 8 (by rfl) (by rfl)
  revert this
  decide +kernel

/-- the same for RST_STREAM (length 12 announced, 8 bytes read) and SETTINGS (length 4 announced, 12 read). -/
theorem C39_witness_rst_settings_boundary :
    ¬ BoundaryOK idEnv { inp := [0x80, 3, 0, 3, 0, 0, 0, 12, 0, 0, 0, 1, 0, 0, 0, 5, 9, 9, 9, 9] } ∧
    ¬ BoundaryOK idEnv { inp := [0x80, 3, 0, 4, 0, 0, 0, 4, 0, 0, 0, 1, 0, 0, 0, 7, 0, 0, 0, 9] } := by
  constructor
  · intro h
    have := h (.rst 1 5 12) 12 (by rfl) (by rfl)
    revert this; decide +kernel
  · intro h
    have := h (.settings 0 4 [(0, 7, 9)]) 4 (by rfl) (by rfl)
    revert this; decide +kernel

/-- **Boundaries, data frames**: a data frame that is returned consumed exactly `8 + length` bytes. -/
theorem C39_boundary_data_partial (E : Env) (rd : Rd) (first : Nat) (r1 : Bytes) (w2 : Nat) (r2 : Bytes)
    (h1 : take32 rd.inp = .ok (first, r1)) (hd : first < 2147483648) (h2 : take32 r1 = .ok (w2, r2))
    (f : Frame) (hok : (readFrame E rd).res = .ok f) :
    (readFrame E rd).rd.inp = r2.drop (w2 % 16777216) ∧ w2 % 16777216 ≤ r2.length := by
  simp only [readFrame, h1, h2, if_neg (Nat.not_le.mpr hd)] at hok ⊢
  by_cases hs : r2.length < w2 % 16777216
  · rw [if_pos hs] at hok; cases hok
  rw [if_neg hs] at hok ⊢
  by_cases hz : first = 0
  · rw [if_pos hz] at hok; cases hok
  rw [if_neg hz]
  exact ⟨rfl, Nat.le_of_not_lt hs⟩

theorem lor_flags (fl len : Nat) (hl : len < 16777216) : fl * 16777216 ||| len = fl * 16777216 + len := by
  have h := Nat.shiftLeft_add_eq_or_of_lt (a := fl) (i := 24) (b := len) (by omega)
  rw [Nat.shiftLeft_eq] at h
  simpa using h.symm

/-- **Reading is a pure function of the bytes, results are values**: the DATA frame the framer wrote is read back
    with its own payload, the reader then stands at the next frame — whatever follows and whatever was read before
    (the result does not mention the reader's state).  Iterated over a concatenation of written frames this gives
    the list of the frames, each with its own bytes; the correspondence run compares all frames of a sequence only
    after the last one was read and the input was overwritten, so that an implementation returning views into a
    reused buffer disagrees with this theorem's model. -/
theorem C39_data_roundtrip (E : Env) (sid flags : Nat) (d rest carry : Bytes)
    (hs : 0 < sid ∧ sid < 2147483648) (hf : flags < 256) (hd : d.length ≤ 16777215) :
    ∃ bs, writeFrame E (.data sid flags d) = .ok bs ∧
      (readFrame E { inp := bs ++ rest, carry := carry }).res = .ok (.data sid flags d) ∧
      (readFrame E { inp := bs ++ rest, carry := carry }).rd = { inp := rest, carry := carry } := by
  have h0 : ¬ sid = 0 := Nat.ne_of_gt hs.1
  have h1 : ¬ (sid ≥ 2147483648 ∨ d.length > 16777215) := fun h => h.elim (Nat.not_le.mpr hs.2) (Nat.not_lt.mpr hd)
  have hl : d.length < 16777216 := Nat.lt_succ_of_le hd
  have hb : flags * 16777216 + d.length < 4294967296 := by omega
  have hfl : (flags * 16777216 + d.length) / 16777216 = flags := by
    rw [Nat.add_comm, Nat.add_mul_div_right _ _ (by decide), Nat.div_eq_of_lt hl, Nat.zero_add]
  refine ⟨_, (if_neg h0).trans (if_neg h1), ?_⟩
  -- word 2 is `flags * 2^24 + len` (`lor_flags`); `hfl`, `Nat.mul_add_mod_of_lt` get both back from it
  simp only [readFrame, List.append_assoc, lor_flags flags d.length hl, Nat.mod_eq_of_lt hb,
    take32_be32 sid (by omega), take32_be32 _ hb, if_neg (Nat.not_le.mpr hs.2), hfl, Nat.mul_add_mod_of_lt hl,
    if_neg (length_append_not_lt d rest), if_neg h0, List.take_left, List.drop_left, and_self]

/-- `io.ReadFull(src, buf[:n])` on a source that delivers its bytes in chunks (empty chunks = empty reads):
    the bytes obtained (fewer than n only at the end of the source) and the source that is left. -/
def readFullS : List Bytes → Nat → Bytes × List Bytes
  | [], _ => ([], [])
  | c :: cs, n =>
    if n = 0 then ([], c :: cs)
    else if c.length ≤ n then
      let r := readFullS cs (n - c.length)
      (c ++ r.1, r.2)
    else (c.take n, c.drop n :: cs)

/-- **Segmentation**: every fixed-size read of the framer is an `io.ReadFull` on the connection.  On a source that
    delivers its bytes in arbitrary chunks (one byte at a time, with empty reads, …) `ReadFull` obtains exactly the
    first `n` bytes of the concatenation and leaves a source whose concatenation is the rest.  `readFrame` is defined
    on that concatenation (`take32`, `take8`, `take`/`drop`), so what it returns does not depend on the chunking; the
    one dependence of the real reader — `bufio`'s read-ahead inside the header-block window, known finding
    `wide-window-chunking` — lies outside this list semantics and is exercised (every third case is also read one byte
    at a time and with random cuts / empty reads / data+EOF). -/
theorem C39_readfull_chunking (chunks : List Bytes) (n : Nat) :
    (readFullS chunks n).1 = chunks.flatten.take n ∧ (readFullS chunks n).2.flatten = chunks.flatten.drop n := by
  -- 1: no chunks; 2: `n = 0`; 3: the chunk fits; 4: the chunk is cut
  fun_induction readFullS chunks n with
  | case1 => simp
  | case2 c cs => simp
  | case3 c cs n h0 hle r ih =>
    simp only [List.flatten_cons, List.take_append, List.drop_append, List.take_of_length_le hle,
      List.drop_of_length_le hle, List.nil_append]
    exact ⟨congrArg _ ih.1, ih.2⟩
  | case4 c cs n h0 hlt =>
    have hle := Nat.le_of_not_le hlt
    simp only [List.flatten_cons, List.take_append_of_le_length hle, List.drop_append_of_le_length hle, and_self]

example : readFullS [[1, 2], [], [3], [4, 5, 6]] 4 = ([1, 2, 3, 4], [[5, 6]]) := by decide +kernel

/-- **No over-read after the fix**: a SYN_STREAM / SYN_REPLY / HEADERS frame whose declared length is smaller than
    its fixed part is rejected before a single payload byte is read (the unfixed code computed `length - 10` on
    `uint32` and let the inflater read ~4 GiB past the frame). -/
theorem C39_short_header_frame_reads_nothing (E : Env) (rd : Rd) (t flags len : Nat)
    (ht : (t = 1 ∧ len < 10) ∨ ((t = 2 ∨ t = 8) ∧ len < 4)) :
    (readControl E t flags len rd).res = .error .invctl ∧ (readControl E t flags len rd).rd = rd := by
  rcases ht with ⟨rfl, h⟩ | ⟨rfl | rfl, h⟩ <;> simp [readControl, h]

/-- Full statement (allocation): every `make` requested while reading a frame is bounded by the frame's size. -/
def AllocOK (E : Env) (rd : Rd) : Prop :=
  ∀ l, declaredLen rd.inp = some l → ∀ a ∈ (readFrame E rd).allocs, a ≤ 1032 * (8 + l)

/-- **Witness (known finding `alloc-unbounded`)**: a 24 byte SYN_REPLY frame makes the parser request 4 GiB. -/
theorem C39_witness_alloc :
    ¬ AllocOK idEnv { inp := [0x80, 3, 0, 2, 0, 0, 0, 16, 0, 0, 0, 1,  0, 0, 0, 1, 0xff, 0xff, 0xff, 0xff, 0, 0, 0, 0] } := by
  intro h
  have := h 16 (by decide +kernel) 4294967295 (by decide +kernel)
  omega

/-- **Allocation, frames without header block**: whatever the bytes, a data frame requests exactly its declared
    length, SETTINGS at most 12 bytes per announced entry (≤ 1024 entries), the other control frames nothing. -/
theorem C39_alloc_partial (E : Env) (rd : Rd) (first : Nat) (r1 : Bytes) (w2 : Nat) (r2 : Bytes)
    (h1 : take32 rd.inp = .ok (first, r1)) (h2 : take32 r1 = .ok (w2, r2))
    (hnh : ¬ (first ≥ 2147483648 ∧ isHeaderType (first % 65536) = true)) :
    ∀ a ∈ (readFrame E rd).allocs, a ≤ max (w2 % 16777216) (12 * 1024) := by
  unfold readFrame
  simp only [h1, h2]
  by_cases hc : first ≥ 2147483648
  · rw [if_pos hc]
    have ht : isHeaderType (first % 65536) = false := Bool.eq_false_iff.mpr fun h => hnh ⟨hc, h⟩
    exact fun a ha => Nat.le_trans (readControl_allocs E _ _ _ _ ht a ha) (Nat.le_max_right ..)
  · rw [if_neg hc]
    have hl := Nat.le_max_left (w2 % 16777216) (12 * 1024)
    exact AllocLe.ite (.single hl) (.ite (.single hl) (.single hl))

end BfeVerif.C39
