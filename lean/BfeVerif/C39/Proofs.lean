import BfeVerif.C39.Model
/-!
  C39 — the block round trip: `encEntry` is the bytes of one entry, `stepEntry` what it does to the parser state, so
  `parseEntries_enc` is a plain induction and flag, raw list and keys are read off the fold `hs.foldl (stepEntry E)`.
  Beside it `be32` / `rd32` arithmetic, `restOf` of a parse (independent of `Env`), the allocations of `readControl`.
-/
namespace BfeVerif.C39

theorem be_digits (n : Nat) (h : n < 4294967296) :
    n / 16777216 % 256 * 16777216 + n / 65536 % 256 * 65536 + n / 256 % 256 * 256 + n % 256 = n := by
  -- split `n % (65536 * 65536)` into halves and each half into bytes; `omega` only reorders the sum
  have e : n % 4294967296 = n % 65536 + 65536 * (n / 65536 % 65536) := Nat.mod_mul (a := 65536) (b := 65536)
  have e1 : n % 65536 = n % 256 + 256 * (n / 256 % 256) := Nat.mod_mul (a := 256) (b := 256)
  have e2 : n / 65536 % 65536 = n / 65536 % 256 + 256 * (n / 65536 / 256 % 256) := Nat.mod_mul (a := 256) (b := 256)
  rw [Nat.mod_eq_of_lt h, e1, e2, Nat.div_div_eq_div_mul] at e
  generalize n / 16777216 % 256 = d3 at e ⊢
  generalize n / 65536 % 256 = d2 at e ⊢
  generalize n / 256 % 256 = d1 at e ⊢
  generalize n % 256 = d0 at e ⊢
  omega

theorem rd32_be32 (n : Nat) (h : n < 4294967296) (r : Bytes) : rd32 (be32 n ++ r) = some (n, r) := by
  simp only [be32, rd32, List.cons_append, List.nil_append, UInt8.toNat_ofNat', Nat.mod_mod, be_digits n h]

theorem be32_length (n : Nat) : (be32 n).length = 4 := rfl

theorem take32_be32 (n : Nat) (h : n < 4294967296) (r : Bytes) : take32 (be32 n ++ r) = .ok (n, r) := by
  rw [take32, rd32_be32 n h r]

/-- the effect of one entry on the parser state.  `p.1` is the name as given to the WRITER: `nameB` is what is on the
    wire, `lname` what the parser makes of that. -/
def stepEntry (E : Env) (s : PState) (p : Bytes × List Bytes) : PState :=
  let nameB := E.lower p.1
  let lname := E.lower nameB
  let f1 := if nameB ≠ lname then some Err.unlower else s.flag
  let f2 := if hHas s.hdrs lname then some Err.dup else f1
  { hdrs := (splitNul (joinNul p.2)).foldl (fun h x => hAdd h (E.canon lname) x) s.hdrs,
    raw := s.raw ++ [(lname, joinNul p.2)], flag := f2 }

def encEntry (E : Env) (p : Bytes × List Bytes) : Bytes :=
  be32 (E.lower p.1).length ++ E.lower p.1 ++ be32 (joinNul p.2).length ++ joinNul p.2

theorem writeBlock_eq (E : Env) (hs : Hdrs) : writeBlock E hs = be32 hs.length ++ hs.flatMap (encEntry E) := rfl

theorem stepEntry_flag (E : Env) (s : PState) (p : Bytes × List Bytes) :
    (stepEntry E s p).flag = if hHas s.hdrs (E.lower (E.lower p.1)) then some .dup
      else if E.lower p.1 ≠ E.lower (E.lower p.1) then some .unlower else s.flag := rfl

theorem length_append_not_lt (a b : Bytes) : ¬ (a ++ b).length < a.length := by
  rw [List.length_append]; omega

/-- what the writer announces fits its 32-bit length fields (`be32` would wrap) -/
def Small (E : Env) (hs : Hdrs) : Prop :=
  ∀ p ∈ hs, (E.lower p.1).length < 4294967296 ∧ (joinNul p.2).length < 4294967296

theorem splitNul_ne_nil (b : Bytes) : splitNul b ≠ [] := by
  fun_cases splitNul b <;> simp

theorem hHas_hAdd (h : Hdrs) (k v k' : Bytes) : hHas (hAdd h k v) k' = (hHas h k' || decide (k = k')) := by
  induction h with
  | nil => simp [hAdd, hHas]
  | cons q t ih =>
    unfold hAdd
    split
    · next hk => cases hk; by_cases h2 : q.1 = k' <;> simp [hHas, h2]
    · simp only [hHas, List.any_cons] at ih ⊢
      rw [ih, Bool.or_assoc]

theorem hHas_addValues (vs : List Bytes) (h : Hdrs) (k k' : Bytes) :
    hHas (vs.foldl (fun h x => hAdd h k x) h) k' = (hHas h k' || (!vs.isEmpty && decide (k = k'))) := by
  induction vs generalizing h with
  | nil => simp
  | cons v t ih =>
    simp only [List.foldl_cons, ih, hHas_hAdd]
    by_cases hk : k = k' <;> simp [hk]

theorem hHas_stepEntry (E : Env) (s : PState) (p : Bytes × List Bytes) (k : Bytes) :
    hHas (stepEntry E s p).hdrs k = (hHas s.hdrs k || decide (E.canon (E.lower (E.lower p.1)) = k)) := by
  show hHas ((splitNul (joinNul p.2)).foldl (fun h x => hAdd h (E.canon (E.lower (E.lower p.1))) x) s.hdrs) k = _
  rw [hHas_addValues]
  cases h : splitNul (joinNul p.2) with
  | nil => exact absurd h (splitNul_ne_nil _)
  | cons _ _ => simp

theorem hHas_foldEntries (E : Env) (hs : Hdrs) (s : PState) (k : Bytes) :
    hHas (hs.foldl (stepEntry E) s).hdrs k =
      (hHas s.hdrs k || hs.any fun p => decide (E.canon (E.lower (E.lower p.1)) = k)) := by
  induction hs generalizing s with
  | nil => simp
  | cons p t ih => rw [List.foldl_cons, ih, hHas_stepEntry, List.any_cons, Bool.or_assoc]

/-- no entry is flagged when ToLower is idempotent on the names and no lower-cased name equals the canonical key
    of an earlier entry (the reader's duplicate check). -/
def Clean (E : Env) : Hdrs → Prop
  | [] => True
  | p :: t => E.lower (E.lower p.1) = E.lower p.1 ∧
      (∀ q ∈ t, E.canon (E.lower p.1) ≠ E.lower q.1) ∧ Clean E t

theorem flag_fold (E : Env) (hs : Hdrs) (s : PState) (hc : Clean E hs) (hf : s.flag = none)
    (hold : ∀ q ∈ hs, hHas s.hdrs (E.lower q.1) = false) :
    (hs.foldl (stepEntry E) s).flag = none := by
  induction hs generalizing s with
  | nil => exact hf
  | cons p t ih =>
    obtain ⟨hid, hne, hct⟩ := hc
    refine ih _ hct ?_ fun q hq => ?_
    · rw [stepEntry_flag, hid, hold p List.mem_cons_self, if_neg Bool.false_ne_true, if_neg (not_not_intro rfl), hf]
    · rw [hHas_stepEntry, hold q (List.mem_cons_of_mem _ hq), hid, decide_eq_false (hne q hq)]
      rfl

theorem raw_fold (E : Env) (hs : Hdrs) (s : PState) :
    (hs.foldl (stepEntry E) s).raw = s.raw ++ hs.map fun p => (E.lower (E.lower p.1), joinNul p.2) := by
  induction hs generalizing s with
  | nil => simp
  | cons p t ih =>
    rw [List.foldl_cons, ih, List.map_cons]
    exact List.append_assoc ..

theorem parseEntries_enc (E : Env) (hs : Hdrs) (hsm : Small E hs) (rest : Bytes) (s : PState) :
    parseEntries E hs.length (hs.flatMap (encEntry E) ++ rest) s = .ok (hs.foldl (stepEntry E) s, rest) := by
  induction hs generalizing s with
  | nil => rfl
  | cons p t ih =>
    have hp := hsm p List.mem_cons_self
    simp only [List.flatMap_cons, encEntry, List.append_assoc, List.length_cons, parseEntries, rd32_be32 _ hp.1,
      rd32_be32 _ hp.2, if_neg (length_append_not_lt _ _), List.take_left, List.drop_left]
    exact ih (fun q hq => hsm q (List.mem_cons_of_mem _ hq)) _

theorem parseBlock_write (E : Env) (hs : Hdrs) (hsm : Small E hs) (hn : hs.length ≤ maxNumHeaders) (rest : Bytes) :
    parseBlock E (writeBlock E hs ++ rest) = .ok (hs.foldl (stepEntry E) {}, rest) := by
  rw [writeBlock_eq, parseBlock, List.append_assoc, rd32_be32 _ (Nat.lt_of_le_of_lt hn (by decide))]
  exact (if_neg (Nat.not_lt.mpr hn)).trans (parseEntries_enc E hs hsm rest {})

/-- where the parser stands after a block (or that it fails) -/
def restOf (r : Except Err (PState × Bytes)) : Option Bytes :=
  match r with
  | .ok (_, rest) => some rest
  | .error _ => none

theorem parseEntries_rest_indep (E E' : Env) (n : Nat) (inp : Bytes) (s s' : PState) :
    restOf (parseEntries E n inp s) = restOf (parseEntries E' n inp s') := by
  induction n generalizing inp s s' with
  | zero => rfl
  | succ k ih =>
    rw [parseEntries, parseEntries]
    rcases rd32 inp with _ | ⟨nl, r1⟩
    · rfl
    dsimp only
    by_cases hl : r1.length < nl
    · rw [if_pos hl, if_pos hl]
    rw [if_neg hl, if_neg hl]
    rcases rd32 (r1.drop nl) with _ | ⟨vl, r3⟩
    · rfl
    dsimp only
    by_cases hv : r3.length < vl
    · rw [if_pos hv, if_pos hv]
    rw [if_neg hv, if_neg hv]
    exact ih _ _ _

def AllocLe (b : Nat) (r : ReadRes) : Prop := ∀ a ∈ r.allocs, a ≤ b

theorem AllocLe.nil {b : Nat} {res : Except Err Frame} {rd : Rd} {names : List Bytes} :
    AllocLe b { res, rd, names } := nofun

theorem AllocLe.single {b a : Nat} {res : Except Err Frame} {rd : Rd} {names : List Bytes} (h : a ≤ b) :
    AllocLe b { res, rd, allocs := [a], names } := fun _ hx => List.mem_singleton.mp hx ▸ h

theorem AllocLe.ite {b : Nat} {c : Prop} [Decidable c] {x y : ReadRes} (hx : AllocLe b x) (hy : AllocLe b y) :
    AllocLe b (if c then x else y) := by
  split <;> assumption

/-- (the `match` is that of the model after `take32`, written out so that it unifies with it) -/
theorem AllocLe.take32 {b : Nat} {x : Except Err (Nat × Bytes)} {rd : Rd} {k : Nat → Bytes → ReadRes}
    (hk : ∀ a r, AllocLe b (k a r)) :
    AllocLe b (match x with | .error e => failShort e rd | .ok (a, r) => k a r) := by
  rcases x with e | ⟨a, r⟩
  · exact .nil
  · exact hk a r

theorem readControl_allocs (E : Env) (t flags len : Nat) (rd : Rd) (ht : isHeaderType t = false) :
    AllocLe (12 * maxNumSettings) (readControl E t flags len rd) := by
  unfold readControl
  -- types 1, 2, 8 (excluded by `ht`); 3 RST_STREAM; 4 SETTINGS; 6 PING; 7 GOAWAY; 9 WINDOW_UPDATE; others
  split
  · cases ht
  · cases ht
  · cases ht
  · exact .take32 fun _ _ => .take32 fun _ _ => .ite .nil (.ite .nil .nil)
  · refine .take32 fun n r1 => ?_
    split
    · exact .nil
    · next hn =>
      rcases readSettings n r1 [] with e | ⟨l, r2⟩
      · exact .nil
      · exact .single (by omega)
  · exact .take32 fun _ _ => .ite .nil (.ite .nil .nil)
  · exact .take32 fun _ _ => .ite .nil (.ite .nil (.take32 fun _ _ => .nil))
  · exact .take32 fun _ _ => .ite .nil (.ite .nil (.take32 fun _ _ => .nil))
  · exact .nil

end BfeVerif.C39
