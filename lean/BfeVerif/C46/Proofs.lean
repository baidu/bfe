import BfeVerif.C46.Seg
/-! The chunk-free model read branch by branch: `readHeader` behind each signature test, `parseV2` behind its 16-byte
  prefix (`v2Body`), a v1 line as `parseToks` of its tokens; `connRun_*` carry a reading of the header over to the
  observation, and `specV1_of_open` is the converse for v1. -/
namespace BfeVerif.C46

theorem be16_hi_lo (n : Nat) (h : n < 65536) : be16 (hi8 n) (lo8 n) = n := by
  unfold be16 hi8 lo8
  simp only [UInt8.toNat_ofNat']
  omega

theorem hi8_lo8_be16 (hi lo : UInt8) : hi8 (be16 hi lo) = hi ∧ lo8 (be16 hi lo) = lo := by
  unfold hi8 lo8 be16
  have h1 := hi.toNat_lt
  have h2 := lo.toNat_lt
  rw [show (hi.toNat * 256 + lo.toNat) / 256 = hi.toNat by omega,
    show (hi.toNat * 256 + lo.toNat) % 256 = lo.toNat by omega]
  exact ⟨UInt8.ofNat_toNat, UInt8.ofNat_toNat⟩

theorem exists_cons4 {α} (l : List α) (h : ¬ l.length < 4) : ∃ a b c d X, l = a :: b :: c :: d :: X := by
  match l, h with
  | a :: b :: c :: d :: X, _ => exact ⟨a, b, c, d, X, rfl⟩
  | [], h | [_], h | [_, _], h | [_, _, _], h => exact absurd (by simp) h

theorem take_append_of_length_le {α} (a b : List α) (L : Nat) (h : a.length ≤ L) :
    (a ++ b).take L = a ++ b.take (L - a.length) := by
  rw [List.take_append, List.take_of_length_le h]

theorem take_length_le {α} {l s : List α} {n : Nat} (h : l.take n = s) : s.length ≤ l.length :=
  h ▸ List.length_take_le' n l

theorem resolve_other (fam : UInt8) (ip : Option Bytes) (p : Nat) (h4 : fam ≠ 0x11) (h6 : fam ≠ 0x21) :
    resolve fam ip p = none := by
  unfold resolve; cases ip <;> simp [h4, h6]

theorem isV4Mapped_to16 (a : Bytes) (h : a.length = 4) : isV4Mapped (to16 a) = true := by
  match a, h with
  | [_, _, _, _], _ => rfl

theorem resolve_tcp4 {a : Bytes} {p : Nat} (h : isV4Mapped a = true) : resolve 0x11 (some a) p = some ⟨a, p⟩ := by
  simp [resolve, h]

theorem resolve_tcp6 {a : Bytes} {p : Nat} (h : isV4Mapped a = false) : resolve 0x21 (some a) p = some ⟨a, p⟩ := by
  simp [resolve, h]

theorem resolve_some {fam : UInt8} {ip : Option Bytes} {p : Nat} {x : Addr} (h : resolve fam ip p = some x) :
    ∃ a, ip = some a ∧ (fam = 0x11 ∨ fam = 0x21) ∧ isV4Mapped a = (fam == 0x11) := by
  cases ip with
  | none => cases h
  | some a =>
    refine ⟨a, rfl, ?_⟩
    simp only [resolve] at h
    by_cases h4 : fam = 0x11
    · rw [if_pos h4] at h
      by_cases hm : isV4Mapped a = true
      · exact ⟨Or.inl h4, by rw [hm, h4]; rfl⟩
      · rw [if_neg hm] at h; cases h
    · rw [if_neg h4] at h
      by_cases h6 : fam = 0x21
      · rw [if_pos h6] at h
        by_cases hm : isV4Mapped a = true
        · rw [if_pos hm] at h; cases h
        · exact ⟨Or.inr h6, by rw [Bool.eq_false_iff.mpr hm, h6]; rfl⟩
      · rw [if_neg h6] at h; cases h

theorem connOf_hdr (fam : UInt8) (s d : Option Bytes) (sp dp n : Nat) (st : Bytes) (e : EndK) :
    (∃ a, connOf (.hdr fam s d sp dp n) st e = rejectObs a) ∨
    ∃ x y, resolve fam s sp = some x ∧ resolve fam d dp = some y ∧ connOf (.hdr fam s d sp dp n) st e
      = { src := some x, dst := some y, data := st.drop n, fin := finOf e, closed := false } := by
  simp only [connOf]
  rcases resolve fam s sp with _ | x
  · exact Or.inl ⟨_, rfl⟩
  rcases resolve fam d dp with _ | y
  · exact Or.inl ⟨_, rfl⟩
  · exact Or.inr ⟨x, y, rfl, rfl, rfl⟩

theorem connOf_cases (rd : Rd) (s : Bytes) (e : EndK) :
    (∃ a, connOf rd s e = rejectObs a) ∨
    ((connOf rd s e).closed = false ∧ (connOf rd s e).data = s.drop (rd.consumed.getD 0)) := by
  cases rd with
  | noProxy => exact Or.inr ⟨rfl, rfl⟩
  | err => exact Or.inl ⟨_, rfl⟩
  | sock n => exact Or.inr ⟨rfl, rfl⟩
  | hdr fam sa da sp dp n =>
    rcases connOf_hdr fam sa da sp dp n s e with h | ⟨_, _, _, _, h⟩
    · exact Or.inl h
    · rw [h]; exact Or.inr ⟨rfl, rfl⟩

theorem connOf_closed {rd : Rd} {s : Bytes} {e : EndK} (h : (connOf rd s e).closed = true) :
    (connOf rd s e).data = [] ∧ (connOf rd s e).dst = none := by
  rcases connOf_cases rd s e with ⟨a, hr⟩ | ⟨hc, _⟩
  · rw [hr]; exact ⟨rfl, rfl⟩
  · rw [hc] at h; cases h

theorem connOf_open {rd : Rd} {s : Bytes} {e : EndK} (h : (connOf rd s e).closed = false) :
    (connOf rd s e).data = s.drop (rd.consumed.getD 0) := by
  rcases connOf_cases rd s e with ⟨a, hr⟩ | ⟨_, hd⟩
  · rw [hr] at h; cases h
  · exact hd

theorem connRun_prefix {env : Env} {enc : Bytes} (pay : Bytes) {limit : Nat} (e : EndK) {R : Rd}
    (hL : enc.length ≤ effLimit limit) (hR : ∀ rest a, readHeader env (enc ++ rest) a = R) :
    connRun env (enc ++ pay) limit e = connOf R (enc ++ pay) e := by
  unfold connRun
  rw [take_append_of_length_le enc pay _ hL, hR]

theorem connRun_accept {env : Env} {enc : Bytes} (pay : Bytes) {limit : Nat} (e : EndK) {fam : UInt8} {s d : Bytes} {sp dp : Nat}
    (hL : enc.length ≤ effLimit limit)
    (hR : ∀ rest a, readHeader env (enc ++ rest) a = .hdr fam (some s) (some d) sp dp enc.length)
    (hs : resolve fam (some s) sp = some ⟨s, sp⟩) (hd : resolve fam (some d) dp = some ⟨d, dp⟩) :
    connRun env (enc ++ pay) limit e
      = { src := some ⟨s, sp⟩, dst := some ⟨d, dp⟩, data := pay, fin := finOf e, closed := false } := by
  rw [connRun_prefix pay e hL hR]
  simp only [connOf, hs, hd, List.drop_left]

theorem connRun_sock {env : Env} {enc : Bytes} (pay : Bytes) {limit : Nat} (e : EndK) (hL : enc.length ≤ effLimit limit)
    (hR : ∀ rest a, readHeader env (enc ++ rest) a = .sock enc.length) :
    connRun env (enc ++ pay) limit e = { src := none, dst := none, data := pay, fin := finOf e, closed := false } := by
  rw [connRun_prefix pay e hL hR]
  simp only [connOf, List.drop_left]

/-- the `b :: t` arm of `readHeader` (`unfold` leaves its match stuck) -/
theorem readHeader_cons (env : Env) (b : UInt8) (t : Bytes) (a : Bool) :
    readHeader env (b :: t) a =
      if b ≠ 0x50 ∧ b ≠ 0x0D then .noProxy
      else if (b :: t).length < 5 then .err
      else if (b :: t).take 5 = sigV1 then parseV1 env (b :: t)
      else if (b :: t).length < 12 then .err
      else if (b :: t).take 12 = sigV2 then parseV2 (b :: t) a
      else .noProxy := rfl

theorem readHeader_sigV1 (env : Env) (vis : Bytes) (a : Bool) (hv : vis.take 5 = sigV1) : readHeader env vis a = parseV1 env vis := by
  have hl : 5 ≤ vis.length := take_length_le hv
  match vis with
  | b :: t =>
    have cb : ¬ (b ≠ 0x50 ∧ b ≠ 0x0D) := fun c => c.1 (List.cons.inj hv).1
    rw [readHeader_cons, if_neg cb, if_neg (by omega), if_pos hv]

theorem readHeader_sigV2 (env : Env) (t : Bytes) (a : Bool) : readHeader env (sigV2 ++ t) a = parseV2 (sigV2 ++ t) a := by
  have h := readHeader_cons env 0x0D (sigV2.tail ++ t) a
  -- first byte, length < 5, v1 signature, length < 12, v2 signature
  rw [if_neg (by decide), if_neg (by simp [sigV2]), if_neg (by simp [sigV1]), if_neg (by simp [sigV2]),
    if_pos (by simp [sigV2])] at h
  exact h

/-- fewer than 12 bytes beginning with CR: `Peek(5)` or `Peek(12)` fails -/
theorem readHeader_CR_short (env : Env) (t : Bytes) (a : Bool) (hl : (0x0D :: t).length < 12) :
    readHeader env (0x0D :: t) a = .err := by
  rw [readHeader_cons, if_neg (by decide)]
  by_cases h5 : (0x0D :: t).length < 5
  · rw [if_pos h5]
  · rw [if_neg h5, if_neg (by simp [sigV1]), if_pos hl]

theorem readHeader_sig_prefix (env : Env) (a : Bool) (k : Nat) (hk : k < 12) :
    readHeader env (sigV2.take k) a = .err := by
  cases k with
  | zero => rfl
  | succ k => exact readHeader_CR_short env (sigV2.tail.take k) a (by simp [sigV2]; omega)

theorem readHeader_nosig {a : Bool} (env : Env) (vis : Bytes) (hne : vis ≠ [])
    (h1 : vis.take 5 ≠ sigV1) (h2 : vis.take 12 ≠ sigV2)
    (hshort : ¬ ((vis.take 1 = [0x50] ∨ vis.take 1 = [0x0D]) ∧ vis.length < 12)) :
    readHeader env vis a = .noProxy := by
  match vis, hne with
  | b :: t, _ =>
    rw [readHeader_cons]
    by_cases hb : b ≠ 0x50 ∧ b ≠ 0x0D
    · rw [if_pos hb]
    · have hb' : (b :: t).take 1 = [0x50] ∨ (b :: t).take 1 = [0x0D] :=
        (Decidable.not_and_iff_not_or_not.mp hb).imp (fun h => congrArg (fun x => [x]) (Decidable.not_not.mp h))
          (fun h => congrArg (fun x => [x]) (Decidable.not_not.mp h))
      have hl : ¬ (b :: t).length < 12 := fun hlt => hshort ⟨hb', hlt⟩
      rw [if_neg hb, if_neg (by omega), if_neg h1, if_neg hl, if_neg h2]

/-- `parseV2` behind signature, command, family and length (`parseV2_cons4`) -/
def v2Body (b13 b14 : UInt8) (len : Nat) (X : Bytes) : Rd :=
  if b13 ≠ 0x20 ∧ b13 ≠ 0x21 then .err
  else if ¬ supportedFam b14 ∧ ¬ (b13 = 0x20 ∧ b14 = 0x00) then .err
  else if ¬ b13 = 0x20 ∧ ¬ validLen b14 len then .err
  else if len > bufSize then .err
  else tailFree b13 b14 len X

theorem parseV2_cons4 (b13 b14 hi lo : UInt8) (X : Bytes) (a : Bool) :
    parseV2 (sigV2 ++ b13 :: b14 :: hi :: lo :: X) a = v2Body b13 b14 (be16 hi lo) X := rfl

theorem parseV2_len0 (a : Bool) : parseV2 (sigV2 ++ []) a = .err := rfl

theorem parseV2_len1 (b13 : UInt8) (a : Bool) :
    parseV2 (sigV2 ++ [b13]) a =
      if b13 ≠ 0x20 ∧ b13 ≠ 0x21 then .err else if b13 = 0x20 ∧ a = true then .sock 13 else .err := rfl

theorem parseV2_bad13 {b13 : UInt8} {t : Bytes} {a : Bool} (h : b13 ≠ 0x20 ∧ b13 ≠ 0x21) :
    parseV2 (sigV2 ++ b13 :: t) a = .err := by
  show (if b13 ≠ 0x20 ∧ b13 ≠ 0x21 then Rd.err else _) = _
  rw [if_pos h]

theorem parseV2_bad14 {b13 b14 : UInt8} {t : Bytes} {a : Bool}
    (h : ¬ supportedFam b14 ∧ ¬ (b13 = 0x20 ∧ b14 = 0x00)) : parseV2 (sigV2 ++ b13 :: b14 :: t) a = .err := by
  show (if b13 ≠ 0x20 ∧ b13 ≠ 0x21 then Rd.err else if ¬ supportedFam b14 ∧ ¬ (b13 = 0x20 ∧ b14 = 0x00) then Rd.err else _) = _
  rw [if_pos h, ite_self]

/-- the length field is not all there: `binary.Read` fails -/
theorem parseV2_noLen {b13 b14 : UInt8} {t : Bytes} {a : Bool} (ht : t.length < 2) :
    parseV2 (sigV2 ++ b13 :: b14 :: t) a = .err := by
  match t, ht with
  | [], _ | [_], _ =>
    show (if b13 ≠ 0x20 ∧ b13 ≠ 0x21 then Rd.err
      else if ¬ supportedFam b14 ∧ ¬ (b13 = 0x20 ∧ b14 = 0x00) then Rd.err else Rd.err) = _
    simp only [ite_self]

theorem parseV2_short (t : Bytes) (a : Bool) (ht : t.length < 4) :
    parseV2 (sigV2 ++ t) a = if t = [0x20] ∧ a = true then .sock 13 else .err := by
  match t, ht with
  | [], _ => rfl
  | [b13], _ =>
    rw [parseV2_len1]
    by_cases c1 : b13 ≠ 0x20 ∧ b13 ≠ 0x21
    · rw [if_pos c1, if_neg fun h => c1.1 (List.cons.inj h.1).1]
    rw [if_neg c1]
    by_cases c2 : b13 = 0x20 ∧ a = true
    · rw [if_pos c2, if_pos ⟨List.singleton_inj.mpr c2.1, c2.2⟩]
    · rw [if_neg c2, if_neg fun h => c2 ⟨List.singleton_inj.mp h.1, h.2⟩]
  | [b13, b14], _ | [b13, b14, hi], _ => rw [parseV2_noLen (by simp), if_neg (by simp)]

theorem take_v2_prefix (b13 b14 hi lo : UInt8) (Z : Bytes) (k : Nat) :
    (sigV2 ++ b13 :: b14 :: hi :: lo :: Z).take (16 + k) = sigV2 ++ b13 :: b14 :: hi :: lo :: Z.take k := by
  rw [Nat.add_comm]; rfl

theorem drop_v2_prefix (b13 b14 hi lo : UInt8) (Z : Bytes) (k : Nat) :
    (sigV2 ++ b13 :: b14 :: hi :: lo :: Z).drop (16 + k) = Z.drop k := by
  rw [Nat.add_comm]; rfl

theorem connRun_v2 (env : Env) (b13 b14 hi lo : UInt8) (Z : Bytes) (limit : Nat) (e : EndK) (hlim : 16 ≤ effLimit limit) :
    connRun env (sigV2 ++ b13 :: b14 :: hi :: lo :: Z) limit e
      = connOf (v2Body b13 b14 (be16 hi lo) (Z.take (effLimit limit - 16))) (sigV2 ++ b13 :: b14 :: hi :: lo :: Z) e := by
  obtain ⟨m, hm⟩ : ∃ m, effLimit limit = 16 + m := ⟨_, (Nat.add_sub_cancel' hlim).symm⟩
  unfold connRun
  rw [hm, Nat.add_sub_cancel_left, take_v2_prefix, readHeader_sigV2, parseV2_cons4]

/-- the header limiter is not used up, so past the stream the reader is at EOF only if the peer closed -/
theorem atEOFOf_lt {s : Bytes} {limit : Nat} (e : EndK) (h : s.length < effLimit limit) : atEOFOf s limit e = (e == .eof) := by
  unfold atEOFOf
  rw [decide_eq_false (Nat.not_le_of_lt h), Bool.false_or]

theorem connRun_v2_short (env : Env) (t : Bytes) (limit : Nat) (e : EndK) (ht : t.length < 4) (hlim : 16 ≤ effLimit limit) :
    connRun env (sigV2 ++ t) limit e =
      if t = [0x20] ∧ e = .eof then { src := none, dst := none, data := [], fin := .eof, closed := false }
      else rejectObs none := by
  have hl : (sigV2 ++ t).length < effLimit limit := by
    rw [List.length_append]; exact Nat.lt_of_lt_of_le (Nat.add_lt_add_left ht 12) hlim
  unfold connRun
  rw [List.take_of_length_le (Nat.le_of_lt hl), readHeader_sigV2, parseV2_short t _ ht, atEOFOf_lt e hl]
  by_cases c : t = [0x20] ∧ e = .eof
  · obtain ⟨rfl, rfl⟩ := c
    rw [if_pos ⟨rfl, rfl⟩, if_pos ⟨rfl, rfl⟩]; rfl
  · rw [if_neg c, if_neg fun h => c ⟨h.1, beq_iff_eq.mp h.2⟩]; rfl

/-- src, dst, sport, dport of a block with `k`-byte addresses -/
def addrsAt (k : Nat) (X : Bytes) : Bytes × Bytes × Nat × Nat :=
  (X.take k, (X.drop k).take k,
   be16 (X.getD (2 * k) 0) (X.getD (2 * k + 1) 0), be16 (X.getD (2 * k + 2) 0) (X.getD (2 * k + 3) 0))

/-- the size of one address, and how it is kept (`To16` of a 4-byte address) -/
def famK (fam : UInt8) : Option (Nat × (Bytes → Bytes)) :=
  if fam &&& 0xF0 = 0x10 then some (4, to16) else if fam &&& 0xF0 = 0x20 then some (16, id) else none

theorem tailFree_eq (b13 b14 : UInt8) (len : Nat) (X : Bytes) :
    tailFree b13 b14 len X =
      if X.length < len then .err
      else if b13 = 0x20 then .sock (16 + len)
      else match famK b14 with
        | some (k, w) =>
          let (src, dst, sp, dp) := addrsAt k X
          .hdr b14 (some (w src)) (some (w dst)) sp dp (16 + len)
        | none => .hdr b14 none none 0 0 (16 + len) := by
  unfold tailFree famK
  by_cases c4 : b14 &&& 0xF0 = 0x10
  · rw [if_pos c4, if_pos c4]; rfl
  rw [if_neg c4, if_neg c4]
  by_cases c6 : b14 &&& 0xF0 = 0x20
  · rw [if_pos c6, if_pos c6]; rfl
  · rw [if_neg c6, if_neg c6]

theorem validLen_famK {fam : UInt8} {len k : Nat} {w : Bytes → Bytes} (h : famK fam = some (k, w)) :
    validLen fam len = true ↔ 2 * k + 4 ≤ len := by
  unfold famK at h
  unfold validLen
  by_cases c4 : fam &&& 0xF0 = 0x10
  · rw [if_pos c4] at h ⊢
    cases h; exact decide_eq_true_iff
  rw [if_neg c4] at h ⊢
  by_cases c6 : fam &&& 0xF0 = 0x20
  · rw [if_pos c6] at h ⊢
    cases h; exact decide_eq_true_iff
  · rw [if_neg c6] at h; cases h

theorem getD_append_add (a b : Bytes) (i : Nat) : (a ++ b).getD (a.length + i) 0 = b.getD i 0 := by
  simp [List.getD_eq_getElem?_getD, List.getElem?_append_right]

theorem addrsAt_append (k : Nat) (b Y : Bytes) (h : 2 * k + 4 ≤ b.length) : addrsAt k (b ++ Y) = addrsAt k b := by
  have g : ∀ i, i < b.length → (b ++ Y).getD i 0 = b.getD i 0 := fun i hi => by
    simp [List.getD_eq_getElem?_getD, List.getElem?_append_left hi]
  unfold addrsAt
  rw [List.take_append_of_le_length (by omega), List.drop_append_of_le_length (by omega),
    List.take_append_of_le_length (by rw [List.length_drop]; omega),
    g _ (by omega), g _ (by omega), g _ (by omega), g _ (by omega)]

theorem addrsAt_addrBlock (k : Nat) (src dst tail : Bytes) (sp dp : Nat) (hs : src.length = k) (hd : dst.length = k)
    (hsp : sp < 65536) (hdp : dp < 65536) : addrsAt k (addrBlock src dst sp dp ++ tail) = (src, dst, sp, dp) := by
  have e : addrBlock src dst sp dp ++ tail = src ++ (dst ++ (hi8 sp :: lo8 sp :: hi8 dp :: lo8 dp :: tail)) := by
    simp [addrBlock]
  have g : ∀ i, (src ++ (dst ++ (hi8 sp :: lo8 sp :: hi8 dp :: lo8 dp :: tail))).getD (2 * k + i) 0
      = (hi8 sp :: lo8 sp :: hi8 dp :: lo8 dp :: tail).getD i 0 := fun i => by
    rw [show 2 * k + i = src.length + (dst.length + i) by omega, getD_append_add, getD_append_add]
  unfold addrsAt
  rw [e, List.take_left' hs, List.drop_left' hs, List.take_left' hd, g 1, g 2, g 3, ← Nat.add_zero (2 * k), g 0]
  show (src, dst, be16 (hi8 sp) (lo8 sp), be16 (hi8 dp) (lo8 dp)) = _
  rw [be16_hi_lo sp hsp, be16_hi_lo dp hdp]

theorem tailFree_cases (b13 b14 : UInt8) (len : Nat) (X : Bytes) :
    (X.length < len ∧ tailFree b13 b14 len X = .err) ∨
    (len ≤ X.length ∧ b13 = 0x20 ∧ tailFree b13 b14 len X = .sock (16 + len)) ∨
    (len ≤ X.length ∧ b13 ≠ 0x20 ∧ ∃ s d sp dp, tailFree b13 b14 len X = .hdr b14 s d sp dp (16 + len)) := by
  rw [tailFree_eq]
  by_cases c : X.length < len
  · exact Or.inl ⟨c, if_pos c⟩
  rw [if_neg c]
  by_cases cl : b13 = 0x20
  · exact Or.inr (Or.inl ⟨by omega, cl, if_pos cl⟩)
  rw [if_neg cl]
  refine Or.inr (Or.inr ⟨by omega, cl, ?_⟩)
  cases famK b14 <;> exact ⟨_, _, _, _, rfl⟩

theorem tailFree_ends {b13 b14 : UInt8} {len : Nat} {X : Bytes} :
    tailFree b13 b14 len X = .err ∨ (tailFree b13 b14 len X).consumed = some (16 + len) := by
  rcases tailFree_cases b13 b14 len X with ⟨_, h⟩ | ⟨_, _, h⟩ | ⟨_, _, _, _, _, _, h⟩
  · exact Or.inl h
  · exact Or.inr (by rw [h]; rfl)
  · exact Or.inr (by rw [h]; rfl)

theorem v2Body_local {fam : UInt8} {len : Nat} {X : Bytes} (hf : fam = 0x00 ∨ supportedFam fam = true)
    (hb : len ≤ bufSize) (hl : len ≤ X.length) : v2Body 0x20 fam len X = .sock (16 + len) := by
  have c2 : ¬ (¬ supportedFam fam = true ∧ ¬ ((0x20 : UInt8) = 0x20 ∧ fam = 0x00)) := by
    rcases hf with h | h <;> simp [h]
  unfold v2Body tailFree
  rw [if_neg (by decide), if_neg c2, if_neg (by simp), if_neg (by omega), if_neg (by omega), if_pos rfl]

theorem v2Body_proxy {fam : UInt8} {len : Nat} {X : Bytes} (hs : supportedFam fam = true)
    (hv : validLen fam len = true) (hb : len ≤ bufSize) : v2Body 0x21 fam len X = tailFree 0x21 fam len X := by
  unfold v2Body
  rw [if_neg (by decide), if_neg (by simp [hs]), if_neg (by simp [hv]), if_neg (by omega)]

theorem v2Body_oversize {vc fam : UInt8} {len : Nat} {X : Bytes} (h : bufSize < len) : v2Body vc fam len X = .err := by
  unfold v2Body
  rw [if_pos h]
  simp only [ite_self]

/-- the block is not all there: `Peek(length)` fails -/
theorem v2Body_short {vc fam : UInt8} {len : Nat} {X : Bytes} (h : X.length < len) : v2Body vc fam len X = .err := by
  unfold v2Body tailFree
  rw [if_pos h]
  simp only [ite_self]

theorem specAddrLen_le {fam : UInt8} {len : Nat} (h : validLen fam len = true) : specAddrLen fam ≤ len := by
  unfold validLen at h
  unfold specAddrLen
  by_cases c0 : fam = 0x00
  · rw [if_pos c0]; omega
  rw [if_neg c0]
  by_cases c1 : fam &&& 0xF0 = 0x10
  · rw [if_pos c1] at h ⊢; exact of_decide_eq_true h
  rw [if_neg c1] at h ⊢
  by_cases c2 : fam &&& 0xF0 = 0x20
  · rw [if_pos c2] at h ⊢; exact of_decide_eq_true h
  rw [if_neg c2] at h ⊢
  by_cases c3 : fam &&& 0xF0 = 0x30
  · rw [if_pos c3] at h; have := of_decide_eq_true h; omega
  · rw [if_neg c3] at h; cases h

theorem v2Body_malformed {vc fam : UInt8} {len : Nat} {X : Bytes}
    (hbad : (vc ≠ 0x20 ∧ vc ≠ 0x21) ∨ specFam fam = false ∨ (vc = 0x21 ∧ len < specAddrLen fam)) :
    v2Body vc fam len X = .err := by
  unfold v2Body
  rcases hbad with h | h | ⟨h1, h2⟩
  · rw [if_pos h]
  · have hs : ¬ supportedFam fam = true ∧ ¬ (vc = 0x20 ∧ fam = 0x00) := by
      simp only [specFam, supportedFam, Bool.or_eq_false_iff, beq_eq_false_iff_ne] at h ⊢
      simp [h]
    rw [if_pos hs, ite_self]
  · have hv : ¬ vc = 0x20 ∧ ¬ validLen fam len = true :=
      ⟨by rw [h1]; decide, fun hv => absurd (specAddrLen_le hv) (by omega)⟩
    rw [if_pos hv]
    simp only [ite_self]

theorem v2Body_sound {vc fam : UInt8} {len : Nat} {X : Bytes} (hr : v2Body vc fam len X ≠ .err) :
    len ≤ bufSize ∧ len ≤ X.length ∧ (v2Body vc fam len X).consumed = some (16 + len) ∧
    ((vc = 0x20 ∧ (fam = 0x00 ∨ supportedFam fam = true)) ∨
     (vc = 0x21 ∧ supportedFam fam = true ∧ validLen fam len = true ∧
       ∃ s d sp dp, v2Body vc fam len X = .hdr fam s d sp dp (16 + len))) := by
  unfold v2Body at hr ⊢
  by_cases c1 : vc ≠ 0x20 ∧ vc ≠ 0x21
  · rw [if_pos c1] at hr; exact absurd rfl hr
  rw [if_neg c1] at hr ⊢
  by_cases c2 : ¬ supportedFam fam = true ∧ ¬ (vc = 0x20 ∧ fam = 0x00)
  · rw [if_pos c2] at hr; exact absurd rfl hr
  rw [if_neg c2] at hr ⊢
  by_cases c3 : ¬ vc = 0x20 ∧ ¬ validLen fam len = true
  · rw [if_pos c3] at hr; exact absurd rfl hr
  rw [if_neg c3] at hr ⊢
  by_cases c4 : len > bufSize
  · rw [if_pos c4] at hr; exact absurd rfl hr
  rw [if_neg c4] at hr ⊢
  have hn := tailFree_ends.resolve_left hr
  rcases tailFree_cases vc fam len X with ⟨_, h⟩ | ⟨hl, hvc, _⟩ | ⟨hl, hvc, h⟩
  · exact absurd h hr
  · refine ⟨by omega, hl, hn, Or.inl ⟨hvc, ?_⟩⟩
    by_cases hf : fam = 0x00
    · exact Or.inl hf
    · exact Or.inr (Classical.byContradiction fun hs => c2 ⟨hs, fun h => hf h.2⟩)
  · refine ⟨by omega, hl, hn, Or.inr ⟨?_, ?_, ?_, h⟩⟩
    · exact Classical.byContradiction fun h33 => c1 ⟨hvc, h33⟩
    · exact Classical.byContradiction fun hs => c2 ⟨hs, fun h => hvc h.1⟩
    · exact Classical.byContradiction fun hv => c3 ⟨hvc, hv⟩

theorem encodeV2_length (vc fam : UInt8) (block : Bytes) : (encodeV2 vc fam block).length = 16 + block.length := by
  simp [encodeV2, sigV2]; omega

theorem encodeV2_append (vc fam : UInt8) (block rest : Bytes) :
    encodeV2 vc fam block ++ rest
      = sigV2 ++ vc :: fam :: hi8 block.length :: lo8 block.length :: (block ++ rest) := rfl

theorem readHeader_encodeV2 (env : Env) (vc fam : UInt8) (block rest : Bytes) (a : Bool) (h16 : block.length < 65536) :
    readHeader env (encodeV2 vc fam block ++ rest) a = v2Body vc fam block.length (block ++ rest) := by
  rw [encodeV2_append, readHeader_sigV2, parseV2_cons4, be16_hi_lo _ h16]

theorem readHeader_v2_inet {a : Bool} (env : Env) (fam : UInt8) (k : Nat) (w : Bytes → Bytes)
    (src dst : Bytes) (sp dp : Nat) (tlv rest : Bytes) (hk : famK fam = some (k, w)) (hsup : supportedFam fam = true)
    (hs : src.length = k) (hd : dst.length = k) (hsp : sp < 65536) (hdp : dp < 65536)
    (hlen : 2 * k + 4 + tlv.length ≤ bufSize) :
    readHeader env (encodeV2 0x21 fam (addrBlock src dst sp dp ++ tlv) ++ rest) a
      = .hdr fam (some (w src)) (some (w dst)) sp dp (encodeV2 0x21 fam (addrBlock src dst sp dp ++ tlv)).length := by
  have hbl : (addrBlock src dst sp dp ++ tlv).length = 2 * k + 4 + tlv.length := by
    simp [addrBlock, hs, hd]; omega
  have hb : bufSize = 4096 := rfl
  rw [encodeV2_length, readHeader_encodeV2 _ _ _ _ _ _ (by omega), hbl,
    v2Body_proxy hsup ((validLen_famK hk).mpr (by omega)) hlen, tailFree_eq,
    if_neg (by rw [List.length_append, hbl]; omega), if_neg (by decide), hk]
  dsimp only
  rw [List.append_assoc, addrsAt_addrBlock k _ _ _ _ _ hs hd hsp hdp]

theorem readHeader_v2_local {a : Bool} (env : Env) (fam : UInt8) (block rest : Bytes)
    (hf : fam = 0x00 ∨ supportedFam fam = true) (hlen : block.length ≤ bufSize) :
    readHeader env (encodeV2 0x20 fam block ++ rest) a = .sock (encodeV2 0x20 fam block).length := by
  have hb : bufSize = 4096 := rfl
  rw [encodeV2_length, readHeader_encodeV2 _ _ _ _ _ _ (by omega), v2Body_local hf hlen (by rw [List.length_append]; omega)]

theorem readLine_append (x rest : Bytes) (h : ∀ b ∈ x, b ≠ 0x0A) :
    readLine (x ++ 0x0A :: rest) = some (x ++ [0x0A]) := by
  induction x with
  | nil => simp [readLine]
  | cons b t ih =>
    obtain ⟨hb, ht⟩ := List.forall_mem_cons.mp h
    simp [readLine, hb, ih ht]

theorem readLine_some {s l : Bytes} (h : readLine s = some l) :
    ∃ x rest, (∀ b ∈ x, b ≠ 0x0A) ∧ l = x ++ [0x0A] ∧ s = x ++ 0x0A :: rest := by
  induction s generalizing l with
  | nil => cases h
  | cons c t ih =>
    rw [readLine] at h
    by_cases hc : c = 0x0A
    · rw [if_pos hc] at h
      obtain rfl := Option.some.inj h
      exact ⟨[], t, nofun, by rw [hc]; rfl, by rw [hc]; rfl⟩
    · rw [if_neg hc] at h
      obtain ⟨l', ht, rfl⟩ := Option.map_eq_some_iff.mp h
      obtain ⟨x, rest, hx, rfl, rfl⟩ := ih ht
      exact ⟨c :: x, rest, List.forall_mem_cons.mpr ⟨hc, hx⟩, rfl, rfl⟩

theorem readLine_append_some {b line : Bytes} (y : Bytes) (h : readLine b = some line) : readLine (b ++ y) = some line := by
  obtain ⟨x, rest, hx, rfl, rfl⟩ := readLine_some h
  rw [List.append_assoc, List.cons_append]
  exact readLine_append x _ hx

theorem readLine_length_le {b line : Bytes} (h : readLine b = some line) : line.length ≤ b.length := by
  obtain ⟨x, rest, _, rfl, rfl⟩ := readLine_some h
  simp

theorem readLine_append_none (b y : Bytes) (h : readLine b = none) :
    readLine (b ++ y) = (readLine y).map (b ++ ·) := by
  induction b with
  | nil => simp
  | cons x t ih =>
    rw [List.cons_append, readLine]
    rw [readLine] at h
    by_cases hx : x = 0x0A
    · rw [if_pos hx] at h; cases h
    · rw [if_neg hx] at h ⊢
      rw [ih (Option.map_eq_none_iff.mp h)]
      cases readLine y <;> rfl

theorem readLine_of_take (s : Bytes) (k : Nat) (l : Bytes) (h : readLine (s.take k) = some l) : readLine s = some l := by
  rw [← List.take_append_drop k s]; exact readLine_append_some _ h

theorem readLine_take_none (s : Bytes) (k : Nat) (h : readLine s = none) : readLine (s.take k) = none := by
  cases h' : readLine (s.take k) with
  | none => rfl
  | some l => rw [readLine_of_take s k l h'] at h; cases h

theorem readLine_take_some (s : Bytes) (k : Nat) (l : Bytes) (h : readLine s = some l) (hk : l.length ≤ k) :
    readLine (s.take k) = some l := by
  obtain ⟨x, rest, hx, rfl, rfl⟩ := readLine_some h
  rw [show x ++ 0x0A :: rest = (x ++ [0x0A]) ++ rest by simp, take_append_of_length_le _ _ _ hk, List.append_assoc]
  exact readLine_append x _ hx

theorem splitSp_ne_nil (l : Bytes) : splitSp l ≠ [] := by
  induction l with
  | nil => simp [splitSp]
  | cons b t ih =>
    unfold splitSp
    split
    · simp
    · split <;> simp

theorem splitSp_tok (t r : Bytes) (h : ∀ b ∈ t, b ≠ 0x20) :
    splitSp (t ++ 0x20 :: r) = t :: splitSp r := by
  induction t with
  | nil => simp [splitSp]
  | cons b t ih =>
    obtain ⟨hb, ht⟩ := List.forall_mem_cons.mp h
    simp [splitSp, hb, ih ht]

theorem splitSp_last (t : Bytes) (h : ∀ b ∈ t, b ≠ 0x20) : splitSp t = [t] := by
  induction t with
  | nil => simp [splitSp]
  | cons b t ih =>
    obtain ⟨hb, ht⟩ := List.forall_mem_cons.mp h
    simp [splitSp, hb, ih ht]

def Tok (t : Bytes) : Prop := ∀ b ∈ t, b ≠ 0x20 ∧ b ≠ 0x0A

theorem Tok.sp {t : Bytes} (h : Tok t) : ∀ b ∈ t, b ≠ 0x20 := fun b hb => (h b hb).1
theorem Tok.lf {t : Bytes} (h : Tok t) : ∀ b ∈ t, b ≠ 0x0A := fun b hb => (h b hb).2

theorem tok_sigV1 : Tok sigV1 := by unfold Tok; decide
theorem tok_TCP4 : Tok tokTCP4 := by unfold Tok; decide
theorem tok_TCP6 : Tok tokTCP6 := by unfold Tok; decide
theorem tok_UNKNOWN : Tok tokUNKNOWN := by unfold Tok; decide

/-- strict decimal port text is what `strconv.Atoi` + range check reads back -/
theorem goPort_of_specPort {t : Bytes} {n : Nat} (h : specPort t = some n) : goPort t = some n := by
  unfold specPort at h
  by_cases hc : (t.isEmpty || decide (t.length > 5) || !t.all isDigit) = true
  · rw [if_pos hc] at h; cases h
  rw [if_neg hc] at h
  simp only [Bool.or_eq_true, Bool.not_eq_true', not_or, Bool.not_eq_true, Bool.not_eq_false] at hc
  obtain ⟨⟨hne, _⟩, hall⟩ := hc
  cases t with
  | nil => simp at hne
  | cons b r =>
    have hb : isDigit b = true := (List.all_cons.symm.trans hall |> Bool.and_eq_true_iff.mp).1
    have h2b : b ≠ 0x2B := by intro hh; subst hh; simp [isDigit] at hb
    have h2d : b ≠ 0x2D := by intro hh; subst hh; simp [isDigit] at hb
    unfold goPort
    split
    · rename_i heq; exact absurd (List.cons.inj heq).1 h2b   -- `'+' :: _`
    · rename_i heq; exact absurd (List.cons.inj heq).1 h2d   -- `'-' :: _`
    · simpa [goPortAbs, hall] using h   -- no sign

theorem parseV1IP_ok {env : Env} {fam : UInt8} {a ia : Bytes} (hia : env.parseIP a = some ia)
    (h : (fam = 0x11 ∧ isV4Mapped ia = true) ∨ (fam = 0x21 ∧ isV4Mapped ia = false)) :
    parseV1IP env fam a = some (some ia) := by
  rcases h with ⟨rfl, hm⟩ | ⟨rfl, hm⟩ <;> simp [parseV1IP, hia, hm]

theorem parseV1_line (env : Env) (Y rest : Bytes) (hY : ∀ b ∈ Y, b ≠ 0x0A) :
    parseV1 env (Y ++ 0x0D :: 0x0A :: rest) = parseToks env (splitSp Y) (Y.length + 2) := by
  have e1 : Y ++ 0x0D :: 0x0A :: rest = (Y ++ [0x0D]) ++ 0x0A :: rest := by simp
  have hY' : ∀ b ∈ Y ++ [0x0D], b ≠ 0x0A := by
    simp only [List.forall_mem_append, List.forall_mem_singleton]
    exact ⟨hY, by decide⟩
  unfold parseV1
  rw [e1, readLine_append _ _ hY']
  have hlen : ((Y ++ [0x0D]) ++ [0x0A]).length = Y.length + 2 := by simp
  have hget : ((Y ++ [0x0D]) ++ [0x0A]).getD (Y.length + 2 - 2) 0 = 0x0D := by
    simp [List.getD_eq_getElem?_getD]
  have htake : ((Y ++ [0x0D]) ++ [0x0A]).take (Y.length + 2 - 2) = Y := by
    simp [List.append_assoc]
  simp only [hlen, hget, htake]
  rw [if_neg fun h => h.elim (fun h => by omega) fun h => h rfl]

theorem readHeader_v1_line {a : Bool} (env : Env) {enc Y : Bytes} (rest : Bytes) (henc : enc = Y ++ [CR, LF])
    (hsig : Y.take 5 = sigV1) (hY : ∀ b ∈ Y, b ≠ 0x0A) :
    readHeader env (enc ++ rest) a = parseToks env (splitSp Y) enc.length := by
  have h5 : 5 ≤ Y.length := take_length_le hsig
  subst henc
  rw [List.append_assoc, List.length_append]
  show readHeader env (Y ++ 0x0D :: 0x0A :: rest) a = parseToks env (splitSp Y) (Y.length + 2)
  rw [← parseV1_line env Y rest hY]
  exact readHeader_sigV1 env _ a (by rw [List.take_append_of_le_length h5]; exact hsig)

/-- the family byte `parseVersion1` derives from the protocol token -/
def v1Fam (p : Bytes) : UInt8 := if p = tokTCP4 then 0x11 else if p = tokTCP6 then 0x21 else 0x00

theorem readHeader_v1_tcp {ae : Bool} (env : Env) {proto a b p q : Bytes} (rest : Bytes) {ia ib : Option Bytes} {sp dp : Nat}
    (hpr : Tok proto) (hne : proto ≠ tokUNKNOWN) (ha : Tok a) (hb : Tok b) (hp : Tok p) (hq : Tok q)
    (hia : parseV1IP env (v1Fam proto) a = some ia) (hib : parseV1IP env (v1Fam proto) b = some ib)
    (hsp : goPort p = some sp) (hdp : goPort q = some dp) :
    readHeader env (encodeV1 proto a b p q ++ rest) ae
      = .hdr (v1Fam proto) ia ib sp dp (encodeV1 proto a b p q).length := by
  obtain ⟨Y, hY⟩ : ∃ Y, Y = sigV1 ++ SP :: (proto ++ SP :: (a ++ SP :: (b ++ SP :: (p ++ SP :: q)))) := ⟨_, rfl⟩
  have henc : encodeV1 proto a b p q = Y ++ [CR, LF] := by simp [hY, encodeV1, List.append_assoc]
  have hlf : ∀ x ∈ Y, x ≠ 0x0A := by
    simp only [hY, SP, List.forall_mem_append, List.forall_mem_cons]
    exact ⟨tok_sigV1.lf, by decide, hpr.lf, by decide, ha.lf, by decide, hb.lf, by decide, hp.lf, by decide, hq.lf⟩
  have hsplit : splitSp Y = [sigV1, proto, a, b, p, q] := by
    rw [hY]; unfold SP
    rw [splitSp_tok _ _ tok_sigV1.sp, splitSp_tok _ _ hpr.sp, splitSp_tok _ _ ha.sp, splitSp_tok _ _ hb.sp,
      splitSp_tok _ _ hp.sp, splitSp_last _ hq.sp]
  rw [readHeader_v1_line env rest henc (by rw [hY]; rfl) hlf, hsplit]
  unfold v1Fam at hia hib ⊢
  simp [parseToks, hne, hia, hib, hsp, hdp]

theorem readHeader_v1_unknown {a : Bool} (env : Env) (junk rest : Bytes)
    (hj : junk = [] ∨ ∃ j, junk = 0x20 :: j) (hlf : ∀ b ∈ junk, b ≠ 0x0A) :
    readHeader env (encodeV1Unknown junk ++ rest) a = .sock (encodeV1Unknown junk).length := by
  have heq : encodeV1Unknown junk = (sigV1 ++ 0x20 :: (tokUNKNOWN ++ junk)) ++ [CR, LF] := by
    simp [encodeV1Unknown, SP, List.append_assoc]
  have hY : ∀ b ∈ sigV1 ++ 0x20 :: (tokUNKNOWN ++ junk), b ≠ 0x0A := by
    simp only [List.forall_mem_append, List.forall_mem_cons]
    exact ⟨tok_sigV1.lf, by decide, tok_UNKNOWN.lf, hlf⟩
  obtain ⟨ts, hts⟩ : ∃ ts, splitSp (tokUNKNOWN ++ junk) = tokUNKNOWN :: ts := by
    rcases hj with rfl | ⟨j, rfl⟩
    · exact ⟨[], by rw [List.append_nil, splitSp_last _ tok_UNKNOWN.sp]⟩
    · exact ⟨_, splitSp_tok _ _ tok_UNKNOWN.sp⟩
  rw [readHeader_v1_line env rest heq rfl hY, splitSp_tok _ _ tok_sigV1.sp, hts]
  simp [parseToks]

theorem parseV1IP_some {env : Env} {fam : UInt8} {tok : Bytes} {a : Option Bytes}
    (h : parseV1IP env fam tok = some a) : env.parseIP tok = a :=
  Option.some.inj (Option.ite_none_left_eq_some.mp h).2

theorem parseToks_cases (env : Env) (toks : List Bytes) (n : Nat) :
    parseToks env toks n = .err ∨
    (toks.length ≥ 2 ∧ toks.getD 1 [] = tokUNKNOWN ∧ parseToks env toks n = .sock n) ∨
    (6 ≤ toks.length ∧ ∃ s d sp dp,
      parseV1IP env (v1Fam (toks.getD 1 [])) (toks.getD 2 []) = some s ∧
      parseV1IP env (v1Fam (toks.getD 1 [])) (toks.getD 3 []) = some d ∧
      goPort (toks.getD 4 []) = some sp ∧ goPort (toks.getD 5 []) = some dp ∧
      parseToks env toks n = .hdr (v1Fam (toks.getD 1 [])) s d sp dp n) := by
  unfold parseToks
  by_cases hu : toks.length ≥ 2 ∧ toks.getD 1 [] = tokUNKNOWN
  · rw [if_pos hu]; exact Or.inr (Or.inl ⟨hu.1, hu.2, rfl⟩)
  rw [if_neg hu]
  by_cases h6 : toks.length < 6
  · rw [if_pos h6]; exact Or.inl rfl
  rw [if_neg h6]
  dsimp only
  rw [← v1Fam]  -- the `if` on the protocol token, folded back
  rcases parseV1IP env (v1Fam (toks.getD 1 [])) (toks.getD 2 []) with _ | s
  · exact Or.inl rfl
  rcases parseV1IP env (v1Fam (toks.getD 1 [])) (toks.getD 3 []) with _ | d
  · exact Or.inl rfl
  rcases goPort (toks.getD 4 []) with _ | sp
  · exact Or.inl rfl
  rcases goPort (toks.getD 5 []) with _ | dp
  · exact Or.inl rfl
  exact Or.inr (Or.inr ⟨by omega, s, d, sp, dp, rfl, rfl, rfl, rfl, rfl⟩)

theorem parseToks_open (env : Env) (toks : List Bytes) (n : Nat) (st : Bytes) (e : EndK)
    (h : (connOf (parseToks env toks n) st e).closed = false) :
    (toks.length ≥ 2 ∧ toks.getD 1 [] = tokUNKNOWN) ∨
    (6 ≤ toks.length ∧ ∃ ia ib sp dp,
      env.parseIP (toks.getD 2 []) = some ia ∧ env.parseIP (toks.getD 3 []) = some ib ∧
      goPort (toks.getD 4 []) = some sp ∧ goPort (toks.getD 5 []) = some dp ∧
      ((toks.getD 1 [] = tokTCP4 ∧ isV4Mapped ia = true ∧ isV4Mapped ib = true) ∨
       (toks.getD 1 [] = tokTCP6 ∧ isV4Mapped ia = false ∧ isV4Mapped ib = false))) := by
  rcases parseToks_cases env toks n with hr | ⟨h2, hu, _⟩ | ⟨h6, s, d, sp, dp, hs, hd, hsp, hdp, hr⟩
  · rw [hr] at h; cases h
  · exact Or.inl ⟨h2, hu⟩
  rw [hr] at h
  rcases connOf_hdr _ s d sp dp n st e with ⟨_, hc⟩ | ⟨x, y, hrs, hrd, _⟩
  · rw [hc] at h; cases h
  obtain ⟨ia, rfl, ff, ma⟩ := resolve_some hrs
  obtain ⟨ib, rfl, _, mb⟩ := resolve_some hrd
  refine Or.inr ⟨h6, ia, ib, sp, dp, parseV1IP_some hs, parseV1IP_some hd, hsp, hdp, ?_⟩
  unfold v1Fam at ff ma mb
  by_cases h4 : toks.getD 1 [] = tokTCP4
  · rw [if_pos h4] at ma mb; exact Or.inl ⟨h4, ma, mb⟩
  rw [if_neg h4] at ff ma mb
  by_cases h6' : toks.getD 1 [] = tokTCP6
  · rw [if_pos h6'] at ma mb; exact Or.inr ⟨h6', ma, mb⟩
  · rw [if_neg h6'] at ff; rcases ff with c | c <;> exact absurd c (by decide)

/-- address text without a colon is IPv4 text: `net.ParseIP` maps it to a v4(-mapped) address -/
def EnvOK (env : Env) : Prop :=
  ∀ t ip, env.parseIP t = some ip → hasByte t 0x3A = false → isV4Mapped ip = true

def lenientV1 : List String := ["v1-overlong", "v1-sig-suffix", "v1-extra-token", "v1-port-syntax", "v1-addr-syntax"]

/-- accepted by the specification side too, or one of the classes in which the code is lenient (known findings) -/
def V1OK (sv : Expect × String) : Prop := sv.1 ≠ .reject ∨ sv.2 ∈ lenientV1

theorem V1OK.lenient {e : Expect} {cls : String} (h : cls ∈ lenientV1) : V1OK (e, cls) := Or.inr h

theorem V1OK_ite {c : Prop} [Decidable c] {x y : Expect × String} (hx : c → V1OK x) (hy : ¬ c → V1OK y) :
    V1OK (if c then x else y) := by
  by_cases h : c
  · rw [if_pos h]; exact hx h
  · rw [if_neg h]; exact hy h

/-- Walks `specV1`'s tests in order: at each the class is lenient, or no reject, or `hopen` refutes the test.
    `107 ≤ L`: the limit does not cut the longest line the specification allows. -/
theorem specV1_of_open (env : Env) (stream : Bytes) (L : Nat) (hok : EnvOK env)
    (hL : 107 ≤ L) (st : Bytes) (e : EndK) (hopen : (connOf (parseV1 env (stream.take L)) st e).closed = false) :
    V1OK (specV1 env stream) := by
  have h107 : (stream.take L).take 107 = stream.take 107 := by rw [List.take_take, Nat.min_eq_left hL]
  unfold parseV1 at hopen
  unfold specV1 CR
  rcases hl107 : readLine (stream.take 107) with _ | line
  · dsimp only
    rcases hn : readLine stream with _ | l
    · rw [readLine_take_none _ _ hn] at hopen; cases hopen   -- "v1-noline"
    · exact .lenient (show "v1-overlong" ∈ lenientV1 by simp [lenientV1])
  dsimp only
  rw [readLine_of_take _ 107 line (by rw [h107]; exact hl107)] at hopen
  dsimp only at hopen
  refine V1OK_ite (fun hcr => by rw [if_pos hcr] at hopen; cases hopen) fun hcr => ?_   -- "v1-nocr"
  rw [if_neg hcr] at hopen
  generalize splitSp (List.take (line.length - 2) line) = toks at hopen ⊢
  generalize line.length = n at hopen ⊢
  refine V1OK_ite (fun _ => .lenient (show "v1-sig-suffix" ∈ lenientV1 by simp [lenientV1])) fun _ => ?_
  refine V1OK_ite (fun _ => Or.inl nofun) fun hnu => ?_   -- "v1-unknown"
  refine V1OK_ite (fun _ => .lenient (show "v1-extra-token" ∈ lenientV1 by simp [lenientV1])) fun _ => ?_
  rcases parseToks_open env toks n st e hopen with hu | ⟨h6, ia, ib, sp, dp, hia, hib, _, _, hfam⟩
  · exact absurd hu hnu
  -- "v1-few-tokens", "v1-proto"
  rw [if_neg (by omega), if_neg fun ⟨n4, n6⟩ => hfam.elim (fun h => n4 h.1) fun h => n6 h.1]
  have hps : V1OK (Expect.reject, "v1-port-syntax") := .lenient (by simp [lenientV1])
  rcases specPort (toks.getD 4 []) with _ | sp'
  · exact hps
  rcases specPort (toks.getD 5 []) with _ | dp'
  · exact hps
  dsimp only
  rw [hia, hib]   -- "v1-bad-addr"
  dsimp only
  rcases hfam with ⟨h4, _, _⟩ | ⟨h6', ma, mb⟩
  · rw [if_pos h4]
    exact V1OK_ite (fun _ => .lenient (show "v1-addr-syntax" ∈ lenientV1 by simp [lenientV1])) fun _ => Or.inl nofun
  · rw [if_neg (by rw [h6']; decide)]
    refine V1OK_ite (fun c => ?_) fun _ => Or.inl nofun
    -- "v1-addr-family": colon-free text is IPv4 (`hok`), which the code refuses under TCP6
    rcases (Bool.or_eq_true _ _).mp c with hc | hc
    · have := hok _ _ hia (by simpa using hc)
      rw [ma] at this; cases this
    · have := hok _ _ hib (by simpa using hc)
      rw [mb] at this; cases this

end BfeVerif.C46
