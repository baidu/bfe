import BfeVerif.C46.Proofs
import BfeVerif.C46.SegProofs
/-! C46 — PROXY protocol headers are parsed per specification. -/
namespace BfeVerif.C46

/-- a header as a spec-conformant sender describes it (v1: the rendered tokens and the values they denote) -/
inductive Hdr
  | v1tcp4 (a b p q : Bytes) (ia ib : Bytes) (sp dp : Nat)
  | v1tcp6 (a b p q : Bytes) (ia ib : Bytes) (sp dp : Nat)
  | v1unknown (junk : Bytes)
  | v2tcp4 (src dst : Bytes) (sp dp : Nat) (tlv : Bytes)
  | v2tcp6 (src dst : Bytes) (sp dp : Nat) (tlv : Bytes)
  | v2local (fam : UInt8) (block : Bytes)

/-- the bytes the sender puts on the wire (spec side) -/
def Hdr.encode : Hdr → Bytes
  | .v1tcp4 a b p q _ _ _ _ => encodeV1 tokTCP4 a b p q
  | .v1tcp6 a b p q _ _ _ _ => encodeV1 tokTCP6 a b p q
  | .v1unknown junk => encodeV1Unknown junk
  | .v2tcp4 src dst sp dp tlv => encodeV2 0x21 0x11 (addrBlock src dst sp dp ++ tlv)
  | .v2tcp6 src dst sp dp tlv => encodeV2 0x21 0x21 (addrBlock src dst sp dp ++ tlv)
  | .v2local fam block => encodeV2 0x20 fam block

/-- what `RemoteAddr()` / `VirtualAddr()` must report (`none` = the real socket address / nil) -/
def Hdr.addrs : Hdr → Option Addr × Option Addr
  | .v1tcp4 _ _ _ _ ia ib sp dp => (some ⟨ia, sp⟩, some ⟨ib, dp⟩)
  | .v1tcp6 _ _ _ _ ia ib sp dp => (some ⟨ia, sp⟩, some ⟨ib, dp⟩)
  | .v1unknown _ => (none, none)
  | .v2tcp4 src dst sp dp _ => (some ⟨to16 src, sp⟩, some ⟨to16 dst, dp⟩)
  | .v2tcp6 src dst sp dp _ => (some ⟨src, sp⟩, some ⟨dst, dp⟩)
  | .v2local _ _ => (none, none)

/-- conformance to the protocol text (`env.parseIP` = inet_pton reads the address tokens) -/
def Hdr.Conformant (env : Env) : Hdr → Prop
  | .v1tcp4 a b p q ia ib sp dp =>
      Tok a ∧ Tok b ∧ Tok p ∧ Tok q ∧ env.parseIP a = some ia ∧ env.parseIP b = some ib ∧
      isV4Mapped ia = true ∧ isV4Mapped ib = true ∧ specPort p = some sp ∧ specPort q = some dp
  | .v1tcp6 a b p q ia ib sp dp =>
      Tok a ∧ Tok b ∧ Tok p ∧ Tok q ∧ env.parseIP a = some ia ∧ env.parseIP b = some ib ∧
      specPort p = some sp ∧ specPort q = some dp
  | .v1unknown junk =>
      (junk = [] ∨ ∃ j, junk = 0x20 :: j) ∧ (∀ b ∈ junk, b ≠ 0x0A) ∧ (encodeV1Unknown junk).length ≤ 107
  | .v2tcp4 src dst sp dp tlv =>
      src.length = 4 ∧ dst.length = 4 ∧ sp < 65536 ∧ dp < 65536 ∧ 12 + tlv.length < 65536
  | .v2tcp6 src dst sp dp tlv =>
      src.length = 16 ∧ dst.length = 16 ∧ sp < 65536 ∧ dp < 65536 ∧ 36 + tlv.length < 65536
  | .v2local fam block => (fam = 0x00 ∨ supportedFam fam = true) ∧ block.length < 65536

/-- the part of the quantifier on which the code is right: excludes exactly the recorded defects -/
def Hdr.Supported : Hdr → Prop
  | .v1tcp4 .. => True
  | .v1tcp6 _ _ _ _ ia ib _ _ => isV4Mapped ia = false ∧ isV4Mapped ib = false
  | .v1unknown _ => True
  | .v2tcp4 _ _ _ _ tlv => 12 + tlv.length ≤ bufSize
  | .v2tcp6 src dst _ _ tlv => 36 + tlv.length ≤ bufSize ∧ isV4Mapped src = false ∧ isV4Mapped dst = false
  | .v2local _ block => block.length ≤ bufSize

def acceptObs (ad : Option Addr × Option Addr) (pay : Bytes) (e : EndK) : Obs :=
  { src := ad.1, dst := ad.2, data := pay, fin := finOf e, closed := false }

/-- **full statement** (false for bfe with and without fix "C46-proxy-local-unknown", see the witnesses):
    every conformant header that fits the configured header limit is honoured -/
def C46_spec_roundtrip_full : Prop :=
  ∀ (env : Env) (h : Hdr) (pay : Bytes) (limit : Nat) (e : EndK),
    h.Conformant env → h.encode.length ≤ effLimit limit →
    connRun env (h.encode ++ pay) limit e = acceptObs h.addrs pay e

/-- **Completeness**: every header a conformant sender produces (v1 TCP4/TCP6/UNKNOWN, v2 PROXY over TCP4/TCP6 with any
    TLV tail, v2 LOCAL with any family and any block), followed by ANY payload, makes the connection report exactly the
    advertised addresses (socket addresses for LOCAL/UNKNOWN) and hands the payload over unchanged — for headers within
    the configured header limit and under `Supported`, which excludes the two defects left in the code (block >
    4096-byte bufio buffer, IPv4-mapped addresses under TCP6); each exclusion has a theorem showing the full statement
    fails there. -/
theorem C46_spec_roundtrip_partial (env : Env) (h : Hdr) (pay : Bytes) (limit : Nat) (e : EndK)
    (hc : h.Conformant env) (hs : h.Supported) (hl : h.encode.length ≤ effLimit limit) :
    connRun env (h.encode ++ pay) limit e = acceptObs h.addrs pay e := by
  cases h with
  | v1tcp4 a b p q ia ib sp dp =>
    obtain ⟨ha, hb, hp, hq, hia, hib, hma, hmb, hsp, hdp⟩ := hc
    exact connRun_accept pay e hl
      (fun rest _ => readHeader_v1_tcp env rest tok_TCP4 (by decide) ha hb hp hq
        (parseV1IP_ok hia (Or.inl ⟨rfl, hma⟩)) (parseV1IP_ok hib (Or.inl ⟨rfl, hmb⟩))
        (goPort_of_specPort hsp) (goPort_of_specPort hdp))
      (resolve_tcp4 hma) (resolve_tcp4 hmb)
  | v1tcp6 a b p q ia ib sp dp =>
    obtain ⟨ha, hb, hp, hq, hia, hib, hsp, hdp⟩ := hc
    obtain ⟨hma, hmb⟩ := hs
    exact connRun_accept pay e hl
      (fun rest _ => readHeader_v1_tcp env rest tok_TCP6 (by decide) ha hb hp hq
        (parseV1IP_ok hia (Or.inr ⟨rfl, hma⟩)) (parseV1IP_ok hib (Or.inr ⟨rfl, hmb⟩))
        (goPort_of_specPort hsp) (goPort_of_specPort hdp))
      (resolve_tcp6 hma) (resolve_tcp6 hmb)
  | v1unknown junk =>
    obtain ⟨hj, hlf, _⟩ := hc
    exact connRun_sock pay e hl fun rest _ => readHeader_v1_unknown env junk rest hj hlf
  | v2tcp4 src dst sp dp tlv =>
    obtain ⟨h4s, h4d, hsp, hdp, _⟩ := hc
    exact connRun_accept pay e hl
      (fun rest _ => readHeader_v2_inet env 0x11 4 to16 src dst sp dp tlv rest rfl rfl h4s h4d hsp hdp hs)
      (resolve_tcp4 (isV4Mapped_to16 src h4s)) (resolve_tcp4 (isV4Mapped_to16 dst h4d))
  | v2tcp6 src dst sp dp tlv =>
    obtain ⟨h6s, h6d, hsp, hdp, _⟩ := hc
    obtain ⟨hb, hms, hmd⟩ := hs
    exact connRun_accept pay e hl
      (fun rest _ => readHeader_v2_inet env 0x21 16 id src dst sp dp tlv rest rfl rfl h6s h6d hsp hdp hb)
      (resolve_tcp6 hms) (resolve_tcp6 hmd)
  | v2local fam block =>
    exact connRun_sock pay e hl fun rest _ => readHeader_v2_local env fam block rest hc.1 hs

/-- known finding `v2-len-gt-buffer`: a block longer than bfe_bufio's 4096-byte buffer is rejected whatever the limit -/
theorem C46_v2_oversize_rejected (env : Env) (vc fam : UInt8) (block pay : Bytes) (limit : Nat) (e : EndK)
    (hlen : bufSize < block.length) (h16 : block.length < 65536)
    (hl : (encodeV2 vc fam block).length ≤ effLimit limit) :
    connRun env (encodeV2 vc fam block ++ pay) limit e = rejectObs none := by
  rw [connRun_prefix pay e hl fun rest a => by
    rw [readHeader_encodeV2 env vc fam block rest a h16, v2Body_oversize hlen]]
  rfl

theorem C46_witness_v2_oversize : ¬ C46_spec_roundtrip_full := by
  intro hfull
  obtain ⟨blk, hblk⟩ : ∃ blk : Bytes, blk.length = 4097 := ⟨List.replicate 4097 0, List.length_replicate ..⟩
  have hc : (Hdr.v2local 0x00 blk).Conformant ⟨fun _ => none⟩ := by
    simp [Hdr.Conformant, hblk]
  have h1 := hfull ⟨fun _ => none⟩ (.v2local 0x00 blk) [] 70000 .eof hc
    (by simp [Hdr.encode, encodeV2_length, effLimit, hblk])
  have h2 := C46_v2_oversize_rejected ⟨fun _ => none⟩ 0x20 0x00 blk [] 70000 .eof
    (by simp [bufSize, hblk]) (by simp [hblk]) (by simp [encodeV2_length, effLimit, hblk])
  simp only [Hdr.encode] at h1
  rw [h2] at h1
  simp [rejectObs, acceptObs] at h1

/-- known finding `v2-tcp6-v4mapped`: TCP over IPv6 with an IPv4-mapped source (what a dual-stack haproxy
    listener sends for an IPv4 client) is rejected -/
theorem C46_witness_v2_tcp6_mapped :
    connRun ⟨fun _ => none⟩
      (encodeV2 0x21 0x21 (addrBlock (to16 [1, 2, 3, 4]) (List.replicate 15 0 ++ [1]) 1000 443) ++ [0x68, 0x69]) 0 .eof
      = rejectObs none := by decide +kernel

/-- known finding `v1-tcp6-v4mapped` -/
theorem C46_witness_v1_tcp6_mapped :
    connRun ⟨fun _ => some (to16 [1, 2, 3, 4])⟩
      (encodeV1 tokTCP6 [0x3A, 0x3A, 0x31] [0x3A, 0x3A, 0x31] [0x31] [0x32] ++ [0x68, 0x69]) 0 .eof
      = rejectObs none := by decide +kernel

/-- a connection bfe ends never delivered a byte to the application (all header errors, including a failed
    address resolution, which sets `headerErr` since fix "C46-proxy-local-unknown") -/
theorem C46_malformed_closes_no_data (env : Env) (s : Bytes) (limit : Nat) (e : EndK)
    (h : (connRun env s limit e).closed = true) :
    (connRun env s limit e).data = [] ∧ (connRun env s limit e).dst = none :=
  connOf_closed h

/-- v2: wrong version/command byte, unassigned family byte, or (PROXY command) a length smaller than the
    address block of the family ⇒ rejected -/
theorem C46_malformed_closes_v2 (env : Env) (vc fam : UInt8) (block pay : Bytes) (limit : Nat) (e : EndK)
    (h16 : block.length < 65536) (hl : (encodeV2 vc fam block).length ≤ effLimit limit)
    (hbad : (vc ≠ 0x20 ∧ vc ≠ 0x21) ∨ specFam fam = false ∨ (vc = 0x21 ∧ block.length < specAddrLen fam)) :
    connRun env (encodeV2 vc fam block ++ pay) limit e = rejectObs none := by
  rw [connRun_prefix pay e hl fun rest a => by
    rw [readHeader_encodeV2 env vc fam block rest a h16, v2Body_malformed hbad]]
  rfl

/-- **v2, malformed never accepted**: if a stream that begins with the v2 signature is not rejected (header limit
    at least the 16-byte v2 prefix), then it IS the spec encoding of a well-formed header (version 2, command
    LOCAL/PROXY, assigned family, length covering the address block, whole block present) followed by some payload,
    and exactly that payload is handed over — or it is the legacy 13-byte LOCAL form `sig 20` with the peer closing
    right behind it, in which case nothing is handed over (kept for bfe's existing test fixture). -/
theorem C46_malformed_closes_v2_sound (env : Env) (t : Bytes) (limit : Nat) (e : EndK)
    (hlim : 16 ≤ effLimit limit)
    (hopen : (connRun env (sigV2 ++ t) limit e).closed = false) :
    (t = [0x20] ∧ e = .eof ∧ (connRun env (sigV2 ++ t) limit e).data = []) ∨
    ∃ vc fam block pay,
      sigV2 ++ t = encodeV2 vc fam block ++ pay ∧ block.length < 65536 ∧
      ((vc = 0x20 ∧ (fam = 0x00 ∨ supportedFam fam = true)) ∨
       (vc = 0x21 ∧ supportedFam fam = true ∧ validLen fam block.length = true)) ∧
      (connRun env (sigV2 ++ t) limit e).data = pay := by
  by_cases ht : t.length < 4
  · rw [connRun_v2_short env t limit e ht hlim] at hopen ⊢
    by_cases c : t = [0x20] ∧ e = .eof
    · rw [if_pos c]; exact Or.inl ⟨c.1, c.2, rfl⟩
    · rw [if_neg c] at hopen; cases hopen
  · right
    obtain ⟨vc, fam, hi, lo, Z, rfl⟩ := exists_cons4 t ht
    rw [connRun_v2 env vc fam hi lo Z limit e hlim] at hopen ⊢
    obtain ⟨hb, hl, hn, hcase⟩ := v2Body_sound fun hh => by rw [hh] at hopen; cases hopen
    rw [List.length_take] at hl
    have hlen : (Z.take (be16 hi lo)).length = be16 hi lo := by rw [List.length_take]; omega
    refine ⟨vc, fam, Z.take (be16 hi lo), Z.drop (be16 hi lo), ?_, by unfold bufSize at hb; omega, ?_, ?_⟩
    · rw [encodeV2_append, hlen, (hi8_lo8_be16 hi lo).1, (hi8_lo8_be16 hi lo).2, List.take_append_drop]
    · rw [hlen]
      exact hcase.imp id fun ⟨hvc, hs, hv, _⟩ => ⟨hvc, hs, hv⟩
    · rw [connOf_open hopen, hn]
      exact drop_v2_prefix vc fam hi lo Z _

/-- the legacy 13-byte LOCAL form followed by EOF is accepted with the socket addresses and an empty payload;
    followed by silence it is rejected -/
theorem C46_legacy_local13 (env : Env) (limit : Nat) (hlim : 16 ≤ effLimit limit) :
    connRun env (sigV2 ++ [0x20]) limit .eof = { src := none, dst := none, data := [], fin := .eof, closed := false } ∧
    connRun env (sigV2 ++ [0x20]) limit .stall = rejectObs none :=
  ⟨(connRun_v2_short env _ limit _ (by decide) hlim).trans (if_pos ⟨rfl, rfl⟩),
   (connRun_v2_short env _ limit _ (by decide) hlim).trans (if_neg fun h => nomatch h.2)⟩

/-- PROXY command with a family bfe cannot map to a TCP address (UNSPEC, UDP over IPv4/IPv6, UNIX stream/datagram):
    whatever block and payload follow, the connection is rejected cleanly (the spec lets the receiver reject or fall
    back to the real addresses) -/
theorem C46_v2_other_family_rejected (env : Env) (fam : UInt8) (block pay : Bytes) (limit : Nat) (e : EndK)
    (hf : fam ≠ 0x11 ∧ fam ≠ 0x21) (hlim : 16 ≤ effLimit limit) :
    connRun env (encodeV2 0x21 fam block ++ pay) limit e = rejectObs none := by
  rw [encodeV2_append, connRun_v2 env _ _ _ _ _ limit e hlim]
  generalize hrd : v2Body 0x21 fam _ _ = rd
  by_cases hr : rd = .err
  · rw [hr]; rfl
  -- `Read` accepts, the address resolution fails
  · subst hrd
    obtain ⟨_, _, _, ⟨h20, _⟩ | ⟨_, _, _, s, d, sp, dp, h⟩⟩ := v2Body_sound hr
    · exact absurd h20 (by decide)
    · rw [h]; simp only [connOf]; rw [resolve_other fam s sp hf.1 hf.2]

/-- **v2 truncation at every offset**: whatever proper prefix of a v2 header arrives (then EOF or silence), not a
    single byte is delivered to the application -/
theorem C46_v2_truncated_no_data (env : Env) (vc fam : UInt8) (block : Bytes) (k limit : Nat) (e : EndK)
    (h16 : block.length < 65536) (hk : k < (encodeV2 vc fam block).length) (hlim : 16 ≤ effLimit limit) :
    (connRun env ((encodeV2 vc fam block).take k) limit e).data = [] := by
  rw [encodeV2_length] at hk
  have hs : sigV2.length = 12 := rfl
  unfold encodeV2
  by_cases hk16 : 16 ≤ k
  · -- the length field arrives, the block does not: `Peek(length)` fails
    rw [show k = 16 + (k - 16) by omega, take_v2_prefix, connRun_v2 env _ _ _ _ _ limit e hlim, be16_hi_lo _ h16,
      v2Body_short (by rw [List.length_take, List.length_take]; omega)]
    rfl
  by_cases hk12 : 12 ≤ k
  · -- the prefix breaks off before the length field: an error, or the legacy LOCAL form, which carries no data
    have ht : ((vc :: fam :: hi8 block.length :: lo8 block.length :: block).take (k - sigV2.length)).length < 4 := by
      rw [List.length_take]; omega
    rw [take_append_of_length_le sigV2 _ k hk12]
    rw [connRun_v2_short env _ limit e ht hlim]
    split <;> rfl
  · unfold connRun
    rw [List.take_append_of_le_length (by omega), List.take_of_length_le (by rw [List.length_take]; omega),
      readHeader_sig_prefix env _ k (by omega)]
    rfl

-- known findings `v1-extra-token`, `v1-port-syntax`, `v1-sig-suffix`: malformed v1 lines the code accepts
def envAny4 : Env := ⟨fun _ => some (to16 [1, 2, 3, 4])⟩
def tokIP : Bytes := [0x31, 0x2E, 0x32, 0x2E, 0x33, 0x2E, 0x34]   -- "1.2.3.4"

theorem C46_witness_v1_extra_token :
    (connRun envAny4 (sigV1 ++ SP :: (tokTCP4 ++ SP :: (tokIP ++ SP :: (tokIP ++ SP :: ([0x31] ++ SP :: ([0x32] ++ SP :: [0x78, CR, LF])))))) 0 .eof).closed
      = false := by decide +kernel

theorem C46_witness_v1_port_syntax :   -- ports "+1" and "02"
    (connRun envAny4 (encodeV1 tokTCP4 tokIP tokIP [0x2B, 0x31] [0x30, 0x32]) 0 .eof).closed = false := by decide +kernel

theorem C46_witness_v1_sig_suffix :    -- "PROXYX TCP4 ..."
    (connRun envAny4 (sigV1 ++ 0x58 :: SP :: (tokTCP4 ++ SP :: (tokIP ++ SP :: (tokIP ++ SP :: ([0x31] ++ SP :: [0x32, CR, LF]))))) 0 .eof).closed
      = false := by decide +kernel

/-- **v1, malformed rejected**: every stream that begins with `PROXY` and that the specification side
    (`specV1`: first line within 107 bytes, CRLF, exactly the six tokens, TCP4/TCP6, strict decimal ports, address text
    of the right family) classifies as malformed is REJECTED by the code (connection closed, hence no byte delivered,
    `C46_malformed_closes_no_data`) — except for the five lenient classes recorded as known findings (`lenientV1`). -/
theorem C46_v1_malformed_rejected_partial (env : Env) (stream : Bytes) (limit : Nat) (e : EndK)
    (hok : EnvOK env) (hsig : stream.take 5 = sigV1) (hlim : 107 ≤ effLimit limit)
    (hrej : (specV1 env stream).1 = .reject) (hcls : (specV1 env stream).2 ∉ lenientV1) :
    (connRun env stream limit e).closed = true := by
  have hvis5 : (stream.take (effLimit limit)).take 5 = sigV1 := by
    rw [List.take_take, show min 5 (effLimit limit) = 5 from by omega]; exact hsig
  unfold connRun
  rw [readHeader_sigV1 env _ _ hvis5]
  cases hc : (connOf (parseV1 env (stream.take (effLimit limit))) stream e).closed with
  | true => rfl
  | false => exact (specV1_of_open env stream _ hok hlim _ _ hc).elim (absurd hrej) (absurd · hcls)

-- non-vacuity: a line with too few tokens, and one whose TCP6 address is IPv4 text
example : (specV1 envAny4 (sigV1 ++ SP :: (tokTCP4 ++ SP :: (tokIP ++ [CR, LF])))).1 = .reject ∧
    (specV1 envAny4 (sigV1 ++ SP :: (tokTCP4 ++ SP :: (tokIP ++ [CR, LF])))).2 ∉ lenientV1 := by decide +kernel
example : (specV1 envAny4 (encodeV1 tokTCP6 tokIP tokIP [0x31] [0x32])).1 = .reject ∧
    (specV1 envAny4 (encodeV1 tokTCP6 tokIP tokIP [0x31] [0x32])).2 ∉ lenientV1 := by decide +kernel

def passObs (stream : Bytes) (e : EndK) : Obs :=
  { src := none, dst := none, data := stream, fin := finOf e, closed := false }

/-- a stream without a PROXY signature is handed over byte-identical with the socket addresses — for every
    stream except those shorter than 12 bytes that begin with `P` or CR (see the witness) -/
theorem C46_passthrough_partial (env : Env) (stream : Bytes) (limit : Nat) (e : EndK)
    (hne : stream ≠ []) (h1 : startsWith stream sigV1 = false) (h2 : startsWith stream sigV2 = false)
    (hlim : 12 ≤ effLimit limit)
    (hshort : ¬ ((stream.take 1 = [0x50] ∨ stream.take 1 = [0x0D]) ∧ stream.length < 12)) :
    connRun env stream limit e = passObs stream e := by
  unfold connRun
  have ht : ∀ k, k ≤ 12 → (stream.take (effLimit limit)).take k = stream.take k := fun k hk => by
    rw [List.take_take, Nat.min_eq_left (by omega)]
  rw [readHeader_nosig env _
    (fun h => (List.take_eq_nil_iff.mp h).elim (fun h0 => by omega) hne)
    (by rw [ht 5 (by omega)]; exact ne_of_beq_false h1)
    (by rw [ht 12 (by omega)]; exact ne_of_beq_false h2)
    (by rw [ht 1 (by omega)]; exact fun ⟨ha, hb⟩ => hshort ⟨ha, by rw [List.length_take] at hb; omega⟩)]
  rfl

/-- known finding `nosig-short`: `POST` + EOF is not a PROXY header, yet the 4 bytes are dropped and the
    connection is closed (the code insists on peeking 5, then 12 bytes) -/
theorem C46_witness_passthrough_short :
    connRun ⟨fun _ => none⟩ [0x50, 0x4F, 0x53, 0x54] 0 .eof = rejectObs none := by decide +kernel

/-- **chunking independence, the reader primitives**.  `Rdr` is bfe_bufio's reader over the header
    limiter over a connection that delivers its bytes in ARBITRARY segments.  The two primitives the header parser
    is built from — `Peek(n)` (`need n`, n ≤ 4096) and `ReadByte` — have results that are functions of the remaining
    byte string `r.rest` alone, and leave `rest`/`all` shortened by exactly what they consumed. -/
theorem C46_chunking_independent_partial (r : Rdr) (S L : Nat) (hK : r.K S L) :
    (∀ n, n ≤ bufSize →
      (r.need n).rest = r.rest ∧ (r.need n).all = r.all ∧
      (n ≤ (r.need n).buf.length ↔ n ≤ r.rest.length) ∧
      (n ≤ (r.need n).buf.length → (r.need n).buf.take n = r.rest.take n)) ∧
    (r.readByte = none ↔ r.rest = []) ∧
    (∀ b r', r.readByte = some (b, r') → r.rest = b :: r'.rest ∧ r.all = b :: r'.all) := by
  have hs : r.Sees S L r.rest r.all := ⟨hK, rfl, rfl⟩
  refine ⟨fun n hn => ?_, ⟨fun h => (readByte_none hs h).1, fun h => ?_⟩, fun b r' h => ?_⟩
  · obtain ⟨s, l, p⟩ := peek_spec hn hs
    exact ⟨s.rest, s.all, l, fun _ => p⟩
  · cases hb : r.readByte with
    | none => rfl
    | some p =>
      obtain ⟨_, _, e1, _⟩ := readByte_some hs hb
      rw [h] at e1; cases e1
  · obtain ⟨_, _, e1, a1, s'⟩ := readByte_some hs h
    exact ⟨by rw [e1, s'.rest], by rw [a1, s'.all]⟩

/-- **chunking independence, the v2 parser**: let the connection deliver the stream in ANY segments `segs` (each
    `conn.Read` returns bytes of at most one segment), read through bfe_bufio's 4096-byte reader and the header
    limiter.  Once `Peek(12)` has matched the v2 signature, `parseVersion2` over that reader (`parseV2Seg`: ReadByte ×4,
    Peek(length), addresses and drain out of the buffer) returns exactly what the chunk-free model `parseV2` returns
    on the concatenated stream cut at the limit (the seeded change /verif/seeded/C46, TLVs split across segments, breaks this equality). -/
theorem C46_chunking_independent_v2 (segs : List Bytes) (limit : Nat) (e : EndK) :
    let r := ({ buf := [], segs := segs, N := effLimit limit } : Rdr).need 12
    r.buf.take 12 = sigV2 →
    (parseV2Seg r e).1 = parseV2 ((segs.flatten).take (effLimit limit)) (atEOFOf segs.flatten limit e) := by
  intro r hsig
  exact (parseV2Seg_agrees e (peek_spec (n := 12) (by decide) (init_sees segs (effLimit limit))).1 hsig).1

theorem C46_chunking_independent_v2_pair (segs segs' : List Bytes) (limit : Nat) (e : EndK)
    (hsame : segs.flatten = segs'.flatten)
    (h1 : (({ buf := [], segs := segs, N := effLimit limit } : Rdr).need 12).buf.take 12 = sigV2)
    (h2 : (({ buf := [], segs := segs', N := effLimit limit } : Rdr).need 12).buf.take 12 = sigV2) :
    (parseV2Seg (({ buf := [], segs := segs, N := effLimit limit } : Rdr).need 12) e).1 =
    (parseV2Seg (({ buf := [], segs := segs', N := effLimit limit } : Rdr).need 12) e).1 := by
  rw [C46_chunking_independent_v2 segs limit e h1, C46_chunking_independent_v2 segs' limit e h2, hsame]

/-- **chunking independence, all but the v1 branch**: the whole life of a `bfe_proxy.Conn` — signature dispatch (Peek 1/5/12), v2 parse,
    address resolution, and the bytes handed to the application afterwards — over a connection that delivers the stream in
    ANY segments equals the chunk-free model on the concatenated stream, for every stream whose visible part does not begin
    with the v1 signature `PROXY` (the v1 branch, `ReadString`, is the parameter `v1` and is not covered). -/
theorem C46_chunking_independent (env : Env) (v1 : Rdr → Rd × Rdr) (segs : List Bytes) (limit : Nat) (e : EndK)
    (hv : ((segs.flatten).take (effLimit limit)).take 5 ≠ sigV1) :
    connSeg v1 segs limit e = connRun env segs.flatten limit e :=
  connSeg_eq (readHeaderSeg_agrees env v1 e (fun h => absurd h hv) (init_sees segs _))

/-- **chunking independence, complete**: with `ReadString` modelled over the segmented reader too (`parseV1Seg`:
    the `ReadSlice` loop that sets full 4096-byte buffers aside), the whole `bfe_proxy.Conn` over ANY segmentation of
    the connection equals the chunk-free model on the concatenated stream — for EVERY stream, limit and end:
    same addresses, same accept/reject decision, and the same bytes handed to the application. -/
theorem C46_chunking_independent_full (env : Env) (segs : List Bytes) (limit : Nat) (e : EndK) :
    connSeg (parseV1Seg env) segs limit e = connRun env segs.flatten limit e :=
  connSeg_eq (readHeaderSeg_agrees env _ e (fun _ _ hs => parseV1Seg_agrees env hs) (init_sees segs _))

-- a TCP4 header with a 3-byte TLV delivered in four uneven segments (one of them empty), 2 payload bytes behind it
example :
    let r := ({ buf := [], segs := [sigV2.take 5, sigV2.drop 5 ++ [0x21, 0x11, 0x00], [], [0x0F, 1, 2, 3, 4, 5, 6, 7], [8, 0, 80, 1, 187, 9, 9, 9, 0x68, 0x69]],
                N := 2048 } : Rdr).need 12
    r.buf.take 12 = sigV2 ∧
    (parseV2Seg r .eof).1 = .hdr 0x11 (some (to16 [1, 2, 3, 4])) (some (to16 [5, 6, 7, 8])) 80 443 31 ∧
    (parseV2Seg r .eof).2.all = [0x68, 0x69] := by decide +kernel
-- a v1 line delivered in uneven segments with an empty read in the middle
example :
    (connSeg (parseV1Seg envAny4) [sigV1 ++ [SP], tokTCP4 ++ [SP] ++ tokIP, [], [SP] ++ tokIP ++ [SP, 0x38, 0x30, SP, 0x34], [0x34, 0x33, CR], [LF, 0x68, 0x69]] 0 .eof).data
      = [0x68, 0x69] := by decide +kernel
example : ({ buf := [], segs := [[1], [], [2, 3]], N := 2 } : Rdr).K 3 2 := by simp [Rdr.K]
example : (({ buf := [], segs := [[1], [], [2, 3]], N := 2 } : Rdr).need 2).buf = [1, 2] := by decide +kernel

example : (Hdr.v2tcp4 [1, 2, 3, 4] [5, 6, 7, 8] 1000 443 [4, 0, 1, 0xAA]).Conformant ⟨fun _ => none⟩ ∧
    (Hdr.v2tcp4 [1, 2, 3, 4] [5, 6, 7, 8] 1000 443 [4, 0, 1, 0xAA]).Supported := by
  simp [Hdr.Conformant, Hdr.Supported, bufSize]
example : (Hdr.v2local 0x00 []).Conformant ⟨fun _ => none⟩ ∧ (Hdr.v2local 0x00 []).Supported := by
  simp [Hdr.Conformant, Hdr.Supported]
example : (Hdr.v1unknown []).Conformant ⟨fun _ => none⟩ := by
  refine ⟨Or.inl rfl, by simp, by decide⟩
example : (Hdr.v1tcp4 tokIP tokIP [0x38, 0x30] [0x34, 0x34, 0x33] (to16 [1, 2, 3, 4]) (to16 [1, 2, 3, 4]) 80 443).Conformant envAny4 := by
  refine ⟨?_, ?_, ?_, ?_, rfl, rfl, by decide, by decide, by decide, by decide⟩ <;>
    (unfold Tok; decide)
example : connRun ⟨fun _ => none⟩ (encodeV2 0x20 0x00 [] ++ [0x68, 0x69]) 0 .eof = acceptObs (none, none) [0x68, 0x69] .eof := by
  decide +kernel
example : (connRun ⟨fun _ => none⟩ [0x47, 0x45, 0x54, 0x20, 0x2F] 0 .stall) = passObs [0x47, 0x45, 0x54, 0x20, 0x2F] .stall := by
  decide +kernel

end BfeVerif.C46
