import BfeVerif.C46.Proofs
/-! The bufio reader over a segmented connection against the chunk-free model: a reader stands for two byte strings
  (`Rdr.Sees`), and every primitive keeps them up to the bytes it hands out. -/
namespace BfeVerif.C46

/-- `S`: length of the whole stream, `L`: the effective header limit.  What the limiter still allows plus what has been
    pulled from the connection is the limit; from it `errIsEOF_eq` reads `N = 0 ↔ S ≥ L`, the chunk-free test for EOF
    against deadline (`atEOFOf`). -/
def Rdr.K (r : Rdr) (S L : Nat) : Prop := r.segs.flatten.length ≤ S ∧ r.N + (S - r.segs.flatten.length) = L

theorem fill1_some {r r' : Rdr} (h : fill1 r = some r') :
    ∃ m, m ≤ r.N ∧ m ≤ r.segs.flatten.length ∧ r'.buf = r.buf ++ r.segs.flatten.take m ∧
      r'.segs.flatten = r.segs.flatten.drop m ∧ r'.N = r.N - m ∧ (r.buf.length < bufSize → r'.measure < r.measure) := by
  unfold fill1 at h
  unfold Rdr.measure
  by_cases hN : r.N = 0
  · rw [if_pos hN] at h; cases h
  rw [if_neg hN] at h
  cases hs : r.segs with
  | nil => rw [hs] at h; cases h
  | cons seg more =>
    rw [hs] at h
    obtain rfl := Option.some.inj h
    have hm1 : pullLen (bufSize - r.buf.length) r.N seg.length ≤ seg.length := Nat.min_le_right _ _
    have hm2 : pullLen (bufSize - r.buf.length) r.N seg.length ≤ r.N :=
      Nat.le_trans (Nat.min_le_left _ _) (Nat.min_le_right _ _)
    have hm3 : r.buf.length < bufSize → seg.length ≠ 0 → pullLen (bufSize - r.buf.length) r.N seg.length ≠ 0 := by
      unfold pullLen; omega
    generalize pullLen (bufSize - r.buf.length) r.N seg.length = m at hm1 hm2 hm3
    refine ⟨m, hm2, by rw [List.flatten_cons, List.length_append]; omega, ?_, ?_, rfl, ?_⟩
    · show r.buf ++ seg.take m = r.buf ++ (seg :: more).flatten.take m
      rw [List.flatten_cons, List.take_append_of_le_length hm1]
    · show (if m = seg.length then more else seg.drop m :: more).flatten = (seg :: more).flatten.drop m
      rw [List.flatten_cons, List.drop_append_of_le_length hm1]
      by_cases hms : m = seg.length
      · rw [if_pos hms, List.drop_of_length_le (by omega), List.nil_append]
      · rw [if_neg hms, List.flatten_cons]
    · intro hroom
      show (if m = seg.length then more else seg.drop m :: more).flatten.length
          + (if m = seg.length then more else seg.drop m :: more).length
        < (seg :: more).flatten.length + (seg :: more).length
      by_cases hms : m = seg.length
      · rw [if_pos hms]
        simp only [List.flatten_cons, List.length_append, List.length_cons]
        omega
      · have := hm3 hroom (by omega)
        rw [if_neg hms]
        simp only [List.flatten_cons, List.length_append, List.length_cons, List.length_drop]
        omega

/-- what `r` stands for in the chunk-free model: the header parser can still get to see `R`, the application would get `A` -/
structure Rdr.Sees (r : Rdr) (S L : Nat) (R A : Bytes) : Prop where
  k : r.K S L
  rest : r.rest = R
  all : r.all = A

theorem init_sees (segs : List Bytes) (N : Nat) :
    ({ buf := [], segs := segs, N := N } : Rdr).Sees segs.flatten.length N (segs.flatten.take N) segs.flatten :=
  ⟨by simp [Rdr.K], rfl, rfl⟩

theorem Rdr.Sees.drop {r : Rdr} {S L n : Nat} {R A : Bytes} (hs : r.Sees S L R A) (hn : n ≤ r.buf.length) :
    ({ r with buf := r.buf.drop n } : Rdr).Sees S L (R.drop n) (A.drop n) := by
  obtain ⟨hK, rfl, rfl⟩ := hs
  exact ⟨hK, (List.drop_append_of_le_length hn).symm, (List.drop_append_of_le_length hn).symm⟩

theorem Rdr.Sees.take {r : Rdr} {S L n : Nat} {R A : Bytes} (hs : r.Sees S L R A) (hn : n ≤ r.buf.length) :
    R.take n = r.buf.take n ∧ A.take n = r.buf.take n := by
  obtain ⟨_, rfl, rfl⟩ := hs
  exact ⟨List.take_append_of_le_length hn, List.take_append_of_le_length hn⟩

theorem fill1_spec {r r' : Rdr} {S L : Nat} {R A : Bytes} (h : fill1 r = some r') (hs : r.Sees S L R A) :
    r'.Sees S L R A ∧ (r.buf.length < bufSize → r'.measure < r.measure) := by
  obtain ⟨m, hmN, hmF, hb, hf, hn, hmeas⟩ := fill1_some h
  obtain ⟨⟨k1, k2⟩, rfl, rfl⟩ := hs
  refine ⟨⟨?_, ?_, ?_⟩, hmeas⟩
  · unfold Rdr.K
    rw [hf, hn, List.length_drop]
    omega
  · unfold Rdr.rest
    rw [hb, hf, hn, List.append_assoc, ← List.take_add, Nat.add_sub_cancel' hmN]
  · unfold Rdr.all
    rw [hb, hf, List.append_assoc, List.take_append_drop]

theorem fill1_none {r : Rdr} (h : fill1 r = none) : r.rest = r.buf := by
  unfold fill1 at h
  by_cases hN : r.N = 0
  · simp [Rdr.rest, hN]
  · rw [if_neg hN] at h
    cases hs : r.segs with
    | nil => simp [Rdr.rest, hs]
    | cons seg more => rw [hs] at h; cases h

/-- the alternative `buf = R`: a fill failed, nothing more will come -/
theorem need_spec {n : Nat} (hn : n ≤ bufSize) {S L : Nat} {R A : Bytes} :
    ∀ (fuel : Nat) (r : Rdr), r.measure < fuel → r.Sees S L R A →
      (need n fuel r).Sees S L R A ∧ (n ≤ (need n fuel r).buf.length ∨ (need n fuel r).buf = R) := by
  intro fuel
  induction fuel with
  | zero => intro r h; omega
  | succ f ih =>
    intro r hf hs
    simp only [need]
    by_cases hge : r.buf.length ≥ n
    · rw [if_pos hge]; exact ⟨hs, Or.inl hge⟩
    · rw [if_neg hge]
      cases hfl : fill1 r with
      | none => exact ⟨hs, Or.inr ((fill1_none hfl).symm.trans hs.rest)⟩
      | some r1 =>
        obtain ⟨hs1, hm⟩ := fill1_spec hfl hs
        exact ih r1 (by have := hm (by omega); omega) hs1

/-- `Peek(n)` as the parsers use it -/
theorem peek_spec {r : Rdr} {n : Nat} (hn : n ≤ bufSize) {S L : Nat} {R A : Bytes} (hs : r.Sees S L R A) :
    (r.need n).Sees S L R A ∧ (n ≤ (r.need n).buf.length ↔ n ≤ R.length) ∧ (r.need n).buf.take n = R.take n := by
  unfold Rdr.need
  obtain ⟨hs', d⟩ := need_spec hn _ r (Nat.lt_add_one _) hs
  generalize need n (r.measure + 1) r = r' at hs' d ⊢
  have hpre : R = r'.buf ++ (r'.segs.flatten).take r'.N := hs'.rest.symm
  refine ⟨hs', ⟨fun h => ?_, fun h => ?_⟩, ?_⟩
  · rw [hpre, List.length_append]; omega
  · rcases d with d | d
    · exact d
    · rw [d]; exact h
  · rcases d with d | d
    · rw [hpre, List.take_append_of_le_length d]
    · rw [d]

theorem readByte_some {r : Rdr} {S L : Nat} {R A : Bytes} (hs : r.Sees S L R A) {b : UInt8} {r' : Rdr}
    (h : r.readByte = some (b, r')) : ∃ R' A', R = b :: R' ∧ A = b :: A' ∧ r'.Sees S L R' A' := by
  unfold Rdr.readByte at h
  obtain ⟨hs1, _⟩ := peek_spec (n := 1) (by decide) hs
  cases hb : (r.need 1).buf with
  | nil => simp [hb] at h
  | cons c t =>
    simp [hb] at h
    obtain ⟨rfl, rfl⟩ := h
    obtain ⟨hK, rfl, rfl⟩ := hs1
    exact ⟨_, _, by simp [Rdr.rest, hb], by simp [Rdr.all, hb], hK, rfl, rfl⟩

theorem readByte_none {r : Rdr} {S L : Nat} {R A : Bytes} (hs : r.Sees S L R A) (h : r.readByte = none) :
    R = [] ∧ (r.need 1).buf = [] ∧ (r.need 1).Sees S L [] A := by
  unfold Rdr.readByte at h
  obtain ⟨hs1, _, p⟩ := peek_spec (n := 1) (by decide) hs
  cases hb : (r.need 1).buf with
  | nil =>
    obtain rfl : R = [] := (List.take_eq_nil_iff.mp (by rw [← p, hb]; rfl)).resolve_left (by decide)
    exact ⟨rfl, rfl, hs1⟩
  | cons c t => simp [hb] at h

/-- a reader that has nothing left to show failed with io.EOF exactly when the limiter is used up or the peer closed -/
theorem errIsEOF_eq {r : Rdr} {S L : Nat} {A : Bytes} (e : EndK) (hs : r.Sees S L [] A) (hb : r.buf = []) :
    r.errIsEOF e = (decide (S ≥ L) || e == .eof) := by
  obtain ⟨⟨k1, k2⟩, hr, _⟩ := hs
  have ht : min r.N r.segs.flatten.length = 0 := by
    have := congrArg List.length hr
    rwa [Rdr.rest, hb, List.nil_append, List.length_take] at this
  have : (r.N == 0) = decide (S ≥ L) := by
    rw [Bool.eq_iff_iff, beq_iff_eq, decide_eq_true_iff]; omega
  unfold Rdr.errIsEOF
  rw [this]

/-- same result, and unless the header is rejected the reader still holds exactly what follows the header -/
def Agrees (p : Rd × Rdr) (rd : Rd) (all : Bytes) : Prop :=
  p.1 = rd ∧ (rd ≠ .err → p.2.all = all.drop (rd.consumed.getD 0))

theorem Agrees.err {r : Rdr} {all : Bytes} : Agrees (.err, r) .err all := ⟨rfl, fun h => absurd rfl h⟩

theorem Agrees.ends {p : Rd × Rdr} {rd : Rd} {all : Bytes} {n : Nat} (h1 : p.1 = rd)
    (h2 : rd = .err ∨ rd.consumed = some n) (h3 : p.2.all = all.drop n) : Agrees p rd all := by
  refine ⟨h1, fun hne => ?_⟩
  rcases h2 with h | h
  · exact absurd h hne
  · rw [h]; exact h3

theorem Agrees.ite {c c' : Prop} [Decidable c] [Decidable c'] {p q : Rd × Rdr} {x y : Rd} {all : Bytes} (hc : c ↔ c')
    (h1 : c → Agrees p x all) (h2 : ¬ c → Agrees q y all) :
    Agrees (if c then p else q) (if c' then x else y) all := by
  by_cases h : c
  · rw [if_pos h, if_pos (hc.mp h)]; exact h1 h
  · rw [if_neg h, if_neg (mt hc.mpr h)]; exact h2 h

theorem connSeg_eq {v1 : Rdr → Rd × Rdr} {segs : List Bytes} {limit : Nat} {e : EndK} {rd : Rd}
    (h : Agrees (readHeaderSeg v1 { buf := [], segs := segs, N := effLimit limit } e) rd segs.flatten) :
    connSeg v1 segs limit e = connOf rd segs.flatten e := by
  obtain ⟨h1, h2⟩ := h
  unfold connSeg
  simp only []
  rw [h1]
  cases rd with
  | err => rfl
  | noProxy => simp only [connOf]; rw [h2 nofun]; rfl
  | sock n => simp only [connOf]; rw [h2 nofun]; rfl
  | hdr f s d sp dp n => simp only [connOf]; rw [h2 nofun]; rfl

/-- `Peek(len)` shows enough: the addresses lie within the first `len` bytes -/
theorem tailFree_append {b13 b14 : UInt8} {len : Nat} {buf Y : Bytes} (hl : len ≤ buf.length)
    (hv : b13 ≠ 0x20 → validLen b14 len = true) :
    tailFree b13 b14 len (buf ++ Y) = tailFree b13 b14 len buf := by
  have h1 : ¬ (buf ++ Y).length < len := by rw [List.length_append]; omega
  have h2 : ¬ buf.length < len := by omega
  rw [tailFree_eq, tailFree_eq, if_neg h1, if_neg h2]
  by_cases c : b13 = 0x20
  · rw [if_pos c, if_pos c]
  rw [if_neg c, if_neg c]
  cases hk : famK b14 with
  | none => rfl
  | some kw =>
    obtain ⟨k, w⟩ := kw
    dsimp only
    rw [addrsAt_append k buf Y (by have := (validLen_famK hk).mp (hv c); omega)]

/-- `r0`: the reader after the successful `Peek(12)` -/
theorem parseV2Seg_agrees {r0 : Rdr} (e : EndK) {S L : Nat} {R A : Bytes} (hs : r0.Sees S L R A)
    (hsig : r0.buf.take 12 = sigV2) :
    Agrees (parseV2Seg r0 e) (parseV2 R (decide (S ≥ L) || e == .eof)) A := by
  have h12 : 12 ≤ r0.buf.length := take_length_le hsig
  have hs1 := hs.drop h12
  have hR : R = sigV2 ++ R.drop 12 := by rw [← hsig, ← (hs.take h12).1, List.take_append_drop]
  have hA : A = sigV2 ++ A.drop 12 := by rw [← hsig, ← (hs.take h12).2, List.take_append_drop]
  generalize R.drop 12 = R1 at hs1 hR
  generalize A.drop 12 = A1 at hs1 hA
  subst hR hA
  unfold parseV2Seg
  generalize ({ r0 with buf := r0.buf.drop 12 } : Rdr) = r1 at hs1 ⊢
  dsimp only
  rcases h1 : r1.readByte with _ | ⟨b13, r2⟩
  · obtain rfl := (readByte_none hs1 h1).1
    rw [parseV2_len0]; exact Agrees.err
  obtain ⟨R2, A2, rfl, rfl, hs2⟩ := readByte_some hs1 h1
  dsimp only
  by_cases c1 : b13 ≠ 0x20 ∧ b13 ≠ 0x21
  · rw [if_pos c1, parseV2_bad13 c1]; exact Agrees.err
  rw [if_neg c1]
  rcases h2 : r2.readByte with _ | ⟨b14, r3⟩
  · -- the stream ends behind the command byte: the legacy form if that byte is LOCAL and the read failed with EOF
    obtain ⟨rfl, hb2, hs2'⟩ := readByte_none hs2 h2
    rw [parseV2_len1, if_neg c1, errIsEOF_eq e hs2' hb2]
    dsimp only
    by_cases c : b13 = 0x20 ∧ (decide (S ≥ L) || e == .eof) = true
    · rw [if_pos c]; exact Agrees.ends rfl (Or.inr rfl) hs2'.all
    · rw [if_neg c]; exact Agrees.err
  obtain ⟨R3, A3, rfl, rfl, hs3⟩ := readByte_some hs2 h2
  dsimp only
  by_cases c2 : ¬ supportedFam b14 ∧ ¬ (b13 = 0x20 ∧ b14 = 0x00)
  · rw [if_pos c2, parseV2_bad14 c2]; exact Agrees.err
  rw [if_neg c2]
  rcases h3 : r3.readByte with _ | ⟨hi, r4⟩
  · obtain rfl := (readByte_none hs3 h3).1
    rw [parseV2_noLen (by simp)]; exact Agrees.err
  obtain ⟨R4, A4, rfl, rfl, hs4⟩ := readByte_some hs3 h3
  dsimp only
  rcases h4 : r4.readByte with _ | ⟨lo, r5⟩
  · obtain rfl := (readByte_none hs4 h4).1
    rw [parseV2_noLen (by simp)]; exact Agrees.err
  obtain ⟨R5, A5, rfl, rfl, hs5⟩ := readByte_some hs4 h4
  rw [parseV2_cons4]
  unfold v2Body
  dsimp only
  rw [if_neg c1, if_neg c2]
  refine Agrees.ite Iff.rfl (fun _ => Agrees.err) fun c3 => ?_
  refine Agrees.ite Iff.rfl (fun _ => Agrees.err) fun c4 => ?_
  obtain ⟨hs6, hle, _⟩ := peek_spec (n := be16 hi lo) (by omega) hs5
  generalize r5.need (be16 hi lo) = r6 at hs6 hle ⊢
  by_cases c5 : r6.buf.length < be16 hi lo
  · rw [if_pos c5, tailFree_eq, if_pos (Nat.lt_of_not_le fun h => absurd (hle.2 h) (by omega))]
    exact Agrees.err
  rw [if_neg c5]
  have hv : b13 ≠ 0x20 → validLen b14 (be16 hi lo) = true :=
    fun hb => Classical.byContradiction fun hvv => c3 ⟨hb, hvv⟩
  refine Agrees.ends ?_ tailFree_ends ?_
  · rw [← hs6.rest, Rdr.rest, tailFree_append (by omega) hv]
  · rw [drop_v2_prefix]; exact (hs6.drop (by omega)).all

/-- what decreases in the `ReadSlice` loop: a fill consumes the connection, setting a full buffer aside empties it -/
def sliceMeasure (r : Rdr) : Nat := 2 * r.measure + (if r.buf.length ≥ bufSize then 1 else 0)

theorem readLineSeg_spec {S L : Nat} :
    ∀ (fuel : Nat) (acc : Bytes) (r : Rdr) {R A : Bytes}, sliceMeasure r < fuel → r.Sees S L R A →
      (readLine R = none ∧ readLineSeg fuel acc r = none) ∨
      ∃ line r', readLine R = some line ∧ readLineSeg fuel acc r = some (acc ++ line, r') ∧
        r'.Sees S L (R.drop line.length) (A.drop line.length) := by
  intro fuel
  induction fuel with
  | zero => intro acc r _ _ h; omega
  | succ f ih =>
    intro acc r R A hf hs
    simp only [readLineSeg]
    cases hb : readLine r.buf with
    | some l =>
      refine Or.inr ⟨l, _, ?_, rfl, hs.drop (readLine_length_le hb)⟩
      rw [← hs.rest]; exact readLine_append_some _ hb
    | none =>
      simp only []
      by_cases hfull : r.buf.length ≥ bufSize
      · -- a full buffer without LF is set aside
        rw [if_pos hfull]
        have hmeasure : sliceMeasure { r with buf := [] } < f := by
          unfold sliceMeasure at hf ⊢
          simp only [Rdr.measure] at hf ⊢
          simp [hfull] at hf
          simp [bufSize]; omega
        obtain ⟨hK, rfl, rfl⟩ := hs
        have hrl : readLine r.rest = (readLine ({ r with buf := [] } : Rdr).rest).map (r.buf ++ ·) :=
          readLine_append_none _ _ hb
        rcases ih (acc ++ r.buf) { r with buf := [] } hmeasure ⟨hK, rfl, rfl⟩ with ⟨h1, h2⟩ | ⟨l', r', h1, h2, h3⟩
        · exact Or.inl ⟨by rw [hrl, h1]; rfl, h2⟩
        · refine Or.inr ⟨r.buf ++ l', r', by rw [hrl, h1]; rfl, by rw [h2, List.append_assoc], ?_⟩
          simpa [Rdr.rest, Rdr.all] using h3
      · rw [if_neg hfull]
        cases hfl : fill1 r with
        | none => exact Or.inl ⟨by rw [← hs.rest, fill1_none hfl, hb], rfl⟩
        | some r1 =>
          simp only []
          obtain ⟨hs1, hm⟩ := fill1_spec hfl hs
          have hmeasure : sliceMeasure r1 < f := by
            have := hm (by omega)
            unfold sliceMeasure at hf ⊢
            have : (if r1.buf.length ≥ bufSize then 1 else 0) ≤ 1 := by split <;> omega
            omega
          exact ih acc r1 hmeasure hs1

theorem parseToks_ends {env : Env} {toks : List Bytes} {n : Nat} :
    parseToks env toks n = .err ∨ (parseToks env toks n).consumed = some n := by
  rcases parseToks_cases env toks n with h | ⟨_, _, h⟩ | ⟨_, _, _, _, _, _, _, _, _, h⟩
  · exact Or.inl h
  · exact Or.inr (by rw [h]; rfl)
  · exact Or.inr (by rw [h]; rfl)

theorem parseV1Seg_agrees (env : Env) {r : Rdr} {S L : Nat} {R A : Bytes} (hs : r.Sees S L R A) :
    Agrees (parseV1Seg env r) (parseV1 env R) A := by
  unfold parseV1Seg parseV1 Rdr.readLine
  rcases readLineSeg_spec (2 * r.measure + 3) [] r (by unfold sliceMeasure; split <;> omega) hs with
    ⟨hl, h1⟩ | ⟨line, r', hl, h1, hs'⟩
  · rw [hl, h1]; exact Agrees.err
  · rw [hl, h1, List.nil_append]
    dsimp only
    exact Agrees.ite Iff.rfl (fun _ => Agrees.err) fun _ => Agrees.ends rfl parseToks_ends hs'.all

/-- `hv1`: the v1 branch agrees whenever it is taken -/
theorem readHeaderSeg_agrees (env : Env) (v1 : Rdr → Rd × Rdr) (e : EndK) {S L : Nat} {R A : Bytes}
    (hv1 : R.take 5 = sigV1 → ∀ r : Rdr, r.Sees S L R A → Agrees (v1 r) (parseV1 env R) A)
    {r0 : Rdr} (hs : r0.Sees S L R A) :
    Agrees (readHeaderSeg v1 r0 e) (readHeader env R (decide (S ≥ L) || e == .eof)) A := by
  -- per `Peek` (`peek_spec`): `s` the state, `l` the length test, `p` the bytes shown
  obtain ⟨s1, l1, p1⟩ := peek_spec (n := 1) (by decide) hs
  obtain ⟨s5, l5, p5⟩ := peek_spec (n := 5) (by decide) s1
  obtain ⟨s12, l12, p12⟩ := peek_spec (n := 12) (by decide) s5
  unfold readHeaderSeg
  dsimp only
  generalize r0.need 1 = r1 at *
  generalize r1.need 5 = r5 at *
  generalize r5.need 12 = r12 at *
  cases hb : r1.buf with
  | nil =>
    rw [(List.take_eq_nil_iff.mp (by rw [← p1, hb]; rfl) : 1 = 0 ∨ R = []).resolve_left (by decide)]
    exact Agrees.err
  | cons b t =>
    dsimp only
    obtain ⟨t', rfl⟩ : ∃ t', R = b :: t' := by
      rw [hb] at p1
      cases R with
      | nil => cases p1
      | cons c t' => exact ⟨t', by rw [(List.cons.inj p1).1]⟩
    rw [readHeader_cons]
    refine Agrees.ite Iff.rfl (fun _ => ⟨rfl, fun _ => s1.all⟩) fun _ => ?_
    refine Agrees.ite (by omega) (fun _ => Agrees.err) fun _ => ?_
    rw [p5]
    refine Agrees.ite Iff.rfl (fun cv => hv1 cv r5 s5) fun _ => ?_
    refine Agrees.ite (by omega) (fun _ => Agrees.err) fun _ => ?_
    rw [p12]
    exact Agrees.ite Iff.rfl (fun cs => parseV2Seg_agrees e s12 (by rw [p12]; exact cs)) fun _ => ⟨rfl, fun _ => s12.all⟩

end BfeVerif.C46
