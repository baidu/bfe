import BfeVerif.C43.Proofs
/-!
  C43 — CBC padding removal accepts exactly valid padding.
-/
namespace BfeVerif.C43

/-- What the loop computes (TLS records are < 2^15 bytes; for the bound see `loop_good_iff`). -/
theorem C43_good_iff (l : List (BitVec 8)) (hlen : l.length < 2 ^ 31) :
    (removePadding l).2 = 255#8 ↔ ValidPad l := by
  by_cases hv : ValidPad l
  · rw [removePadding_valid l hlen hv]
    exact iff_of_true rfl hv
  · rw [removePadding_invalid l hlen hv]
    exact iff_of_false (show 0#8 ≠ 255#8 by decide) hv

/-- The verdict byte is always 255 or 0 (nothing in between leaks). -/
theorem C43_good_two_valued (l : List (BitVec 8)) :
    (removePadding l).2 = 255#8 ∨ (removePadding l).2 = 0#8 := by
  unfold removePadding
  split
  · right; rfl
  · simp only []; rw [foldBits_eq]; split <;> simp

/-- Including `p = 255`: no byte wrap-around. -/
theorem C43_removes_exactly (l : List (BitVec 8)) (hlen : l.length < 2 ^ 31) (hv : ValidPad l) :
    (removePadding l).1 = l.take (l.length - ((l.getD (l.length - 1) 0).toNat + 1)) := by
  rw [removePadding_valid l hlen hv]

/-- So every byte but the length byte stays under the MAC. -/
theorem C43_invalid_keeps (l : List (BitVec 8)) (hlen : l.length < 2 ^ 31) (hv : ¬ ValidPad l) :
    (removePadding l).1 = l.take (l.length - 1) := by
  rw [removePadding_invalid l hlen hv]

theorem validPadB_iff (l : List (BitVec 8)) : validPadB l = true ↔ ValidPad l := by
  unfold validPadB ValidPad
  simp only [Bool.and_eq_true, decide_eq_true_eq, List.all_eq_true, List.mem_range, beq_iff_eq]
  constructor
  · rintro ⟨⟨h1, h2⟩, h3⟩; exact ⟨h1, h2, fun i hi => h3 i (by omega)⟩
  · rintro ⟨h1, h2, h3⟩; exact ⟨⟨h1, h2⟩, fun i hi => h3 i (by omega)⟩

/-- **Full strength**: the model of the code equals the executable specification that the driver uses as oracle on
    the implementation's output. -/
theorem C43_exact (l : List (BitVec 8)) (hlen : l.length < 2 ^ 31) :
    removePadding l = specResult l := by
  unfold specResult
  by_cases h0 : l.length < 1
  · obtain rfl : l = [] := List.eq_nil_of_length_eq_zero (by omega)
    rfl
  rw [if_neg h0]
  by_cases hv : validPadB l = true
  · rw [if_pos hv]
    exact removePadding_valid l hlen ((validPadB_iff l).mp hv)
  · rw [if_neg hv]
    exact removePadding_invalid l hlen fun h => hv ((validPadB_iff l).mpr h)

/-- SSL 3.0 variant (only the length byte counts). -/
theorem C43_ssl30_exact (l : List (BitVec 8)) :
    removePaddingSSL30 l = specResultSSL30 l ∧
    ((removePaddingSSL30 l).2 = 255#8 ↔ ValidPadSSL30 l) := by
  unfold specResultSSL30
  by_cases hv : ValidPadSSL30 l
  · rw [removePaddingSSL30_valid l hv, if_pos (by simp only [Bool.and_eq_true, decide_eq_true_eq]; exact hv)]
    exact ⟨rfl, iff_of_true rfl hv⟩
  · rw [removePaddingSSL30_invalid l hv, if_neg (by simp only [Bool.and_eq_true, decide_eq_true_eq]; exact hv)]
    exact ⟨rfl, iff_of_false (show 0#8 ≠ 255#8 by decide) hv⟩

/-- The dispatch on the protocol version in `halfConn.decrypt`. -/
theorem C43_dispatch_exact (vers n : Nat) (P : List (BitVec 8)) (hlen : P.length < 2 ^ 31) :
    decryptVerdict vers n P = specDecrypt vers n P := by
  unfold decryptVerdict specDecrypt unpadFor specUnpadFor
  by_cases h : vers = 0x0300
  · simp only [h, if_true, (C43_ssl30_exact P).1]
  · simp only [h, if_false, C43_exact P hlen]

theorem verdictOf_true (r : List (BitVec 8) × BitVec 8) (n : Nat) :
    (verdictOf r n).1 = true ↔ macSize ≤ r.1.length ∧ r.1.length - macSize = n ∧ r.2 = 255#8 := by
  unfold verdictOf macSize
  by_cases h1 : r.1.length < 20
  · rw [if_pos h1]
    exact iff_of_false Bool.false_ne_true fun h => Nat.not_le_of_lt h1 h.1
  rw [if_neg h1]
  by_cases h2 : r.1.length - 20 = n ∧ r.2 = 255#8
  · rw [if_pos h2]
    exact iff_of_true rfl ⟨Nat.le_of_not_lt h1, h2⟩
  · rw [if_neg h2]
    exact iff_of_false Bool.false_ne_true fun h => h2 h.2

/-- TLS 1.0 and later: a CBC record is accepted only if EVERY padding byte is right, and then exactly the data is
    delivered. -/
theorem C43_tls_record_accept_iff (vers n : Nat) (P : List (BitVec 8)) (hlen : P.length < 2 ^ 31)
    (hv : vers ≠ 0x0300) :
    (decryptVerdict vers n P).1 = true ↔
      ValidPad P ∧ n + macSize + ((P.getD (P.length - 1) 0).toNat + 1) = P.length := by
  unfold decryptVerdict unpadFor
  rw [if_neg hv, verdictOf_true]
  exact accept_iff (fun h => ⟨h.2.1, removePadding_valid P hlen h⟩) fun h => by rw [removePadding_invalid P hlen h]

theorem C43_ssl30_record_accept_iff (n : Nat) (P : List (BitVec 8)) (hlen : P.length < 2 ^ 31) :
    (decryptVerdict 0x0300 n P).1 = true ↔
      ValidPadSSL30 P ∧ n + macSize + ((P.getD (P.length - 1) 0).toNat + 1) = P.length := by
  -- `hlen` is not needed: the SSL 3.0 unpadder does no bit arithmetic
  unfold decryptVerdict unpadFor
  rw [if_pos rfl, verdictOf_true]
  exact accept_iff (fun h => ⟨h.2, removePaddingSSL30_valid P h⟩) fun h => by rw [removePaddingSSL30_invalid P h]

example : removePaddingSSL30 [7#8, 8#8, 9#8, 1#8] = ([7#8, 8#8], 255#8) := by decide +kernel
example : (removePaddingSSL30 [7#8, 5#8]).2 = 0#8 := by decide +kernel

/-! Non-vacuity, and two inputs whose first padding byte is wrong while the padding fills the whole checked window. -/
example : ValidPad [1#8, 2#8, 3#8, 2#8, 2#8, 2#8] := (validPadB_iff _).mp (by decide +kernel)
example : (removePadding [9#8, 1#8]).2 = 0#8 := by decide +kernel
example : (removePadding [7#8, 2#8, 2#8]).2 = 0#8 := by decide +kernel
example : removePadding [1#8, 1#8] = ([], 255#8) := by decide +kernel

end BfeVerif.C43
