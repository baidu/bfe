import BfeVerif.C43.Model
/-! The bit tricks of `removePadding` as arithmetic facts, then what it returns in terms of the specification. -/
namespace BfeVerif.C43

theorem ones8 : 255#8 = BitVec.allOnes 8 := by decide

theorem msbMask_eq (t : BitVec 64) :
    msbMask t = if t.getLsbD 31 then 0#8 else 255#8 := by
  -- the arithmetic shift by 31 copies the sign bit of the 32-bit value into every position
  have hbit (i : Nat) (hi : i < 8) : (msbMask t)[i] = !t.getLsbD 31 := by
    have h31 : 31 + i < 32 → 31 + i = 31 := by omega
    simp only [msbMask, BitVec.truncate_eq_setWidth, BitVec.getElem_setWidth, BitVec.getLsbD_sshiftRight,
      BitVec.msb_eq_getLsbD_last, BitVec.getLsbD_setWidth, BitVec.getLsbD_not]
    split
    · rename_i h; rw [h31 h]; simp; omega
    · simp; omega
  ext i hi
  rw [hbit i hi]
  cases t.getLsbD 31
  · simp only [Bool.false_eq_true, if_false, ones8, BitVec.getElem_allOnes, Bool.not_false]
  · simp only [if_true, BitVec.getElem_zero, Bool.not_true]

theorem foldBits_eq (g : BitVec 8) : foldBits g = if g = 255#8 then 255#8 else 0#8 := by
  revert g; decide +kernel

theorem sub_bit31 {a b : Nat} (ha : a < 2 ^ 31) (hb : b < 2 ^ 31) :
    (BitVec.ofNat 64 a - BitVec.ofNat 64 b).getLsbD 31 = decide (a < b) := by
  have h64 : 2 ^ 31 < 2 ^ 64 := by decide
  have ha' : (BitVec.ofNat 64 a).toNat = a := (BitVec.toNat_ofNat ..).trans (Nat.mod_eq_of_lt (Nat.lt_trans ha h64))
  have hb' : (BitVec.ofNat 64 b).toNat = b := (BitVec.toNat_ofNat ..).trans (Nat.mod_eq_of_lt (Nat.lt_trans hb h64))
  rw [BitVec.getLsbD]
  by_cases hab : a < b
  · -- the difference wraps to 2^64 - (b - a), whose low 32 bits are the complement of those of b - a - 1
    have hd : (b - a).pred < 2 ^ 31 := Nat.lt_of_le_of_lt (Nat.le_trans (Nat.pred_le _) (Nat.sub_le _ _)) hb
    rw [BitVec.toNat_sub_of_lt (by rw [BitVec.lt_def, ha', hb']; exact hab), ha', hb', decide_eq_true hab,
      ← Nat.succ_pred_eq_of_pos (Nat.sub_pos_of_lt hab), Nat.testBit_two_pow_sub_succ (Nat.lt_trans hd h64),
      Nat.testBit_lt_two_pow hd]
    rfl
  · rw [BitVec.toNat_sub_of_le (by rw [BitVec.le_def, ha', hb']; exact Nat.le_of_not_lt hab), ha', hb',
      decide_eq_false hab, Nat.testBit_lt_two_pow (Nat.lt_of_le_of_lt (Nat.sub_le _ _) ha)]

theorem msbMask_sub {a b : Nat} (ha : a < 2 ^ 31) (hb : b < 2 ^ 31) :
    msbMask (BitVec.ofNat 64 a - BitVec.ofNat 64 b) = if a < b then 0#8 else 255#8 := by
  rw [msbMask_eq, sub_bit31 ha hb]
  simp only [decide_eq_true_eq]

theorem foldl_andnot_iff {α} (f : α → BitVec 8) (g0 : BitVec 8) (l : List α) :
    l.foldl (fun g i => g &&& ~~~(f i)) g0 = 255#8 ↔ g0 = 255#8 ∧ ∀ i ∈ l, f i = 0#8 := by
  induction l generalizing g0 with
  | nil => simp
  | cons x l ih =>
    rw [List.foldl_cons, ih, ones8, BitVec.and_eq_allOnes_iff, BitVec.not_eq_comm, BitVec.not_allOnes,
      List.forall_mem_cons, and_assoc]

theorem diffAt_zero_iff (l : List (BitVec 8)) (p : BitVec 8) (i : Nat) (hi : i < 2 ^ 31) :
    diffAt l p i = 0#8 ↔ (i ≤ p.toNat → l.getD (l.length - 1 - i) 0 = p) := by
  have hp := p.isLt
  simp only [diffAt]
  rw [BitVec.zeroExtend_eq_setWidth, ← BitVec.ofNat_toNat, msbMask_sub (by omega) hi]
  split
  · rename_i h
    rw [BitVec.zero_and, BitVec.zero_and, BitVec.xor_self]
    exact iff_of_true rfl fun hip => absurd hip (Nat.not_le_of_lt h)
  · rename_i h
    rw [ones8, BitVec.allOnes_and, BitVec.allOnes_and, BitVec.xor_eq_zero_iff, eq_comm]
    exact ⟨fun hb _ => hb, fun hb => hb (Nat.le_of_not_lt h)⟩

theorem toCheck_eq (l : List (BitVec 8)) : toCheck l = min 256 l.length := by
  unfold toCheck
  split <;> omega

/-- `hlen`, here and wherever it recurs: `int32(^t) >> 31` reads bit 31 of a 64-bit difference, which is its sign only
    while both operands are below `2 ^ 31` (`sub_bit31`). -/
theorem loop_good_iff (l : List (BitVec 8)) (hpos : 0 < l.length) (hlen : l.length < 2 ^ 31) :
    (List.range (toCheck l)).foldl (fun g i => g &&& ~~~(diffAt l (l.getD (l.length - 1) 0) i))
        (msbMask (BitVec.ofNat 64 (l.length - 1) - (l.getD (l.length - 1) 0).zeroExtend 64)) = 255#8 ↔
      ValidPad l := by
  unfold ValidPad
  generalize l.getD (l.length - 1) 0 = p
  have hp := p.isLt
  rw [foldl_andnot_iff, toCheck_eq, BitVec.zeroExtend_eq_setWidth, ← BitVec.ofNat_toNat,
    msbMask_sub (by omega) (by omega)]
  simp only [List.mem_range, Nat.lt_min]
  constructor
  · rintro ⟨hg, hall⟩
    have hle : ¬ l.length - 1 < p.toNat := fun hc => by rw [if_pos hc] at hg; exact absurd hg (by decide)
    exact ⟨hpos, by omega, fun i hi => (diffAt_zero_iff l p i (by omega)).mp (hall i (by omega)) hi⟩
  · rintro ⟨_, hle, hall⟩
    exact ⟨if_neg (by omega), fun i hi => (diffAt_zero_iff l p i (by omega)).mpr (hall i)⟩

theorem removePadding_valid (l : List (BitVec 8)) (hlen : l.length < 2 ^ 31) (hv : ValidPad l) :
    removePadding l = (l.take (l.length - ((l.getD (l.length - 1) 0).toNat + 1)), 255#8) := by
  have h0 : ¬ l.length < 1 := by have := hv.1; omega
  simp only [removePadding, if_neg h0]
  rw [(loop_good_iff l hv.1 hlen).mpr hv, foldBits_eq, if_pos rfl, ones8, BitVec.allOnes_and]

theorem removePadding_invalid (l : List (BitVec 8)) (hlen : l.length < 2 ^ 31) (hv : ¬ ValidPad l) :
    removePadding l = (l.take (l.length - 1), 0#8) := by
  by_cases h0 : l.length < 1
  · obtain rfl : l = [] := List.eq_nil_of_length_eq_zero (by omega)
    rfl
  · simp only [removePadding, if_neg h0]
    rw [foldBits_eq, if_neg fun h => hv ((loop_good_iff l (by omega) hlen).mp h), BitVec.zero_and]
    rfl

theorem removePaddingSSL30_valid (l : List (BitVec 8)) (hv : ValidPadSSL30 l) :
    removePaddingSSL30 l = (l.take (l.length - ((l.getD (l.length - 1) 0).toNat + 1)), 255#8) := by
  have h0 : ¬ l.length < 1 := by have := hv.1; omega
  have h1 : ¬ (l.getD (l.length - 1) 0).toNat + 1 > l.length := by have := hv.2; omega
  simp only [removePaddingSSL30, if_neg h0, if_neg h1]
  rfl

theorem removePaddingSSL30_invalid (l : List (BitVec 8)) (hv : ¬ ValidPadSSL30 l) :
    removePaddingSSL30 l = (l, 0#8) := by
  unfold removePaddingSSL30
  split
  · rfl
  · rename_i h0
    exact if_pos (by unfold ValidPadSSL30 at hv; omega)

/-- the left-hand side is the right-hand side of `verdictOf_true` (Props.lean); `V`, `k`: validity and padding length,
    for either unpadder -/
theorem accept_iff {V : Prop} {r : List (BitVec 8) × BitVec 8} {P : List (BitVec 8)} {k n : Nat}
    (hval : V → k ≤ P.length ∧ r = (P.take (P.length - k), 255#8)) (hinv : ¬ V → r.2 = 0#8) :
    macSize ≤ r.1.length ∧ r.1.length - macSize = n ∧ r.2 = 255#8 ↔ V ∧ n + macSize + k = P.length := by
  by_cases hV : V
  · obtain ⟨hk, hr⟩ := hval hV
    rw [hr, List.length_take, Nat.min_eq_left (Nat.sub_le _ _)]
    simp only [hV, true_and, and_true]
    omega
  · exact iff_of_false (fun h => absurd ((hinv hV).symm.trans h.2.2) (by decide)) fun h => hV h.1

end BfeVerif.C43
