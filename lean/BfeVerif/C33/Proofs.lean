import BfeVerif.C33.Model
/-!
  C33 — the ledger invariant `Acct` is kept by every event.  It speaks of the six numeric fields only: a DATA
  frame is followed through the ledger moves it is made of (count, then `AcctD.refuse` or `AcctD.debit`, then
  credit or pipe), a handler action is one move.  At the end, apart from the ledger: `processData_refused`.
-/
namespace BfeVerif.C33

/-- accounting in the middle of an event: `u` octets are counted in `sent` but not yet decided
    (debited or refused), `d` octets are debited and still have to be credited back; the window is never
    negative (why `AcctD.debit` needs `hu`) -/
def AcctD (s : St) (d u : Int) : Prop :=
  s.sent = s.wu0 + s.held + s.infl + s.rej + d + u ∧
  s.conn = 65535 - s.sent + s.rej + s.wu0 + u ∧
  0 ≤ s.conn

/-- between events: what `C33_credit` and `C33_server_view` state -/
def Acct (s : St) : Prop := AcctD s 0 0

theorem AcctD.refuse {s : St} {d u : Int} (h : AcctD s d u) : AcctD { s with rej := s.rej + u } d 0 := by
  unfold AcctD at *
  simp only []
  lia

theorem AcctD.debit {s : St} {d u : Int} (h : AcctD s d u) (hu : u ≤ s.conn) :
    AcctD { s with conn := s.conn - u } (d + u) 0 := by
  unfold AcctD at *
  simp only []
  lia

theorem wuConn_snd (s : St) (n : Nat) :
    (wuConn s n).2 = { s with conn := s.conn + n, wu0 := s.wu0 + n } := by
  cases n with
  | zero => simp [wuConn]
  | succ n => rfl

theorem wuConn_acct {s : St} {n : Nat} {d u : Int} (h : AcctD s (d + n) u) : AcctD (wuConn s n).2 d u := by
  rw [wuConn_snd]
  unfold AcctD at *
  simp only []
  lia

theorem closeStream_acct {s : St} {d u : Int} (x : Stream) (h : AcctD s d u) : AcctD (closeStream s x).2 d u := by
  obtain ⟨hl, hv, h0⟩ := h
  unfold closeStream
  extract_lets drop x'
  -- the discarded octets leave `held` and are owed until `wuConn` credits them
  have hd : AcctD { s with streams := upd s.streams x', held := s.held - (drop : Int) } (d + drop) u :=
    ⟨by dsimp only; lia, hv, h0⟩
  exact wuConn_acct hd

theorem resetStream_acct {s : St} {d u : Int} (id : Nat) (h : AcctD s d u) : AcctD (resetStream s id).2 d u := by
  unfold resetStream
  split
  · split
    · exact closeStream_acct _ h
    · exact h
  · exact h

theorem availOf_eq_min (c n : Int) : availOf c n = min c n := by
  unfold availOf; omega

theorem frameLen_ge (dlen : Nat) (pad : Option Nat) : dlen ≤ frameLen dlen pad := by
  unfold frameLen; split <;> omega

theorem ite_acct {c : Prop} [Decidable c] {a b : List Fr × St} (ha : c → Acct a.2) (hb : ¬c → Acct b.2) :
    Acct (if c then a else b).2 := by
  split
  · exact ha ‹_›
  · exact hb ‹_›

theorem dataClosed_acct {s : St} {L : Nat} (id : Nat) (h : AcctD s 0 L) : Acct (dataClosed s id L).2 :=
  ite_acct (fun _ => resetStream_acct _ h.refuse) fun hge =>
    resetStream_acct _ (wuConn_acct (h.debit (Int.not_lt.mp hge)))

theorem dataOverDeclared_acct {s : St} {L : Nat} (id : Nat) (h : AcctD s 0 L) :
    Acct (dataOverDeclared s id L).2 :=
  ite_acct (fun _ => resetStream_acct _ h.refuse) fun hge =>
    wuConn_acct (resetStream_acct _ (h.debit (Int.not_lt.mp hge)))

theorem dataAccept_acct {s : St} {dlen L : Nat} (x : Stream) (e : Bool) (hL : dlen ≤ L) (hav : (L : Int) ≤ s.conn)
    (h : AcctD s 0 L) : Acct (dataAccept s x dlen L e).2 := by
  have hd := h.debit hav
  refine ite_acct (fun _ => resetStream_acct _ (wuConn_acct hd)) fun _ => ?_
  -- `dlen` octets go to the pipe, the padding `L - dlen` is credited at once
  unfold Acct AcctD at *
  simp only [] at hd ⊢
  lia

theorem processData_acct {s : St} (id dlen : Nat) (pad : Option Nat) (e : Bool) (h : Acct s) :
    Acct (processData s id dlen pad e).2 := by
  -- count
  have hA : AcctD { s with sent := s.sent + (frameLen dlen pad : Int) } 0 (frameLen dlen pad) := by
    unfold Acct AcctD at *
    simp only []
    lia
  unfold processData
  simp only []
  cases find s.streams id with
  | none => exact dataClosed_acct id hA
  | some x =>
    -- not open / over declared / Length > 0 (then: exceeds a window / accepted)
    refine ite_acct (fun _ => dataClosed_acct id hA) fun _ => ?_
    refine ite_acct (fun _ => dataOverDeclared_acct id hA) fun _ => ?_
    refine ite_acct (fun _ => ?_) fun hL => ?_
    · refine ite_acct (fun _ => resetStream_acct _ hA.refuse) fun hav => ?_
      have := availOf_eq_min s.conn x.inflow
      exact dataAccept_acct x e (frameLen_ge dlen pad) (show (frameLen dlen pad : Int) ≤ s.conn by omega) hA
    · -- an empty frame: nothing to decide
      unfold Acct AcctD at *
      simp only [] at hA ⊢
      lia

/-- the handler actions never need their guards -/
theorem ite_acct_triple {c : Prop} [Decidable c] {a b : String × List Fr × St}
    (ha : Acct a.2.2) (hb : Acct b.2.2) : Acct (if c then a else b).2.2 := by
  split <;> assumption

theorem handlerRead_acct {s : St} (id n : Nat) (h : Acct s) : Acct (handlerRead s id n).2.2 := by
  unfold handlerRead
  cases find s.streams id with
  | none => exact h
  | some x =>
    -- no handler / note ≠ 0 / no pipe / would block / m = 0 / open or not
    refine ite_acct_triple h (ite_acct_triple h (ite_acct_triple h (ite_acct_triple h (ite_acct_triple h (ite_acct_triple ?_ ?_)))))
    -- `m` octets go from the pipe to the connection window
    all_goals
      unfold Acct AcctD at *
      simp only []
      lia

theorem handlerExit_acct {s : St} (id : Nat) (h : Acct s) : Acct (handlerExit s id).2.2 := by
  unfold handlerExit
  cases find s.streams id with
  | none => exact h
  | some x =>
    refine ite_acct_triple h (ite_acct_triple h ?_)
    have h1 : Acct (exitClose s x).2 := by
      unfold exitClose
      split
      · exact closeStream_acct _ h
      · exact closeStream_acct _ h
      · exact h
    simp only []
    cases find (exitClose s x).2.streams id <;> exact h1

theorem handlerPull_acct {s : St} (id n : Nat) (h : Acct s) : Acct (handlerPull s id n).2.2 := by
  unfold handlerPull
  cases find s.streams id with
  | none => exact h
  | some x =>
    -- no handler / no pipe / note ≠ 0 / would block / m = 0
    refine ite_acct_triple h (ite_acct_triple h (ite_acct_triple h (ite_acct_triple h (ite_acct_triple h ?_))))
    -- `m` octets go from the pipe to the pending read notification
    unfold Acct AcctD at *
    simp only []
    lia

theorem deliverNote_acct {s : St} (id : Nat) (h : Acct s) : Acct (deliverNote s id).2.2 := by
  unfold deliverNote
  cases find s.streams id with
  | none => exact h
  | some x =>
    -- note = 0 / open or not
    refine ite_acct_triple h (ite_acct_triple ?_ ?_)
    -- the octets of the pending notification go to the connection window
    all_goals
      unfold Acct AcctD at *
      simp only []
      lia

theorem handlerClose_acct {s : St} (id : Nat) (h : Acct s) : Acct (handlerClose s id).2.2 := by
  unfold handlerClose
  cases find s.streams id with
  | none => exact h
  | some x => exact ite_acct_triple h (ite_acct_triple h h)

theorem processRst_acct {s : St} (id : Nat) (h : Acct s) : Acct (processRst s id).2 :=
  ite_acct (fun _ => h) fun _ => resetStream_acct id h

theorem processHeaders_acct {s : St} (id : Nat) (d : Int) (e : Bool) (h : Acct s) :
    Acct (processHeaders s id d e).2 := by
  unfold processHeaders
  refine ite_acct (fun _ => h) fun _ => ?_
  cases find s.streams id with
  | some x => exact ite_acct (fun _ => resetStream_acct id h) fun _ => h
  | none => exact ite_acct (fun _ => h) fun _ => h

theorem step_acct {s : St} (ev : Ev) (h : Acct s) : Acct (step s ev).2.2 := by
  cases ev with
  | headers id d e => exact processHeaders_acct id d e h
  | data id dlen pad e => exact processData_acct id dlen pad e h
  | read id n => exact handlerRead_acct id n h
  | closeBody id => exact handlerClose_acct id h
  | exit id => exact handlerExit_acct id h
  | rst id => exact processRst_acct id h
  | pull id n => exact handlerPull_acct id n h
  | deliver id => exact deliverNote_acct id h
  | srvReset id => exact show Acct (serverReset s id).2 from resetStream_acct id h
  | clientSettings v => exact h
  | clientWU id inc => exact h
  | readThenClose id n how =>
    have ha := handlerPull_acct id n h
    refine ite_acct_triple ha (deliverNote_acct id ?_)
    split
    · exact processRst_acct id ha
    · split
      · exact resetStream_acct id ha
      · exact ha

theorem run_acct (evs : List Ev) : ∀ s, Acct s → Acct (runEvs s evs) := by
  induction evs with
  | nil => intro s h; exact h
  | cons e r ih =>
    intro s h
    unfold runEvs
    split
    · exact h
    · exact ih _ (step_acct e h)

theorem acct_reachable (isw : Nat) (evs : List Ev) : Acct (runEvs { isw := isw } evs) :=
  run_acct evs _ ⟨rfl, rfl, (by decide : (0 : Int) ≤ 65535)⟩

theorem resetStream_rej (s : St) (id : Nat) : (resetStream s id).2.rej = s.rej := by
  unfold resetStream
  split
  · split
    · show (wuConn _ _).2.rej = _
      rw [wuConn_snd]
    · rfl
  · rfl

/-- the window check of `processData`; the hypotheses are the branch conditions in front of it -/
theorem processData_refused {s : St} {x : Stream} {id dlen : Nat} {pad : Option Nat} (e : Bool)
    (hf : find s.streams id = some x) (ho : x.st = .opn)
    (hd : (x.decl != -1 && x.bodyBytes + dlen > x.decl) = false) (hL : frameLen dlen pad > 0)
    (hex : min s.conn x.inflow < (frameLen dlen pad : Int)) :
    (processData s id dlen pad e).1.head? = some (.rst id 3) ∧
    (processData s id dlen pad e).2.rej = s.rej + frameLen dlen pad := by
  have hst : (x.st != SS.opn) = false := by rw [ho]; rfl
  unfold processData
  simp only [hf, hst, hd, hL, availOf_eq_min, hex, if_true]
  exact ⟨rfl, resetStream_rej _ _⟩

end BfeVerif.C33
