import BfeVerif.C33.Proofs
/-!
  C33 — HTTP/2 inbound flow control is enforced and replenished.
  `runEvs {isw} evs` = the server (after fix C33-conn-credit) after the client frames / handler actions
  `evs` (HEADERS, DATA with padding, handler reads, Body.Close, handler return, RST_STREAM), any order.
  The ghost counters `sent`, `wu0`, `held`, `infl`, `rej` (see `St`) are never read by the transitions.
  The handler's read is split into two events (`pull`: pipe.Read returns and the handler blocks on
  bodyReadCh; `deliver`: the serve loop receives the message and runs noteBodyRead), so an event list is an
  arbitrary INTERLEAVING of read notifications with client frames, resets (client RST_STREAM `rst`,
  server-side `srvReset` as for stream errors/timeouts) and handler exits.
-/
namespace BfeVerif.C33

/-- **C33 credit (every interleaving)**: every DATA octet ever received (padding included)
    is either credited back by a connection WINDOW_UPDATE, still buffered for a handler that can read it,
    pulled by a handler and awaiting delivery of its read notification, or was refused with
    FLOW_CONTROL_ERROR — whatever the order of read notifications and stream closes.  Equivalently:
    window advertised to the client (65535 − sent + wu0) + in flight + unread = 65535 when nothing was
    refused. -/
theorem C33_credit (isw : Nat) (evs : List Ev) :
    let s := runEvs { isw := isw } evs
    s.sent = s.wu0 + s.held + s.infl + s.rej := by
  intro s
  obtain ⟨h, _, _⟩ : Acct s := acct_reachable isw evs
  lia

/-- **server view = advertised window**: `sc.inflow` is never negative and equals the window the
    client was told (`65535 - sent + wu0`) plus the octets the server refused. -/
theorem C33_server_view (isw : Nat) (evs : List Ev) :
    let s := runEvs { isw := isw } evs
    s.conn = (65535 - s.sent + s.wu0) + s.rej ∧ 0 ≤ s.conn := by
  intro s
  obtain ⟨_, h, h0⟩ : Acct s := acct_reachable isw evs
  exact ⟨by lia, h0⟩

/-- **C33 never over**: a client that was never refused has never had more octets
    accepted than were advertised to it (initial 65535 + all connection WINDOW_UPDATEs). -/
theorem C33_never_over (isw : Nat) (evs : List Ev) :
    let s := runEvs { isw := isw } evs
    s.rej = 0 → s.sent ≤ 65535 + s.wu0 := by
  intro s hr
  have := C33_server_view isw evs
  lia

/-- **C33 replenished**: for a client that respects the windows, once the handlers have read (or the
    server has discarded) everything and no read notification is still on its way, all octets have been
    credited back: the client's connection window is at its initial value again — it never stalls. -/
theorem C33_replenished (isw : Nat) (evs : List Ev) :
    let s := runEvs { isw := isw } evs
    s.rej = 0 → s.held = 0 → s.infl = 0 → s.wu0 = s.sent ∧ s.conn = 65535 := by
  intro s hr hh hi
  obtain ⟨h, h', _⟩ : Acct s := acct_reachable isw evs
  lia

/-- **excess is refused**: on an open stream, a DATA frame within the declared length whose Length
    exceeds the stream or the connection window is answered first with RST_STREAM(FLOW_CONTROL_ERROR), and its
    Length is counted in `rej`. -/
theorem C33_excess_refused (s : St) (x : Stream) (id dlen : Nat) (pad : Option Nat) (e : Bool)
    (hf : find s.streams id = some x) (ho : x.st = .opn)
    (hd : (x.decl != -1 && x.bodyBytes + dlen > x.decl) = false)
    (hc : 0 ≤ s.conn) (hi : 0 ≤ x.inflow)
    (hex : (frameLen dlen pad : Int) > x.inflow ∨ (frameLen dlen pad : Int) > s.conn) :
    (processData s id dlen pad e).1.head? = some (.rst id 3) ∧
    (processData s id dlen pad e).2.rej = s.rej + frameLen dlen pad :=
  processData_refused e hf ho hd (by omega) (by omega)

/-- **accepted ⇒ within both windows**: when such a frame is not refused, its Length fits the stream
    window and the server's connection window `sc.inflow` (advertised plus refused: `C33_server_view`). -/
theorem C33_accepted_within (s : St) (x : Stream) (id dlen : Nat) (pad : Option Nat) (e : Bool)
    (hf : find s.streams id = some x) (ho : x.st = .opn)
    (hd : (x.decl != -1 && x.bodyBytes + dlen > x.decl) = false)
    (hL : frameLen dlen pad > 0)
    (hacc : (processData s id dlen pad e).1.head? ≠ some (.rst id 3)) :
    (frameLen dlen pad : Int) ≤ x.inflow ∧ (frameLen dlen pad : Int) ≤ s.conn := by
  -- a frame over either window would have been refused
  have h : ¬ min s.conn x.inflow < (frameLen dlen pad : Int) := fun h => hacc (processData_refused e hf ho hd hL h).1
  omega

/-- the client's SETTINGS (INITIAL_WINDOW_SIZE …) and WINDOW_UPDATEs govern what the SERVER may send; they
    leave every receive window and all buffered data untouched -/
theorem C33_client_settings_inert (s : St) (v id inc : Nat) :
    (step s (.clientSettings v)).2.2 = s ∧ (step s (.clientWU id inc)).2.2 = s := ⟨rfl, rfl⟩

/-! ### the inputs of corpus/C33/known.ops (on which the code without fix C33-conn-credit loses octets) -/

/-- content-length 0, one DATA octet: RST_STREAM(PROTOCOL_ERROR), and the octet is credited -/
def wOverdeclared : List Ev := [.headers 1 0 false, .data 1 1 none false, .exit 1]
example : (step (runEvs { isw := 65535 } [.headers 1 0 false]) (.data 1 1 none false)).2.1
    = [.rst 1 1, .wu 0 1] := by decide +kernel
example : (runEvs { isw := 65535 } wOverdeclared).wu0 = 1 ∧ (runEvs { isw := 65535 } wOverdeclared).conn = 65535 := by
  decide +kernel

/-- the handler returns without reading 10 buffered octets: they are credited when the stream closes -/
def wUnread : List Ev := [.headers 1 (-1) false, .data 1 10 none false, .exit 1]
example : (runEvs { isw := 65535 } wUnread).wu0 = 10 ∧ (runEvs { isw := 65535 } wUnread).held = 0 ∧
    (runEvs { isw := 65535 } wUnread).conn = 65535 := by decide +kernel

/-- the handler closed the body; the next DATA frame is debited and credited back at once -/
def wBodyClosed : List Ev := [.headers 1 (-1) false, .closeBody 1, .data 1 10 none false, .exit 1]
example : (runEvs { isw := 65535 } wBodyClosed).wu0 = 10 ∧ (runEvs { isw := 65535 } wBodyClosed).conn = 65535 := by
  decide +kernel

/-- after an over-declared frame of 65535 octets the window is whole again, so 65535 more fit -/
def wOver : List Ev :=
  [.headers 1 1 false, .data 1 65535 none false, .headers 3 (-1) false, .data 3 65535 none false]
example : (runEvs { isw := 65535 } wOver).sent = 131070 ∧ (runEvs { isw := 65535 } wOver).wu0 = 65535 ∧
    (runEvs { isw := 65535 } wOver).rej = 0 := by decide +kernel

/-- the race in which the trial change /verif/seeded/C33-c (to noteBodyRead) loses octets: the handler has pulled
    300 of 1000 buffered octets, the client's RST_STREAM is processed first (700 discarded and credited), then the
    read notification arrives for a stream that is already closed: the 300 octets are still credited to the
    connection -/
def wRace : List Ev := [.headers 1 (-1) false, .data 1 1000 none false, .pull 1 300, .rst 1, .deliver 1]
example : (runEvs { isw := 65535 } (wRace.take 4)).infl = 300 ∧ (runEvs { isw := 65535 } (wRace.take 4)).wu0 = 700 := by
  decide +kernel
example : (step (runEvs { isw := 65535 } (wRace.take 4)) (.deliver 1)).2.1 = [.wu 0 300] := by decide +kernel
example : (runEvs { isw := 65535 } wRace).wu0 = 1000 ∧ (runEvs { isw := 65535 } wRace).conn = 65535 ∧
    (runEvs { isw := 65535 } wRace).infl = 0 := by decide +kernel
/-- the harness op Q is exactly that sequence -/
example : (runEvs { isw := 65535 } [.headers 1 (-1) false, .data 1 1000 none false, .readThenClose 1 300 0]).conn
    = 65535 := by decide +kernel

/-! ### non-vacuity: a window-respecting exchange -/
def clean : List Ev :=
  [.headers 1 20 false, .data 1 10 (some 5) false, .read 1 4, .data 1 10 none true, .read 1 100, .exit 1]

example : let s := runEvs { isw := 65535 } clean
    s.rej = 0 ∧ s.held = 0 ∧ s.infl = 0 ∧ s.sent = 26 ∧ s.wu0 = 26 ∧ s.conn = 65535 := by
  decide +kernel

end BfeVerif.C33
