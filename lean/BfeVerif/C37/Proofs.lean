import BfeVerif.C37.Model
/-!
  C37 — the counter `sc.queuedControlFrames` moves with the queue of stream-less frames: what one iteration body
  does to them is one relation, `Adv k`; from it the invariants `Exact`, `Bounded`, then `flood`, `no_false_close`.
  `Ev.k`, `Ev.isWrote`, `elicited` are what the statements of Props use beyond Model.
-/
namespace BfeVerif.C37

/-- number of stream-less frames an event can queue -/
def Ev.k : Ev → Nat
  | .recv k _ => k
  | _ => 0

def Ev.isWrote : Ev → Bool
  | .wrote _ => true
  | _ => false

def elicited (es : List Ev) : Nat := (es.map Ev.k).sum

abbrev Exact (s : St) : Prop := s.counter = (s.zero : Int)

/-- `t` is `s` after at most `k` more stream-less frames were queued and the scheduler ran; only `closed`,
    `zero`, `counter` are read (`Adv.of_eq`) -/
structure Adv (k : Nat) (s t : St) : Prop where
  closed : t.closed = s.closed
  zero_le : t.zero ≤ s.zero + k
  drift : t.counter - t.zero = s.counter - s.zero

theorem Adv.refl (s : St) : Adv 0 s s := ⟨rfl, Nat.le_refl _, rfl⟩

theorem Adv.of_eq {k : Nat} {s s' t : St} (h : Adv k s' t) (hc : s'.closed = s.closed) (hz : s'.zero = s.zero)
    (hk : s'.counter = s.counter) : Adv k s t :=
  ⟨h.closed.trans hc, hz ▸ h.zero_le, by rw [h.drift, hz, hk]⟩

theorem Adv.trans {k m n : Nat} {s t u : St} (h1 : Adv k s t) (h2 : Adv m t u) (hn : k + m ≤ n) :
    Adv n s u :=
  ⟨h2.closed.trans h1.closed, by have := h1.zero_le; have := h2.zero_le; omega, h2.drift.trans h1.drift⟩

theorem Adv.exact {k : Nat} {s t : St} (h : Adv k s t) (hx : Exact s) : Exact t := by
  have := h.drift
  omega

theorem schedule_adv (s : St) (can : Bool) : Adv 0 s (schedule s can) := by
  refine iteInduction (fun _ => .refl s) fun _ => iteInduction (fun _ => (Adv.refl _).of_eq rfl rfl rfl) fun _ =>
    iteInduction (fun hz => ?_) fun _ => iteInduction (fun _ => (Adv.refl _).of_eq rfl rfl rfl) fun _ =>
      iteInduction (fun _ => (Adv.refl _).of_eq rfl rfl rfl) fun _ => .refl s
  -- writing / ack / zero > 0 (`?_`) / stream / flush / nothing: in the third a stream-less frame leaves the
  -- queue and the counter goes down with it
  exact ⟨rfl, by simp only [start]; omega, by simp only [start]; omega⟩

theorem writeCtl_adv (s : St) (can : Bool) : Adv 1 s (writeCtl s can) := by
  have h : Adv 1 s { s with counter := s.counter + 1, zero := s.zero + 1 } :=
    ⟨rfl, Nat.le_refl _, by dsimp only; omega⟩
  exact h.trans (schedule_adv _ can) (Nat.le_refl _)

theorem writeCtlN_adv (can : Bool) (n : Nat) : ∀ s : St, Adv n s (writeCtlN s can n) := by
  induction n with
  | zero => exact Adv.refl
  | succ n ih => exact fun s => (writeCtl_adv s can).trans (ih _) (by omega)

theorem body_adv (s : St) (e : Ev) : Adv e.k s (body s e) := by
  cases e with
  | recv k can => exact writeCtlN_adv can k s
  | settings can => exact (schedule_adv { s with ack := true } can).of_eq rfl rfl rfl
  | handler can => exact (schedule_adv { s with sq := s.sq + 1 } can).of_eq rfl rfl rfl
  | wrote can =>
    exact iteInduction (fun _ => (schedule_adv { s with infl := .idle } can).of_eq rfl rfl rfl) fun _ => .refl s

theorem check_of_le {s : St} (h : ¬s.counter > (limit : Int)) : check s = s :=
  if_neg h

theorem step_exact (s : St) (e : Ev) (h : Exact s) : Exact (step s e) :=
  have hx : Exact (body s e) := (body_adv s e).exact h
  iteInduction (fun _ => h) fun _ => iteInduction (fun _ => hx) fun _ => hx

def Bounded (s : St) : Prop := s.closed = true ∨ s.zero ≤ limit

theorem step_bounded (s : St) (e : Ev) (hx : Exact s) (hb : Bounded s) : Bounded (step s e) := by
  have hx' : Exact (body s e) := (body_adv s e).exact hx
  refine iteInduction (fun _ => hb) fun _ => iteInduction (fun _ => Or.inl rfl) fun hle => Or.inr ?_
  omega

theorem run_exact_bounded (es : List Ev) (s : St) (h : Exact s ∧ Bounded s) :
    Exact (runEvs s es) ∧ Bounded (runEvs s es) :=
  List.foldlRecOn (motive := fun s => Exact s ∧ Bounded s) es step h fun s h e _ =>
    ⟨step_exact s e h.1, step_bounded s e h.1 h.2⟩

theorem reach_exact_bounded (es : List Ev) : Exact (runEvs {} es) ∧ Bounded (runEvs {} es) :=
  run_exact_bounded es {} ⟨rfl, Or.inr (Nat.zero_le _)⟩

theorem step_closed (s : St) (e : Ev) (h : s.closed = true) : step s e = s :=
  if_pos h

theorem step_eq_body_of_open {s : St} {e : Ev} (h : (step s e).closed = false) : step s e = body s e := by
  have hc : ¬s.closed = true := fun hc => by rw [step_closed s e hc, hc] at h; cases h
  rw [step, if_neg hc] at h ⊢
  by_cases ho : (body s e).counter > (limit : Int)
  · rw [check, if_pos ho] at h
    cases h
  · exact check_of_le ho

theorem run_closed_stays (es : List Ev) (s : St) (h : s.closed = true) : (runEvs s es).closed = true :=
  List.foldlRecOn (motive := fun s => s.closed = true) es step h fun s h e _ => (step_closed s e h).symm ▸ h

theorem schedule_writing_id (s : St) (can : Bool) (h : s.writing = true) : schedule s can = s :=
  if_pos h

theorem writeCtlN_stalled (n : Nat) : ∀ (s : St) (can : Bool), s.writing = true →
    (writeCtlN s can n).writing = true ∧ (writeCtlN s can n).zero = s.zero + n := by
  induction n with
  | zero => intro s can h; exact ⟨h, rfl⟩
  | succ n ih =>
    intro s can h
    have hw : writeCtl s can = { s with counter := s.counter + 1, zero := s.zero + 1 } :=
      schedule_writing_id _ _ h
    obtain ⟨h1, h2⟩ := ih (writeCtl s can) can (by rw [hw]; exact h)
    refine ⟨h1, h2.trans ?_⟩
    rw [hw]
    dsimp only
    omega

/-- while the writer holds a frame `schedule` is the identity, so nothing leaves the queue -/
theorem body_stalled (s : St) (e : Ev) (hw : s.writing = true) (he : e.isWrote = false) :
    (body s e).writing = true ∧ (body s e).zero = s.zero + e.k := by
  cases e with
  | recv k can => exact writeCtlN_stalled k s can hw
  | settings can =>
    rw [body, schedule_writing_id { s with ack := true } can hw]
    exact ⟨hw, rfl⟩
  | handler can =>
    rw [body, writeStream, schedule_writing_id { s with sq := s.sq + 1 } can hw]
    exact ⟨hw, rfl⟩
  | wrote can => cases he

theorem stalled_run (es : List Ev) : ∀ s, s.writing = true → (∀ e ∈ es, e.isWrote = false) →
    (runEvs s es).closed = true ∨ (runEvs s es).zero = s.zero + elicited es := by
  induction es with
  | nil => exact fun s _ _ => Or.inr rfl
  | cons e r ih =>
    intro s hw hall
    obtain ⟨he, hr⟩ := List.forall_mem_cons.mp hall
    cases hc : (step s e).closed with
    | true => exact Or.inl (run_closed_stays r _ hc)
    | false =>
      obtain ⟨hw', hz'⟩ := body_stalled s e hw he
      have := ih _ hw' hr
      rw [hz', ← step_eq_body_of_open hc, Nat.add_assoc] at this
      exact this

theorem flood (es : List Ev) (s : St) (h : Exact s ∧ Bounded s) (hw : s.writing = true)
    (hall : ∀ e ∈ es, e.isWrote = false) (hsum : s.zero + elicited es > limit) : (runEvs s es).closed = true :=
  (stalled_run es s hw hall).elim id fun hz =>
    (run_exact_bounded es s h).2.resolve_right (by omega)

theorem step_stays_open (s : St) (e : Ev) (hx : Exact s) (hc : s.closed = false)
    (hle : s.zero + e.k ≤ limit) : (step s e).closed = false := by
  have hb := body_adv s e
  have hck : ¬(body s e).counter > (limit : Int) := by
    have := hb.zero_le; have := hb.drift; omega
  unfold step
  rw [if_neg (by rw [hc]; nofun), check_of_le hck, hb.closed, hc]

theorem no_false_close (es : List Ev) : ∀ s, Exact s → s.closed = false →
    (∀ pre e, (pre ++ [e]) <+: es → (runEvs s pre).zero + e.k ≤ limit) →
    (runEvs s es).closed = false := by
  induction es with
  | nil => intro s _ hc _; exact hc
  | cons e r ih =>
    intro s hx hc h
    have hs := step_stays_open s e hx hc (h [] e (by simp))
    refine ih (step s e) (step_exact s e hx) hs fun pre e' hp => ?_
    exact h (e :: pre) e' ((List.prefix_cons_inj e).mpr hp)

theorem run_snoc (s : St) (pre : List Ev) (e : Ev) : runEvs s (pre ++ [e]) = step (runEvs s pre) e := by
  simp [runEvs, List.foldl_append]

end BfeVerif.C37
