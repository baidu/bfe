import BfeVerif.C37.Proofs
/-!
  C37 — HTTP/2 control-frame floods are bounded.
  `runEvs {} es` = the serve loop after the iterations `es` (received frames, handler writes, writer
  completions in ANY order, any flow-control availability `can`); `limit` is
  `Generated.C37.maxQueuedControlFrames`, re-extracted from server.go on every check.
-/
namespace BfeVerif.C37

/-- **counter exact**: `sc.queuedControlFrames` always equals the number of queued stream-less frames
    (so it never goes negative and never drifts). -/
theorem C37_counter_exact (es : List Ev) :
    (runEvs {} es).counter = ((runEvs {} es).zero : Int) :=
  (reach_exact_bounded es).1

/-- **the check runs in every iteration** (regenerated fact, extracted semantically: through helper
    calls, local variables holding the limit, either comparison direction, `if over {return}` or
    `if !over {continue}; return`): in the current sources the statements that follow the `select` of
    serve()'s event loop compare `queuedControlFrames` with the limit and can return — the check is not
    inside the handling of one kind of event or of one outcome (e.g. only frames processed without error).
    If it is moved out of the loop tail this theorem no longer builds, and the model's
    `step = check ∘ body` no longer describes the code (the correspondence run then finds the input). -/
theorem C37_check_every_iteration : checkEveryIteration = true := by decide

/-- **bounded**: the limit check runs at the end of EVERY serve-loop iteration, and therefore at the end of every
    iteration the connection is closed or at most `limit` stream-less frames are queued.  (The first conjunct is
    `C37_check_every_iteration` again: it is what makes `step = check ∘ body` describe the code.) -/
theorem C37_bounded (es : List Ev) :
    checkEveryIteration = true ∧
    ((runEvs {} es).closed = true ∨ (runEvs {} es).zero ≤ limit) :=
  ⟨C37_check_every_iteration, (reach_exact_bounded es).2⟩

/-- **bounded inside an iteration**: while an iteration runs, the queue of a still-open connection holds
    at most `limit + k` stream-less frames, `k` = number the processed frame queues (k ≤ 3 for every
    frame type bfe handles: PING 1, stream error 1, padding refund 1, DATA on a closed stream 2, DATA on
    a half-closed stream that still buffers unread octets 3: WINDOW_UPDATE, RST_STREAM, credit of the
    discarded octets). -/
theorem C37_bounded_within (es : List Ev) (e : Ev) (h : (runEvs {} es).closed = false) :
    (body (runEvs {} es) e).zero ≤ limit + e.k := by
  have hle : (runEvs {} es).zero ≤ limit := (C37_bounded es).2.resolve_left (by rw [h]; nofun)
  have := (body_adv (runEvs {} es) e).zero_le
  omega

/-- **a flood closes the connection**: once a frame write is in flight and the writer never reports back
    (the client does not read), any sequence of iterations that elicits more stream-less frames than
    the limit leaves room for ends with the connection closed — memory cannot grow further. -/
theorem C37_flood_closes (es0 es : List Ev)
    (hw : (runEvs {} es0).writing = true)
    (hstall : ∀ e ∈ es, e.isWrote = false)
    (hsum : (runEvs {} es0).zero + elicited es > limit) :
    (runEvs (runEvs {} es0) es).closed = true :=
  flood es _ (reach_exact_bounded es0) hw hstall hsum

/-- **no false close (long normal use)**: if in every iteration the frames already queued plus the ones
    the processed frame adds stay within the limit — e.g. a client that reads, however many control
    frames it elicits in total — the connection is never closed by the flood guard.  (A counter that
    leaked, i.e. was not decremented for some frame kind, would break `C37_counter_exact` and this.) -/
theorem C37_no_false_close (es : List Ev)
    (h : ∀ pre e, (pre ++ [e]) <+: es → (runEvs {} pre).zero + e.k ≤ limit) :
    (runEvs {} es).closed = false :=
  no_false_close es {} rfl rfl h

/-- closing is final -/
theorem C37_closed_final (s : St) (es : List Ev) (h : s.closed = true) : (runEvs s es).closed = true :=
  run_closed_stays es s h

/-- the stall the harness produces: PING, its ack is written, the flush is in flight -/
def stalled0 : St := runEvs {} [.recv 1 true, .wrote true]

example : stalled0.writing = true ∧ stalled0.zero = 0 ∧ stalled0.infl = .flush := by decide +kernel

/-- concrete instance of `C37_flood_closes`: one frame eliciting `limit + 1` acknowledgements
    (the theorem is about sums; the harness sends `limit + 1` single PINGs) -/
example : (runEvs stalled0 [.recv (limit + 1) false]).closed = true :=
  C37_flood_closes [.recv 1 true, .wrote true] [.recv (limit + 1) false]
    (by decide +kernel) (by intro e he; simp at he; subst he; rfl) (by simp [elicited, Ev.k]; omega)

/-- and a connection whose client reads is never closed by two PINGs -/
example : (runEvs {} [.recv 1 true, .wrote true, .wrote true, .recv 1 true, .wrote true]).closed = false := by
  decide +kernel

end BfeVerif.C37
