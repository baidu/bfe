import BfeVerif.C24.Proofs
/-!
  C24 — accepted HTTP/1 requests have unambiguous framing.

  `readRequestHead` / `readBody`  model of bfe's ReadRequest + body reading      (tied to the code by the correspondence run)
  `rfcRequest`                    strict RFC 7230 reference parser                  (the spec oracle of the driver)

  FULL STATEMENT (`C24_full`): every request the code accepts is accepted by the RFC parser.  It is FALSE for the
  unchanged code: each `C24_witness_*` theorem below is a concrete byte stream that the model of the code accepts
  and the RFC parser rejects, one per smuggling class; all of them are replayed on the real ReadRequest
  (corpus/C24/known.ops) and listed as known findings.

  PARTIAL STATEMENT, proved for all inputs: on the decidable clean sub-language `cleanRequest` (described in
  Model.lean) the two whole parsers agree: `C24_same_boundaries_partial` and `C24_rejects_partial`.  The clean class
  fixes only the *syntax* of lines and fields; the framing decision (values like `abc`, `+5`, `gzip`, overflow), the
  target, chunk data and sizes are not assumed and are covered by the theorem.
-/
namespace BfeVerif.C24
open BfeVerif.C23 (Bytes)

def codeAccepts (s : Bytes) : Bool := (readRequestHead s).isSome
def rfcRejectsWith (s : Bytes) (w : String) : Bool :=
  match rfcRequest s with
  | .error e => e == w
  | .ok _ => false

/-- the property at full strength (header part) -/
def C24_full : Prop := ∀ s : Bytes, codeAccepts s = true → ∃ q r, rfcRequest s = .ok (q, r)

/-- **lines**: on RFC-conforming input (CRLF only, no bare CR/LF) bfe's `ReadLine` cuts lines where the strict line
    splitter does. -/
theorem C24_line_agree (s l r : Bytes) (h : rfcLine s = .ok (l, r)) : readLine s = some (l, r) :=
  readLine_of_rfcLine s l r h
example : rfcLine [65, 13, 10, 66] = .ok ([65], [66]) := by rfl

/-- **Content-Length syntax** (repaired): the number parser accepts exactly non-empty digit strings below 2^63 —
    no sign, no blanks, no other bytes. -/
theorem C24_cl_digits_only (s : Bytes) (n : Nat) :
    parseUint63 s = some n ↔ (s.length ≠ 0 ∧ s.all isDigit = true ∧ n = decNat s ∧ n < 2 ^ 63) :=
  parseUint63_some s n

/-- **conflicting Content-Length** (repaired): a later Content-Length that differs (after Go's TrimSpace) from the
    first makes the length decision an error; such a request is accepted only with chunked framing (Transfer-Encoding
    overrides Content-Length, RFC 7230 §3.3.3 (3)). -/
theorem C24_conflicting_cl_rejected (fs : List Field) (a : Bytes) (rest : List Bytes)
    (hv : valuesOf fs sCL = a :: rest) (c : Bytes) (hc : c ∈ rest) (hne : goTrimSpace c ≠ goTrimSpace a) :
    fixLen fs = none ∧ (framing fs = none ∨ framing fs = some .chunked) := by
  have h1 : fixLen fs = none :=
    (fixLen_cons hv).trans (if_pos fun h => hne (of_decide_eq_true (List.all_eq_true.mp h c hc)))
  refine ⟨h1, ?_⟩
  cases hf : framing fs with
  | none => exact .inl rfl
  | some fr =>
    -- a framing that is not chunked comes from `fixLen`
    rcases framing_some hf with ⟨_, rfl⟩ | ⟨n, _, hl, _⟩
    · exact .inr rfl
    · rw [h1] at hl; cases hl

/-- **same boundaries** (partial: clean sub-language): what bfe's ReadRequest accepts and reads to a clean end, the RFC
    parser accepts with the same method, target, field names (case-insensitively), body and unread rest. -/
theorem C24_same_boundaries_partial (s : Bytes) (hc : cleanRequest s = true) (q : Req) (r : Bytes)
    (hh : readRequestHead s = some (q, r)) (body rest : Bytes)
    (hb : readBody q.framing r = (body, some rest)) :
    rfcRequest s = .ok (⟨q.method, q.target, q.keys.map asciiLower, body⟩, rest) :=
  same_boundaries s hc q r hh body rest hb

/-- **rejects** (partial: clean sub-language): a clean stream the RFC parser rejects (bad Content-Length, unsupported
    transfer coding, malformed or truncated body / chunk / trailer, bad target …) is never accepted by bfe: the header
    is rejected or the body read ends in an error. -/
theorem C24_rejects_partial (s : Bytes) (hc : cleanRequest s = true) (e : String)
    (hr : rfcRequest s = .error e) :
    ¬ ∃ q r body rest, readRequestHead s = some (q, r) ∧ readBody q.framing r = (body, some rest) := by
  rintro ⟨q, r, body, rest, hh, hb⟩
  rw [same_boundaries s hc q r hh body rest hb] at hr
  cases hr

/-- **header block layer**: what the strict RFC field reader accepts, bfe's ReadMIMEHeaderAndKeys reads as the same
    fields (names canonicalised instead of lower-cased, same trimmed values) and stops at the same place. -/
theorem C24_header_block_agree (f : Nat) (first : Bool) (s : Bytes) (fs : List Field) (r' : Bytes)
    (h : rfcFields f first s = .ok (fs, r')) :
    ∃ raw : List (Bytes × Bytes), fs = raw.map lowerF ∧
      (∀ p ∈ raw, p.1.length ≠ 0 ∧ p.1.all C23.isTchar = true ∧ trim p.2 = p.2) ∧
      ∀ f2, s.length < f2 → readHeader f2 s = some (raw.map canonF, r') :=
  fields_agree f first s fs r' h

/-- **framing decision layer**: on clean fields, whenever bfe's fixTransferEncoding / fixLength / fixTrailer decide a
    framing, RFC 7230 §3.3.3 decides the same one. -/
theorem C24_framing_agree_partial (raw : List (Bytes × Bytes))
    (hraw : ∀ p ∈ raw, p.1.length ≠ 0 ∧ p.1.all C23.isTchar = true ∧ trim p.2 = p.2)
    (hclean : cleanFields (raw.map lowerF) = true) (fr : Framing)
    (h : framing (raw.map canonF) = some fr) : rfcFraming 1 (raw.map lowerF) = .ok fr :=
  framing_agree raw (fun p hp => (hraw p hp).2) hclean fr h

/-- **chunked body layer**: if every chunk-size line is `1*HEXDIG CRLF` (`strictChunks`), a clean end of bfe's
    chunked reader is a success of the STRICT RFC 7230 §4.1 decoder with the same body and rest. -/
theorem C24_chunked_body_strict (s r2 : Bytes) (h : (C23.decode s).err = .eof)
    (hst : strictChunks (s.length + 1) s = some r2) :
    C23.rfcDechunk false s = .ok (C23.decode s).body (C23.decode s).rest ∧ r2 = (C23.decode s).rest :=
  chunked_strict s r2 h hst

/-! non-vacuity of the clean class: clean + accepted (Content-Length, a pipelined stream that both parsers accept
    identically; chunked with trailer) and clean + rejected by both -/
-- 'POST /a HTTP/1.1\r\nHost: x\r\nContent-Length: 5\r\n\r\nhelloGET / HTTP/1.1\r\n\r\n'
def wGood : Bytes :=
  [80,79,83,84,32,47,97,32,72,84,84,80,47,49,46,49,13,10,72,111,115,116,58,32,120,13,10,67,111,110,116,101,110,116,45,76,101,110,103,116,104,58,32,53,13,10,13,10,104,101,108,108,111,71,69,84,32,47,32,72,84,84,80,47,49,46,49,13,10,13,10]
-- 'POST /a HTTP/1.1\r\nHost: x\r\nTransfer-Encoding: Chunked\r\n\r\n5\r\nhello\r\n0\r\nX-T: 1\r\n\r\nGET'
def wCleanChunked : Bytes :=
  [80,79,83,84,32,47,97,32,72,84,84,80,47,49,46,49,13,10,72,111,115,116,58,32,120,13,10,84,114,97,110,115,102,101,114,45,69,110,99,111,100,105,110,103,58,32,67,104,117,110,107,101,100,13,10,13,10,53,13,10,104,101,108,108,111,13,10,48,13,10,88,45,84,58,32,49,13,10,13,10,71,69,84]
-- 'POST /a HTTP/1.1\r\nContent-Length: abc\r\n\r\n'
def wCleanBad : Bytes :=
  [80,79,83,84,32,47,97,32,72,84,84,80,47,49,46,49,13,10,67,111,110,116,101,110,116,45,76,101,110,103,116,104,58,32,97,98,99,13,10,13,10]
example : cleanRequest wGood = true := by decide +kernel
example : (readRequestHead wGood).map (fun p => (p.1.framing, p.2.length)) = some (.length 5, 23) := by decide +kernel
example : (match rfcRequest wGood with | .ok (q, r) => (q.body.length, r.length) | .error _ => (0, 0)) = (5, 18) := by
  decide +kernel
example : cleanRequest wCleanChunked = true := by decide +kernel
example : (match readRequestHead wCleanChunked with
    | some (q, r) => (q.framing, (readBody q.framing r).1.length, ((readBody q.framing r).2.map List.length))
    | none => (.length 0, 0, none)) = (.chunked, 5, some 3) := by decide +kernel
example : cleanRequest wCleanBad = true ∧ codeAccepts wCleanBad = false ∧
    rfcRejectsWith wCleanBad "cl-syntax" = true := by
  refine ⟨?_, ?_, ?_⟩ <;> decide +kernel

/-- **segmentation independence**: `parseOneS segs` reads one request (request line, header block with continuation
    handling and look-ahead, framing decision, Content-Length or chunked body, trailer) from a connection whose reads
    return the pieces `segs` one after the other, any list; the parse cannot depend on how the client's bytes are
    segmented. -/
theorem C24_segmentation_independent (segs : List Bytes) : parseOneS segs = parseOne segs.flatten :=
  parseOneS_eq segs

/-- the header part alone, started in any reader state (bytes already buffered + pieces to come) -/
theorem C24_segmentation_independent_head (x : RS) :
    (readRequestHeadS x).map (fun p => (p.1, norm p.2)) = readRequestHead (norm x) :=
  readRequestHeadS_norm x

-- a request cut exactly after a header line, between CR and LF, inside a name, with an empty piece, inside the body
def wSegs : List Bytes := [[80,79,83,84,32,47,97,32,72,84,84,80,47,49,46,49,13,10], [72,111,115,116,58,32,120,13], [10,67,111,110,116,101,110,116,45,76,101], [], [110,103,116,104,58,32,53,13,10], [13,10], [104,101,108], [108,111,71,69,84]]
example : (parseOneS wSegs).map (fun p => (p.1.framing, p.2.1, p.2.2)) =
    some (.length 5, [104, 101, 108, 108, 111], some [71, 69, 84]) := by decide +kernel

/-! ### the full statement fails: one witness per smuggling class (model of the code accepts, RFC parser rejects) -/

-- 'POST / HTTP/1.1\r\nContent-Length : 5\r\n\r\nhello'
def wWsColon : Bytes :=
  [80,79,83,84,32,47,32,72,84,84,80,47,49,46,49,13,10,67,111,110,116,101,110,116,45,76,101,110,103,116,104,32,58,32,53,13,10,13,10,104,101,108,108,111]
-- 'POST / HTTP/1.1\r\nX: a\r\n Content-Length: 5\r\n\r\nhello'
def wObsFold : Bytes :=
  [80,79,83,84,32,47,32,72,84,84,80,47,49,46,49,13,10,88,58,32,97,13,10,32,67,111,110,116,101,110,116,45,76,101,110,103,116,104,58,32,53,13,10,13,10,104,101,108,108,111]
-- 'POST / HTTP/1.1\r\n \r\nContent-Length: 5\r\n\r\nhello'
def wLeadWs : Bytes :=
  [80,79,83,84,32,47,32,72,84,84,80,47,49,46,49,13,10,32,13,10,67,111,110,116,101,110,116,45,76,101,110,103,116,104,58,32,53,13,10,13,10,104,101,108,108,111]
-- 'POST / HTTP/1.1\nContent-Length: 5\n\nhello'
def wBareLF : Bytes :=
  [80,79,83,84,32,47,32,72,84,84,80,47,49,46,49,10,67,111,110,116,101,110,116,45,76,101,110,103,116,104,58,32,53,10,10,104,101,108,108,111]
-- 'POST / HTTP/1.1\r\nTransfer-Encoding: identity, chunked\r\n\r\n0\r\n\r\n'
def wTeIdentity : Bytes :=
  [80,79,83,84,32,47,32,72,84,84,80,47,49,46,49,13,10,84,114,97,110,115,102,101,114,45,69,110,99,111,100,105,110,103,58,32,105,100,101,110,116,105,116,121,44,32,99,104,117,110,107,101,100,13,10,13,10,48,13,10,13,10]
-- 'POST / HTTP/1.1\r\nTransfer-Encoding: chunked\r\nTransfer-Encoding: gzip\r\n\r\n0\r\n\r\n'
def wTeSecond : Bytes :=
  [80,79,83,84,32,47,32,72,84,84,80,47,49,46,49,13,10,84,114,97,110,115,102,101,114,45,69,110,99,111,100,105,110,103,58,32,99,104,117,110,107,101,100,13,10,84,114,97,110,115,102,101,114,45,69,110,99,111,100,105,110,103,58,32,103,122,105,112,13,10,13,10,48,13,10,13,10]
-- 'POST / HTTP/1.1\r\nTransfer-Encoding: chunâ\x84ªed\r\n\r\n0\r\n\r\n'
def wTeKelvin : Bytes :=
  [80,79,83,84,32,47,32,72,84,84,80,47,49,46,49,13,10,84,114,97,110,115,102,101,114,45,69,110,99,111,100,105,110,103,58,32,99,104,117,110,226,132,170,101,100,13,10,13,10,48,13,10,13,10]
-- 'POST / HTTP/1.1\r\nFoo Bar: x\r\n\r\n'
def wBadName : Bytes :=
  [80,79,83,84,32,47,32,72,84,84,80,47,49,46,49,13,10,70,111,111,32,66,97,114,58,32,120,13,10,13,10]

theorem C24_witness_ws_before_colon :
    codeAccepts wWsColon = true ∧ rfcRejectsWith wWsColon "ws-before-colon" = true := by
  constructor <;> decide +kernel
theorem C24_witness_obs_fold :
    codeAccepts wObsFold = true ∧ rfcRejectsWith wObsFold "obs-fold" = true := by
  constructor <;> decide +kernel
theorem C24_witness_leading_ws_line :
    codeAccepts wLeadWs = true ∧ rfcRejectsWith wLeadWs "leading-ws-line" = true := by
  constructor <;> decide +kernel
theorem C24_witness_bare_lf :
    codeAccepts wBareLF = true ∧ rfcRejectsWith wBareLF "bare-lf" = true := by
  constructor <;> decide +kernel
theorem C24_witness_te_identity :
    codeAccepts wTeIdentity = true ∧ rfcRejectsWith wTeIdentity "te-identity" = true := by
  constructor <;> decide +kernel
theorem C24_witness_te_second_line :
    codeAccepts wTeSecond = true ∧ rfcRejectsWith wTeSecond "te-second-line" = true := by
  constructor <;> decide +kernel
theorem C24_witness_te_non_ascii :
    codeAccepts wTeKelvin = true ∧ rfcRejectsWith wTeKelvin "te-non-ascii" = true := by
  constructor <;> decide +kernel
theorem C24_witness_bad_name_byte :
    codeAccepts wBadName = true ∧ rfcRejectsWith wBadName "bad-name-byte" = true := by
  constructor <;> decide +kernel

theorem C24_full_fails : ¬ C24_full := by
  intro h
  obtain ⟨q, r, hq⟩ := h wWsColon C24_witness_ws_before_colon.1
  have := C24_witness_ws_before_colon.2
  unfold rfcRejectsWith at this
  rw [hq] at this
  cases this

/-- the smuggling effect of the first witness: bfe frames the request with length 0 (the 5 body bytes start the
    next request), while the field a lenient peer reads says 5. -/
theorem C24_witness_ws_before_colon_framing :
    (readRequestHead wWsColon).map (fun p => p.1.framing) = some (.length 0) := by decide +kernel
example : cleanRequest wWsColon = false := by decide +kernel

/-! ### repaired defects: the model of the fixed code rejects the former witnesses -/
-- 'POST / HTTP/1.1\r\nContent-Length: +5\r\n\r\nhello'
def wClPlus : Bytes :=
  [80,79,83,84,32,47,32,72,84,84,80,47,49,46,49,13,10,67,111,110,116,101,110,116,45,76,101,110,103,116,104,58,32,43,53,13,10,13,10,104,101,108,108,111]
-- 'POST / HTTP/1.1\r\nContent-Length: 5\r\nContent-Length: 6\r\n\r\nhelloX'
def wClDup : Bytes :=
  [80,79,83,84,32,47,32,72,84,84,80,47,49,46,49,13,10,67,111,110,116,101,110,116,45,76,101,110,103,116,104,58,32,53,13,10,67,111,110,116,101,110,116,45,76,101,110,103,116,104,58,32,54,13,10,13,10,104,101,108,108,111,88]
theorem C24_fixed_cl_sign : codeAccepts wClPlus = false := by decide +kernel
theorem C24_fixed_cl_conflict : codeAccepts wClDup = false := by decide +kernel

end BfeVerif.C24
