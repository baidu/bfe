import BfeVerif.C24.Model
import BfeVerif.C23.Proofs
/-!
  bfe's request reader agrees with the RFC parser on clean streams, layer by layer: lines (`readLine_of_rfcLine`),
  header block (`fields_agree`), framing (`framing_agree`), chunked body (`chunked_strict`), trailer
  (`trailer_agree`), put together in `same_boundaries`; then segmentation independence.
-/
namespace BfeVerif.C24
open BfeVerif.C23 (Bytes)

theorem eq_of_toNat (b : UInt8) (n : Nat) (hn : n < 256) (h : b.toNat = n) : b = UInt8.ofNat n := by
  apply UInt8.toNat_inj.mp
  rw [h]; simp; omega

def rtrim (l : Bytes) : Bytes := (l.reverse.dropWhile isSPHT).reverse

theorem trim_eq (l : Bytes) : trim l = rtrim (l.dropWhile isSPHT) := rfl

theorem rtrim_blank (ws : Bytes) (h : ∀ b ∈ ws, isSPHT b = true) : rtrim ws = [] := by
  unfold rtrim
  rw [← List.append_nil ws.reverse, List.dropWhile_append_of_pos (fun b hb => h b (List.mem_reverse.mp hb))]
  rfl

theorem rtrim_append_cons (a : Bytes) (x : UInt8) (v : Bytes) (hx : isSPHT x = false) :
    rtrim (a ++ x :: v) = a ++ x :: rtrim v := by
  unfold rtrim
  rw [List.reverse_append, List.reverse_cons, List.append_assoc, List.dropWhile_append]
  cases h : v.reverse.dropWhile isSPHT with
  | nil => simp [hx]
  | cons y t => simp

theorem dropWhile_cases {α} (p : α → Bool) (v : List α) : (v.dropWhile p = [] ∧ ∀ b ∈ v, p b = true) ∨
    ∃ ws y l, v = ws ++ y :: l ∧ (∀ b ∈ ws, p b = true) ∧ p y = false ∧ v.dropWhile p = y :: l := by
  have hv := (List.takeWhile_append_dropWhile (p := p) (l := v)).symm
  have hws := C23.mem_takeWhile_p p v
  have hy := List.head?_dropWhile_not p v
  cases hl : v.dropWhile p with
  | nil => rw [hl, List.append_nil] at hv; exact .inl ⟨rfl, hv ▸ hws⟩
  | cons y l => rw [hl] at hv hy; exact .inr ⟨_, y, l, hv, hws, hy, rfl⟩

theorem dropWhile_idem {α} (p : α → Bool) (l : List α) : (l.dropWhile p).dropWhile p = l.dropWhile p := by
  rcases dropWhile_cases p l with ⟨hl, _⟩ | ⟨_, y, t, _, _, hy, hl⟩
  · rw [hl]; rfl
  · rw [hl, List.dropWhile_cons_of_neg (by simp [hy])]

/-- the value as bfe computes it (trailing blanks went with the whole line, then leading blanks) is the
    RFC field value (OWS removed on both sides): the two trims commute -/
theorem value_agree (v : Bytes) : (rtrim v).dropWhile isSPHT = trim v := by
  rw [trim_eq]
  rcases dropWhile_cases isSPHT v with ⟨hl, hall⟩ | ⟨ws, y, l, rfl, hws, hy, hl⟩
  · rw [hl, rtrim_blank v hall]; rfl
  · rw [hl, rtrim_append_cons ws y l hy, show y :: l = [] ++ y :: l from rfl, rtrim_append_cons [] y l hy,
      List.dropWhile_append_of_pos hws, List.dropWhile_cons_of_neg (by simp [hy])]
    rfl

theorem rtrim_idem (v : Bytes) : rtrim (rtrim v) = rtrim v := by
  unfold rtrim
  rw [List.reverse_reverse, dropWhile_idem]

theorem trim_idem (v : Bytes) : trim (trim v) = trim v := by
  rw [trim_eq, trim_eq, value_agree, trim_eq, dropWhile_idem, rtrim_idem]

theorem splitAt1_spec (c : Nat) (l a b : Bytes) (h : splitAt1 c l = some (a, b)) :
    ∃ x, x.toNat = c ∧ l = a ++ x :: b ∧ ∀ y ∈ a, y.toNat ≠ c := by
  fun_induction splitAt1 c l generalizing a with
  | case2 y t hy => cases h; exact ⟨y, hy, rfl, by simp⟩
  | case4 y t hy a' b' hs ih =>
    cases h
    obtain ⟨x, hx, rfl, hall⟩ := ih a' hs
    exact ⟨x, hx, rfl, List.forall_mem_cons.mpr ⟨hy, hall⟩⟩
  | _ => cases h

theorem splitAt1_of_shape (c : Nat) (a : Bytes) (x : UInt8) (b : Bytes) (hx : x.toNat = c)
    (h : ∀ y ∈ a, y.toNat ≠ c) : splitAt1 c (a ++ x :: b) = some (a, b) := by
  induction a with
  | nil => simp [splitAt1, hx]
  | cons y t ih =>
    obtain ⟨hy, ht⟩ := List.forall_mem_cons.mp h
    simp only [List.cons_append, splitAt1, hy, if_false]
    rw [ih ht]

theorem rfcLine_split (s l r : Bytes) (h : rfcLine s = .ok (l, r)) : C23.splitLF s = some (l ++ [13], r) := by
  fun_induction rfcLine s generalizing l with
  | case3 b h10 h13 c r' hc =>
    cases h
    rw [C23.splitLF, if_neg h10, C23.splitLF, if_pos hc, (C23.crlf_of_toNat ⟨h13, hc⟩).1]
    rfl
  | case7 b t h10 h13 l' r' hrec ih =>
    cases h
    rw [C23.splitLF, if_neg h10, ih l' hrec]
    rfl
  | _ => cases h

theorem dropLastCR_append (l : Bytes) : dropLastCR (l ++ [13]) = l := by
  unfold dropLastCR
  simp

theorem readLine_of_split (s l r : Bytes) (h : C23.splitLF s = some (l, r)) :
    readLine s = some (dropLastCR l, r) := by
  unfold readLine
  cases s with
  | nil => simp [C23.splitLF] at h
  | cons a t => simp only [h]

theorem readLine_of_rfcLine (s l r : Bytes) (h : rfcLine s = .ok (l, r)) : readLine s = some (l, r) := by
  rw [readLine_of_split s _ r (rfcLine_split s l r h), dropLastCR_append]

theorem tchar_range (b : UInt8) (h : C23.isTchar b = true) : 33 ≤ b.toNat ∧ b.toNat ≤ 126 := by
  simp only [C23.isTchar, Bool.or_eq_true, Bool.and_eq_true, decide_eq_true_eq] at h
  omega

theorem tchar_not_spht (b : UInt8) (h : C23.isTchar b = true) : isSPHT b = false := by
  have := tchar_range b h
  rw [← Bool.not_eq_true]
  simp only [isSPHT, Bool.or_eq_true, decide_eq_true_eq]
  omega

theorem tchar_token (b : UInt8) (h : C23.isTchar b = true) : isTokenByte b = true := by
  have := tchar_range b h
  simp only [isTokenByte, h, Bool.and_true, decide_eq_true_eq]
  omega

theorem canonLoop_length (k : Bytes) (u : Bool) : (canonLoop k u).length = k.length := by
  induction k generalizing u with
  | nil => rfl
  | cons c t ih => simp [canonLoop, ih]

theorem canonKey_of_tchar (k : Bytes) (h : k.all C23.isTchar = true) : canonKey k = canonLoop k true := by
  unfold canonKey
  have : k.all isTokenByte = true := by
    rw [List.all_eq_true] at h ⊢
    exact fun b hb => tchar_token b (h b hb)
  simp [this]

theorem contLoop_stop (n : Nat) (acc r : Bytes) (h : (r.head?.map isSPHT).getD false = false) :
    contLoop (n + 1) acc r = (acc, r) := by
  cases r with
  | nil => rfl
  | cons b t =>
    have : isSPHT b = false := by simpa using h
    simp [contLoop, this]

theorem ok_of_ite_error {α} {c : Prop} [Decidable c] {e : String} {x : Except String α} {y : α}
    (h : (if c then .error e else x) = .ok y) : ¬ c ∧ x = .ok y := by
  by_cases hc : c
  · rw [if_pos hc] at h; cases h
  · exact ⟨hc, (if_neg hc).symm.trans h⟩

theorem rfcFields_succ {f : Nat} {first : Bool} {s : Bytes} {fs : List Field} {r' : Bytes}
    (h : rfcFields (f + 1) first s = .ok (fs, r')) :
    ∃ line r, rfcLine s = .ok (line, r) ∧
      ((line = [] ∧ fs = [] ∧ r' = r) ∨
       ∃ k v fs0, (r.head?.map isSPHT).getD false = false ∧ splitAt1 58 line = some (k, v) ∧ k.length ≠ 0 ∧
         k.all C23.isTchar = true ∧ rfcFields f false r = .ok (fs0, r') ∧ fs = ⟨asciiLower k, trim v⟩ :: fs0) := by
  rw [rfcFields] at h
  obtain ⟨_, h⟩ := ok_of_ite_error h  -- leading-ws-line
  cases hl : rfcLine s with
  | error e => rw [hl] at h; cases h
  | ok q =>
    obtain ⟨line, r⟩ := q
    rw [hl] at h
    refine ⟨line, r, rfl, ?_⟩
    cases line with
    | nil => cases h; exact .inl ⟨rfl, rfl, rfl⟩
    | cons b0 l0 =>
      obtain ⟨h1, h⟩ := ok_of_ite_error h  -- obs-fold
      cases hsp : splitAt1 58 (b0 :: l0) with
      | none => rw [hsp] at h; cases h
      | some kv =>
        obtain ⟨k, v⟩ := kv
        rw [hsp] at h
        obtain ⟨hk0, h⟩ := ok_of_ite_error h  -- empty-name
        obtain ⟨_, h⟩ := ok_of_ite_error h  -- ws-before-colon
        obtain ⟨hkt, h⟩ := ok_of_ite_error h  -- bad-name-byte
        obtain ⟨_, h⟩ := ok_of_ite_error h  -- ctl-in-value
        cases hrec : rfcFields f false r with
        | error e => rw [hrec] at h; cases h
        | ok q2 =>
          rw [hrec] at h
          cases h
          exact .inr ⟨k, v, q2.1, by simpa using h1, rfl, hk0, Decidable.not_not.mp hkt, rfl, rfl⟩

theorem readHeader_end (g : Nat) (s r : Bytes) (h : readLine s = some ([], r)) :
    readHeader (g + 1) s = some ([], r) := by
  simp [readHeader, readContinued, h]

theorem readHeader_field (g : Nat) (s k v r : Bytes) (x : UInt8) (hx : x.toNat = 58)
    (hrl : readLine s = some (k ++ x :: v, r)) (hk0 : k.length ≠ 0) (hkt : k.all C23.isTchar = true)
    (hk58 : ∀ y ∈ k, y.toNat ≠ 58) (hstop : (r.head?.map isSPHT).getD false = false) :
    readHeader (g + 1) s = (readHeader g r).map (fun p => (⟨canonKey k, trim v⟩ :: p.1, p.2)) := by
  have hx58 : isSPHT x = false := by unfold isSPHT; simp [hx]
  obtain ⟨k0, k', rfl⟩ := List.exists_cons_of_length_pos (Nat.pos_of_ne_zero hk0)
  have hk0t : isSPHT k0 = false := tchar_not_spht k0 (List.all_eq_true.mp hkt k0 (by simp))
  -- trimming the whole line only trims the value on the right
  have htrim : trim (k0 :: k' ++ x :: v) = k0 :: k' ++ x :: rtrim v := by
    rw [trim_eq]
    rw [show (k0 :: k' ++ x :: v).dropWhile isSPHT = k0 :: k' ++ x :: v by simp [hk0t], rtrim_append_cons _ _ _ hx58]
  have hcont : readContinued s = some (k0 :: k' ++ x :: rtrim v, r) := by
    simp only [readContinued, hrl]
    rw [if_neg (by simp), contLoop_stop _ _ _ hstop, htrim]
  have hkey : (canonKey (k0 :: k')).length ≠ 0 := by
    rw [canonKey_of_tchar _ hkt, canonLoop_length]; exact hk0
  rw [readHeader]
  simp only [hcont]
  rw [if_neg (by simp), splitAt1_of_shape 58 _ x (rtrim v) hx hk58]
  dsimp only
  cases readHeader g r with
  | none => rfl
  | some p => dsimp only [Option.map_some]; rw [if_neg hkey, value_agree]

/-- `p` = (name as on the wire, OWS-trimmed value): the field as bfe stores it; `lowerF`: as `rfcFields` does -/
def canonF (p : Bytes × Bytes) : Field := ⟨canonKey p.1, p.2⟩
def lowerF (p : Bytes × Bytes) : Field := ⟨asciiLower p.1, p.2⟩

-- `∀ f2`: request head and trailer call `readHeader` with different fuel
theorem fields_agree (f : Nat) (first : Bool) (s : Bytes) (fs : List Field) (r' : Bytes)
    (h : rfcFields f first s = .ok (fs, r')) :
    ∃ raw : List (Bytes × Bytes), fs = raw.map lowerF ∧
      (∀ p ∈ raw, p.1.length ≠ 0 ∧ p.1.all C23.isTchar = true ∧ trim p.2 = p.2) ∧
      ∀ f2, s.length < f2 → readHeader f2 s = some (raw.map canonF, r') := by
  induction f generalizing first s fs r' with
  | zero => cases h
  | succ f ih =>
    obtain ⟨line, r, hl, hcase⟩ := rfcFields_succ h
    have hrl := readLine_of_rfcLine s line r hl
    have hlen : r.length < s.length := by
      rw [(C23.splitLF_spec s _ r (rfcLine_split s line r hl)).1, List.length_append, List.length_cons]; omega
    rcases hcase with ⟨rfl, rfl, rfl⟩ | ⟨k, v, fs0, hstop, hsp, hk0, hkt, hrec, rfl⟩
    · refine ⟨[], rfl, by simp, fun f2 hf2 => ?_⟩
      obtain ⟨g, rfl⟩ := C23.exists_succ_of_lt hf2
      exact readHeader_end g s _ hrl
    · obtain ⟨raw0, hfs0, hraw0, hread0⟩ := ih false r fs0 r' hrec
      obtain ⟨x, hx, rfl, hk58⟩ := splitAt1_spec 58 _ _ _ hsp
      refine ⟨(k, trim v) :: raw0, by rw [hfs0]; rfl, ?_, fun f2 hf2 => ?_⟩
      · intro p hp
        rcases List.mem_cons.mp hp with rfl | hp
        · exact ⟨hk0, hkt, trim_idem v⟩
        · exact hraw0 p hp
      · obtain ⟨g, rfl⟩ := C23.exists_succ_of_lt hf2
        rw [readHeader_field g s k v r x hx hrl hk0 hkt hk58 hstop, hread0 g (by omega)]
        rfl

/-! What `framing_agree` needs to compare the look-ups: `canonKey k = K` iff the lower-cased names are equal
  (`valuesOf_agree`), and Go's `TrimSpace` / `ToLower` are `trim` / `asciiLower` on plain bytes. -/

theorem toNat_add32 (c : UInt8) (h : c.toNat ≤ 90) : (c + 32).toNat = c.toNat + 32 := by
  rw [UInt8.toNat_add]
  exact Nat.mod_eq_of_lt (by have : (32 : UInt8).toNat = 32 := rfl; omega)

theorem toNat_sub32 (c : UInt8) (h : 97 ≤ c.toNat) : (c - 32).toNat = c.toNat - 32 :=
  UInt8.toNat_sub_of_le c 32 (UInt8.le_iff_toNat_le.mpr (by have : (32 : UInt8).toNat = 32 := rfl; omega))

theorem lower_canonByte (u : Bool) (c : UInt8) : lowerByte (canonByte u c) = lowerByte c := by
  unfold canonByte
  by_cases h1 : u = true ∧ 97 ≤ c.toNat ∧ c.toNat ≤ 122
  · have e := toNat_sub32 c h1.2.1  -- for the `omega`s below
    unfold lowerByte
    rw [if_pos h1, if_pos (by omega), if_neg (by omega), UInt8.sub_add_cancel]
  · rw [if_neg h1]
    by_cases h2 : ¬ u = true ∧ 65 ≤ c.toNat ∧ c.toNat ≤ 90
    · have e := toNat_add32 c h2.2.2
      unfold lowerByte
      rw [if_pos h2, if_neg (by omega), if_pos h2.2]
    · rw [if_neg h2]

theorem canonByte_lower (u : Bool) (c : UInt8) : canonByte u (lowerByte c) = canonByte u c := by
  unfold lowerByte
  by_cases h : 65 ≤ c.toNat ∧ c.toNat ≤ 90
  · have e := toNat_add32 c h.2
    rw [if_pos h]
    unfold canonByte
    cases u
    · rw [if_neg (by simp), if_neg (by omega), if_neg (by simp), if_pos ⟨by simp, h⟩]
    · rw [if_pos ⟨rfl, by omega⟩, if_neg (by omega), if_neg (by simp), UInt8.add_sub_cancel]
  · rw [if_neg h]

theorem asciiLower_canonLoop (k : Bytes) (u : Bool) : asciiLower (canonLoop k u) = asciiLower k := by
  induction k generalizing u with
  | nil => rfl
  | cons c t ih =>
    simp only [canonLoop, asciiLower, List.map_cons, lower_canonByte]
    exact congrArg _ (ih _)

theorem canonLoop_asciiLower (k : Bytes) (u : Bool) : canonLoop (asciiLower k) u = canonLoop k u := by
  induction k generalizing u with
  | nil => rfl
  | cons c t ih =>
    simp only [asciiLower, List.map_cons, canonLoop, canonByte_lower]
    exact congrArg _ (ih _)

theorem asciiLower_canonKey (k : Bytes) (h : k.all C23.isTchar = true) :
    asciiLower (canonKey k) = asciiLower k := by
  rw [canonKey_of_tchar k h, asciiLower_canonLoop]

/-- `hK`: `K` is in canonical form, as `sTE` and `sCL` are -/
theorem canonKey_eq_iff (k K : Bytes) (h : k.all C23.isTchar = true) (hK : canonLoop (asciiLower K) true = K) :
    canonKey k = K ↔ asciiLower k = asciiLower K := by
  constructor
  · intro e; rw [← e, asciiLower_canonKey k h]
  · intro e; rw [canonKey_of_tchar k h, ← canonLoop_asciiLower, e, hK]

theorem canon_lower_sTE : canonLoop (asciiLower sTE) true = sTE := by decide +kernel
theorem canon_lower_sCL : canonLoop (asciiLower sCL) true = sCL := by decide +kernel

theorem valuesOf_map (F : Bytes × Bytes → Field) (raw : List (Bytes × Bytes)) (N : Bytes) :
    valuesOf (raw.map F) N = (raw.filter fun p => (F p).name = N).map fun p => (F p).value := by
  unfold valuesOf
  rw [List.filter_map, List.map_map]
  rfl

theorem valuesOf_agree (K : Bytes) (hK : canonLoop (asciiLower K) true = K) (raw : List (Bytes × Bytes))
    (h : ∀ p ∈ raw, p.1.all C23.isTchar = true) :
    valuesOf (raw.map canonF) K = valuesOf (raw.map lowerF) (asciiLower K) := by
  have hf : ∀ p ∈ raw, decide ((canonF p).name = K) = decide ((lowerF p).name = asciiLower K) :=
    fun p hp => decide_eq_decide.mpr (canonKey_eq_iff p.1 K (h p hp) hK)
  rw [valuesOf_map, valuesOf_map, List.filter_congr hf]
  rfl

theorem mem_valuesOf_lower (raw : List (Bytes × Bytes)) (N v : Bytes)
    (h : v ∈ valuesOf (raw.map lowerF) N) : ∃ p ∈ raw, p.2 = v := by
  rw [valuesOf_map] at h
  obtain ⟨p, hp, e⟩ := List.mem_map.mp h
  exact ⟨p, (List.mem_filter.mp hp).1, e⟩

theorem plain_range (b : UInt8) (h : isPlainByte b = true) : b.toNat = 9 ∨ (32 ≤ b.toNat ∧ b.toNat ≤ 126) := by
  simpa only [isPlainByte, Bool.or_eq_true, Bool.and_eq_true, decide_eq_true_eq] using h

theorem plain_space (b : UInt8) (h : isPlainByte b = true) : isAsciiSpace b = isSPHT b := by
  have := plain_range b h
  simp only [isAsciiSpace, isSPHT]
  rw [Bool.eq_iff_iff]
  simp only [Bool.or_eq_true, Bool.and_eq_true, decide_eq_true_eq]
  omega

theorem plain_lt (b : UInt8) (h : isPlainByte b = true) : b.toNat < 128 := by
  have := plain_range b h
  omega

theorem uni_heads : uniSpaces.all (fun u => match u.head? with | some x => decide (x.toNat ≥ 128) | none => false) = true := by
  decide +kernel
theorem uni_lasts : uniSpaces.all (fun u => match u.reverse.head? with | some x => decide (x.toNat ≥ 128) | none => false) = true := by
  decide +kernel

/-- `g = id` reads the multi-byte spaces forwards, `g = reverse` backwards -/
theorem find_uni_none (g : Bytes → Bytes)
    (hg : uniSpaces.all (fun u => match (g u).head? with | some x => decide (x.toNat ≥ 128) | none => false) = true)
    (b : UInt8) (t : Bytes) (hb : b.toNat < 128) :
    uniSpaces.find? (fun u => (g u).isPrefixOf (b :: t)) = none := by
  rw [List.find?_eq_none]
  intro u hu hp
  have hh := (List.all_eq_true.mp hg) u hu
  rcases List.prefix_cons_iff.mp (List.isPrefixOf_iff_prefix.mp hp) with e | ⟨_, e, _⟩
  · rw [e] at hh; simp at hh
  · rw [e] at hh; simp at hh; omega

theorem trimLeftGo_plain (f : Nat) (s : Bytes) (hs : ∀ b ∈ s, isPlainByte b = true) (hf : s.length < f) :
    trimLeftGo f s = s.dropWhile isSPHT := by
  fun_induction trimLeftGo f s with
  | case1 => cases hf
  | case2 => rfl
  | case3 f b t hsp ih =>
    rw [plain_space b (hs b List.mem_cons_self)] at hsp
    rw [List.dropWhile_cons_of_pos hsp]
    exact ih (fun x hx => hs x (List.mem_cons_of_mem _ hx)) (Nat.lt_of_succ_lt_succ hf)
  | case4 f b t hsp u hfind =>
    exact nomatch (find_uni_none id uni_heads b t (plain_lt b (hs b List.mem_cons_self))).symm.trans hfind
  | case5 f b t hsp hfind =>
    rw [plain_space b (hs b List.mem_cons_self)] at hsp
    rw [List.dropWhile_cons_of_neg hsp, hfind]

-- the proof of `trimLeftGo_plain`, with `reverse` for `id`
theorem trimRightGo_plain (f : Nat) (s : Bytes) (hs : ∀ b ∈ s, isPlainByte b = true) (hf : s.length < f) :
    trimRightGo f s = s.dropWhile isSPHT := by
  fun_induction trimRightGo f s with
  | case1 => cases hf
  | case2 => rfl
  | case3 f b t hsp ih =>
    rw [plain_space b (hs b List.mem_cons_self)] at hsp
    rw [List.dropWhile_cons_of_pos hsp]
    exact ih (fun x hx => hs x (List.mem_cons_of_mem _ hx)) (Nat.lt_of_succ_lt_succ hf)
  | case4 f b t hsp u hfind =>
    exact nomatch (find_uni_none List.reverse uni_lasts b t (plain_lt b (hs b List.mem_cons_self))).symm.trans hfind
  | case5 f b t hsp hfind =>
    rw [plain_space b (hs b List.mem_cons_self)] at hsp
    rw [List.dropWhile_cons_of_neg hsp, hfind]

theorem goTrimSpace_plain (s : Bytes) (hs : ∀ b ∈ s, isPlainByte b = true) : goTrimSpace s = trim s := by
  unfold goTrimSpace
  dsimp only
  rw [trimLeftGo_plain _ s hs (Nat.lt_succ_self _)]
  have h2 : ∀ b ∈ (s.dropWhile isSPHT).reverse, isPlainByte b = true :=
    fun x hx => hs x ((List.dropWhile_sublist _).subset (List.mem_reverse.mp hx))
  rw [trimRightGo_plain _ _ h2 (by rw [List.length_reverse]; exact Nat.lt_succ_self _)]
  rfl

theorem goToLower_plain (s : Bytes) (hs : ∀ b ∈ s, isPlainByte b = true) : goToLower s = asciiLower s := by
  fun_induction goToLower s with
  | case1 t _ => exact absurd (plain_lt _ (hs _ List.mem_cons_self)) (by decide)
  | case2 t _ => exact absurd (plain_lt _ (hs _ List.mem_cons_self)) (by decide)
  | case3 b t _ _ ih => rw [ih fun x hx => hs x (List.mem_cons_of_mem _ hx)]; rfl
  | case4 => rfl

theorem splitComma_ne_nil (v : Bytes) : splitComma v ≠ [] := by
  fun_cases splitComma v <;> simp

theorem splitComma_bytes_subset (v e : Bytes) (he : e ∈ splitComma v) : ∀ x ∈ e, x ∈ v := by
  -- case1: `[]`; case2: impossible; case3: comma; case4: other byte
  fun_induction splitComma v generalizing e with
  | case1 => rw [List.mem_singleton.mp he]; exact fun x hx => nomatch hx
  | case2 b t hs ih => rw [List.mem_singleton.mp he]; exact fun x hx => by rw [List.mem_singleton.mp hx]; simp
  | case3 b t h rest hs hb ih =>
    rcases List.mem_cons.mp he with rfl | he
    · exact fun x hx => nomatch hx
    · exact fun x hx => List.mem_cons_of_mem _ (ih e (hs ▸ he) x hx)
  | case4 b t h rest hs hb ih =>
    rcases List.mem_cons.mp he with rfl | he
    · intro x hx
      rcases List.mem_cons.mp hx with rfl | hx
      · exact List.mem_cons_self
      · exact List.mem_cons_of_mem _ (ih h (hs ▸ List.mem_cons_self) x hx)
    · exact fun x hx => List.mem_cons_of_mem _ (ih e (hs ▸ List.mem_cons_of_mem _ he) x hx)

theorem mem_of_mem_trim {e : Bytes} {x : UInt8} (hx : x ∈ trim e) : x ∈ e :=
  (List.dropWhile_sublist _).subset (List.mem_reverse.mp
    ((List.dropWhile_sublist _).subset (List.mem_reverse.mp hx)))

theorem goLowerTrim_plain (e : Bytes) (h : ∀ b ∈ e, isPlainByte b = true) : goToLower (goTrimSpace e) = asciiLower (trim e) := by
  rw [goTrimSpace_plain e h, goToLower_plain _ fun x hx => h x (mem_of_mem_trim hx)]

/-- `teLoop` succeeds only by counting `chunked`s -/
theorem teLoop_plain (es : List Bytes) (n m : Nat)
    (hes : ∀ e ∈ es, (∀ b ∈ e, isPlainByte b = true) ∧ asciiLower (trim e) ≠ sIdentity) (h : teLoop es n = some m) :
    m = n + es.length ∧ ∀ e ∈ es, asciiLower (trim e) = sChunked := by
  fun_induction teLoop es n with
  | case1 n => cases h; exact ⟨rfl, nofun⟩
  | case2 e rest n e' hid =>
    obtain ⟨hp, hne⟩ := hes e List.mem_cons_self
    exact absurd ((goLowerTrim_plain e hp).symm.trans hid) hne
  | case3 => cases h
  | case4 e rest n e' hid hch ih =>
    obtain ⟨hp, _⟩ := hes e List.mem_cons_self
    obtain ⟨rfl, hall⟩ := ih (fun x hx => hes x (List.mem_cons_of_mem _ hx)) h
    exact ⟨Nat.add_right_comm n 1 _,
      List.forall_mem_cons.mpr ⟨(goLowerTrim_plain e hp).symm.trans (Decidable.not_not.mp hch), hall⟩⟩

theorem parseUint63_some (s : Bytes) (n : Nat) :
    parseUint63 s = some n ↔ (s.length ≠ 0 ∧ s.all isDigit = true ∧ n = decNat s ∧ n < 2 ^ 63) := by
  fun_cases parseUint63 s with
  | case1 hc => exact ⟨nofun, fun ⟨h0, ha, _⟩ => hc.elim (absurd · h0) (absurd ha)⟩
  | case2 hc hlt =>
    refine ⟨fun h => ?_, fun ⟨_, _, hn, _⟩ => by rw [hn]⟩
    cases h
    exact ⟨fun h0 => hc (.inl h0), Decidable.not_not.mp fun ha => hc (.inr ha), rfl, hlt⟩
  | case3 hc hlt => exact ⟨nofun, fun ⟨_, _, hn, hl⟩ => absurd (hn ▸ hl) hlt⟩

theorem digit_facts (b : UInt8) (h : isDigit b = true) : b.toNat < 128 ∧ b ≠ 43 ∧ b ≠ 45 := by
  simp only [isDigit, Bool.and_eq_true, decide_eq_true_eq] at h
  refine ⟨by omega, ?_, ?_⟩ <;> (rintro rfl; revert h; decide)

theorem framing_some {fs : List Field} {fr : Framing} (h : framing fs = some fr) :
    (fixTE fs = some true ∧ fr = .chunked) ∨ ∃ n, fixTE fs = some false ∧ fixLen fs = some n ∧ fr = .length n := by
  revert h
  fun_cases framing fs with
  | case2 hte _ => intro h; cases h; exact .inl ⟨hte, rfl⟩
  | case5 hte n hl _ => intro h; cases h; exact .inr ⟨n, hte, hl, rfl⟩
  | _ => intro h; cases h

theorem fixTE_nil {fs : List Field} (hv : valuesOf fs sTE = []) : fixTE fs = some false := by
  unfold fixTE
  rw [hv]

/-- `fixTE` succeeds only on the single coding `chunked` -/
theorem fixTE_plain {fs : List Field} {t0 : Bytes} {more : List Bytes} {b : Bool} (hv : valuesOf fs sTE = t0 :: more)
    (hes : ∀ e ∈ splitComma t0, (∀ b ∈ e, isPlainByte b = true) ∧ asciiLower (trim e) ≠ sIdentity) (h : fixTE fs = some b) :
    b = true ∧ ∃ e, splitComma t0 = [e] ∧ asciiLower (trim e) = sChunked := by
  revert h
  fun_cases fixTE fs with
  | case1 h0 => cases h0.symm.trans hv
  | case2 => nofun
  | case3 => nofun
  | case4 t rest hv' m hl hgt =>
    cases hv.symm.trans hv'
    obtain ⟨rfl, hall⟩ := teLoop_plain _ 0 m hes hl
    match hs : splitComma t0, splitComma_ne_nil t0 with
    | [e], _ => exact fun hb => ⟨(Option.some.inj hb).symm, e, rfl, hall e (hs ▸ List.mem_cons_self)⟩
    | _ :: _ :: _, _ => rw [hs] at hgt; exact absurd (by simp) hgt

theorem fixLen_nil {fs : List Field} (hv : valuesOf fs sCL = []) : fixLen fs = some 0 := by
  unfold fixLen
  rw [hv]
  rfl

theorem fixLen_cons {fs : List Field} {a : Bytes} {rest : List Bytes} (hv : valuesOf fs sCL = a :: rest) :
    fixLen fs = if ¬ rest.all (fun c => goTrimSpace c = goTrimSpace a) = true then none
      else if (goTrimSpace a).length = 0 then some 0 else parseUint63 (goTrimSpace (goTrimSpace a)) := by
  unfold fixLen
  rw [hv]
  rfl

theorem fixLen_single {fs : List Field} {c : Bytes} (hv : valuesOf fs sCL = [c]) (hg : goTrimSpace c = c)
    (hne : c.length ≠ 0) : fixLen fs = parseUint63 c := by
  rw [fixLen_cons hv, if_neg (by simp), hg, if_neg hne, hg]

theorem rfcFraming_no_te_no_cl {m : Nat} {fs : List Field} (hte : valuesOf fs lTE = []) (hcl : valuesOf fs lCL = []) :
    rfcFraming m fs = .ok (.length 0) := by
  unfold rfcFraming
  rw [hte, hcl]
  rfl

theorem rfcFraming_one_cl {m : Nat} {fs : List Field} {c : Bytes} (hte : valuesOf fs lTE = [])
    (hcl : valuesOf fs lCL = [c]) (hne : c.length ≠ 0) (hdig : c.all isDigit = true) (hlt : decNat c < 2 ^ 63) :
    rfcFraming m fs = .ok (.length (decNat c)) := by
  have hd := List.all_eq_true.mp hdig
  obtain ⟨c0, c', hcc⟩ := List.exists_cons_of_length_pos (Nat.pos_of_ne_zero hne)
  have hc0 := digit_facts c0 (hd c0 (by rw [hcc]; simp))
  -- the guards cl-non-ascii, cl-sign, cl-empty, cl-syntax
  have e1 : ([c].any fun c => c.any fun b => decide (b.toNat ≥ 128)) = false := by
    simp only [List.any_cons, List.any_nil, Bool.or_false]
    rw [List.any_eq_false]
    intro b hb
    have := (digit_facts b (hd b hb)).1
    simp; omega
  have e2 : ([c].any fun c => decide (c.head? = some 43 ∨ c.head? = some 45)) = false := by
    simp [hcc, hc0.2.1, hc0.2.2]
  have e3 : ([c].any fun c => decide (c.length = 0)) = false := by
    simpa using hne
  have e4 : ([c].any fun c => decide (¬ c.all isDigit = true)) = false := by
    simpa using hd
  unfold rfcFraming
  rw [hte, hcl]
  simp only [e1, e2, e3, e4, Nat.not_le.mpr hlt, List.any_nil, Bool.false_eq_true, if_false]
  rfl

theorem rfcFraming_chunked {fs : List Field} {t0 e : Bytes} (hte : valuesOf fs lTE = [t0])
    (he : splitComma t0 = [e]) (hc : asciiLower (trim e) = sChunked) : rfcFraming 1 fs = .ok .chunked := by
  unfold rfcFraming
  rw [hte]
  have hcod : (([t0].map splitComma).flatten.map fun e => asciiLower (trim e)).filter
      (fun e => decide (e.length > 0)) = [sChunked] := by
    simp only [List.map_cons, List.map_nil, List.flatten_cons, List.flatten_nil, List.append_nil, he, hc]
    decide
  simp only [hcod, if_true]
  rfl

theorem framing_agree (raw : List (Bytes × Bytes))
    (hraw : ∀ p ∈ raw, p.1.all C23.isTchar = true ∧ trim p.2 = p.2)
    (hclean : cleanFields (raw.map lowerF) = true) (fr : Framing)
    (h : framing (raw.map canonF) = some fr) : rfcFraming 1 (raw.map lowerF) = .ok fr := by
  have hTE : valuesOf (raw.map canonF) sTE = valuesOf (raw.map lowerF) lTE :=
    valuesOf_agree sTE canon_lower_sTE raw (fun p hp => (hraw p hp).1)
  have hCL : valuesOf (raw.map canonF) sCL = valuesOf (raw.map lowerF) lCL :=
    valuesOf_agree sCL canon_lower_sCL raw (fun p hp => (hraw p hp).1)
  unfold cleanFields at hclean
  simp only [Bool.and_eq_true, decide_eq_true_eq, List.all_eq_true] at hclean
  obtain ⟨⟨⟨hte1, hcl1⟩, hteP⟩, hclP⟩ := hclean
  cases htes : valuesOf (raw.map lowerF) lTE with
  | nil =>
    -- no Transfer-Encoding: the Content-Length decides
    rw [htes] at hTE
    rcases framing_some h with ⟨hte, _⟩ | ⟨n, _, hlen, rfl⟩
    · rw [fixTE_nil hTE] at hte; cases hte
    cases hcls : valuesOf (raw.map lowerF) lCL with
    | nil =>
      rw [hcls] at hCL
      rw [fixLen_nil hCL] at hlen
      cases Option.some.inj hlen
      exact rfcFraming_no_te_no_cl htes hcls
    | cons c rest =>
      rw [hcls] at hcl1 hclP hCL
      obtain rfl : rest = [] := List.eq_nil_of_length_eq_zero (by simpa using hcl1)
      obtain ⟨hcp, hcne⟩ := hclP c (by simp)
      obtain ⟨p, hp, rfl⟩ := mem_valuesOf_lower raw lCL c (by rw [hcls]; simp)
      have hg : goTrimSpace p.2 = p.2 := by rw [goTrimSpace_plain p.2 hcp, (hraw p hp).2]
      rw [fixLen_single hCL hg hcne] at hlen
      obtain ⟨_, hdig, rfl, hlt⟩ := (parseUint63_some p.2 n).mp hlen
      exact rfcFraming_one_cl htes hcls hcne hdig hlt
  | cons t0 more =>
    -- one Transfer-Encoding: bfe accepts it only as the single coding `chunked`
    rw [htes] at hte1 hteP hTE
    obtain rfl : more = [] := List.eq_nil_of_length_eq_zero (by simpa using hte1)
    obtain ⟨htp, hni⟩ := hteP t0 (by simp)
    have hes : ∀ e ∈ splitComma t0, (∀ b ∈ e, isPlainByte b = true) ∧ asciiLower (trim e) ≠ sIdentity := fun e he =>
      ⟨fun x hx => htp x (splitComma_bytes_subset t0 e he x hx), by simpa using List.all_eq_true.mp hni e he⟩
    rcases framing_some h with ⟨hte, rfl⟩ | ⟨n, hte, _⟩
    · obtain ⟨_, e, he, hc⟩ := fixTE_plain hTE hes hte
      exact rfcFraming_chunked htes he hc
    · cases (fixTE_plain hTE hes hte).1

theorem strictChunks_eq (f : Nat) (s : Bytes) : strictChunks f s = C23.noExtChunks f s := by
  induction f generalizing s with
  | zero => rfl
  | succ f ih =>
    rw [strictChunks, C23.noExtChunks]
    simp only [ih]
    rfl

theorem chunked_strict (s r2 : Bytes) (h : (C23.decode s).err = .eof)
    (hst : strictChunks (s.length + 1) s = some r2) :
    C23.rfcDechunk false s = .ok (C23.decode s).body (C23.decode s).rest ∧ r2 = (C23.decode s).rest := by
  rw [strictChunks_eq] at hst
  obtain ⟨hc, hr⟩ := ((C23.decodeAux_chunks _ s h).mono C23.GoHdr.rfc).noExt hst
  exact ⟨(hc.mono (C23.StrictHdr.rfc false)).rfc_eq, hr⟩

theorem safe_vchar (b : UInt8) (h : isSafeUriByte b = true) : 33 ≤ b.toNat ∧ b.toNat ≤ 126 := by
  simp only [isSafeUriByte, Bool.or_eq_true, Bool.and_eq_true, decide_eq_true_eq] at h
  omega

theorem uri_accept (t : Bytes) (h : uriClass t = .accept) :
    t.length ≠ 0 ∧ t.all (fun b => decide (33 ≤ b.toNat ∧ b.toNat ≤ 126)) = true := by
  revert h
  fun_cases uriClass t with
  | case3 _ hl hs => subst hs; exact fun _ => by decide
  | case4 _ hl _ hp =>
    exact fun _ => ⟨hl, List.all_eq_true.mpr fun b hb => decide_eq_true (safe_vchar b (List.all_eq_true.mp hp.2 b hb))⟩
  | _ => nofun

theorem te_present_of_rfcFraming_chunked (m : Nat) (fs : List Field) (h : rfcFraming m fs = .ok .chunked) :
    (valuesOf fs lTE).length ≠ 0 := by
  intro h0
  have : valuesOf fs lTE = [] := List.eq_nil_of_length_eq_zero h0
  unfold rfcFraming at h
  simp only [this] at h
  have hne : ∀ x : Except String Nat, x.map Framing.length ≠ .ok .chunked := fun x => by cases x <;> simp [Except.map]
  exact absurd h (hne _)

theorem readTrailer_other (r : Bytes) (h : ∀ r', r ≠ 13 :: 10 :: r') :
    readTrailer r = if r.length < 2 then none else if ¬ hasDoubleCRLF (r.take 4096) then none
      else (readHeader (r.length + 1) r).map (·.2) := by
  unfold readTrailer
  split
  · rename_i r' ; exact absurd rfl (h r')
  · rfl

/-- `readTrailer` in the shape of `readTrailerS`: decide on `Peek(2)` -/
theorem readTrailer_peek (r : Bytes) : readTrailer r =
    match r.take 2 with
    | [a, b] =>
      if a.toNat = 13 ∧ b.toNat = 10 then some (r.drop 2)
      else if ¬ hasDoubleCRLF (r.take 4096) then none
      else (readHeader (r.length + 1) r).map (·.2)
    | _ => none := by
  match r with
  | [] => rfl
  | [_] => rw [readTrailer_other _ fun _ h => by cases h]; rfl
  | a :: b :: r' =>
    show _ = if a.toNat = 13 ∧ b.toNat = 10 then some r' else _
    by_cases hc : a.toNat = 13 ∧ b.toNat = 10
    · obtain ⟨rfl, rfl⟩ := C23.crlf_of_toNat hc
      rfl
    · rw [if_neg hc, readTrailer_other _ fun r'' h => by cases h; exact hc ⟨rfl, rfl⟩]
      rfl

theorem readTrailer_some {r rest : Bytes} (h : readTrailer r = some rest) :
    (readHeader (r.length + 1) r).map (·.2) = some rest := by
  by_cases hc : ∃ r', r = 13 :: 10 :: r'
  · obtain ⟨r', rfl⟩ := hc
    rw [readHeader_end _ _ r' rfl]
    exact h
  · rw [readTrailer_other r fun r' e => hc ⟨r', e⟩] at h
    split at h
    · cases h
    split at h
    · cases h
    exact h

theorem trailer_agree (r2 : Bytes) (tfs : List Field) (r3 rest : Bytes)
    (hf : rfcFields (r2.length + 1) false r2 = .ok (tfs, r3)) (ht : readTrailer r2 = some rest) : rest = r3 := by
  obtain ⟨raw, _, _, hread⟩ := fields_agree _ _ _ _ _ hf
  have h := readTrailer_some ht
  rw [hread _ (Nat.lt_succ_self _)] at h
  exact (Option.some.inj h).symm

theorem cleanRequest_true {s : Bytes} (hc : cleanRequest s = true) :
    ∃ line r0 m rest1 t fs r', rfcLine s = .ok (line, r0) ∧ splitAt1 32 line = some (m, rest1) ∧
      splitAt1 32 rest1 = some (t, sHTTP11) ∧ m.length ≠ 0 ∧ m.all C23.isTchar = true ∧
      rfcFields (r0.length + 1) true r0 = .ok (fs, r') ∧ cleanFields fs = true ∧
      cleanBody (valuesOf fs lTE) r' = true := by
  revert hc
  fun_cases cleanRequest s with
  | case4 line r0 hl m rest1 hs1 t p hs2 =>
    intro hc
    simp only [Bool.and_eq_true, decide_eq_true_eq] at hc
    obtain ⟨⟨⟨hm0, hmt⟩, rfl⟩, hrest⟩ := hc
    cases hf : rfcFields (r0.length + 1) true r0 with
    | error e => rw [hf] at hrest; cases hrest
    | ok x =>
      rw [hf] at hrest
      exact ⟨line, r0, m, rest1, t, x.1, x.2, hl, hs1, hs2, hm0, hmt, hf, Bool.and_eq_true_iff.mp hrest⟩
  | _ => intro hc; cases hc

theorem cleanBody_true {tes : List Bytes} {r' : Bytes} (h : cleanBody tes r' = true) (hte : tes.length ≠ 0) :
    ∃ r2 tfs r3, strictChunks (r'.length + 1) r' = some r2 ∧
      rfcFields (r2.length + 1) false r2 = .ok (tfs, r3) := by
  unfold cleanBody at h
  rw [decide_eq_false hte, Bool.false_or] at h
  cases hsc : strictChunks (r'.length + 1) r' with
  | none => rw [hsc] at h; cases h
  | some r2 =>
    rw [hsc] at h; dsimp only at h
    cases htf : rfcFields (r2.length + 1) false r2 with
    | error e => rw [htf] at h; cases h
    | ok p => exact ⟨r2, p.1, p.2, rfl, htf⟩

theorem readRequestHead_some {s : Bytes} {q : Req} {r : Bytes} (h : readRequestHead s = some (q, r)) :
    ∃ line r0 rest1 fs, readLine s = some (line, r0) ∧ splitAt1 32 line = some (q.method, rest1) ∧
      splitAt1 32 rest1 = some (q.target, q.proto) ∧ uriClass q.target = .accept ∧
      readHeader (r0.length + 1) r0 = some (fs, r) ∧ framing fs = some q.framing ∧ q.keys = fs.map (·.name) := by
  revert h
  fun_cases readRequestHead s with
  | case8 line r0 hrl m rest1 hs1 t p hs2 v hv hu fs r' hrh fr hfr =>
    intro h; cases h
    exact ⟨line, r0, rest1, fs, hrl, hs1, hs2, Decidable.not_not.mp hu, hrh, hfr, rfl⟩
  | _ => intro h; cases h

theorem same_boundaries (s : Bytes) (hc : cleanRequest s = true) (q : Req) (r : Bytes)
    (hh : readRequestHead s = some (q, r)) (body rest : Bytes)
    (hb : readBody q.framing r = (body, some rest)) :
    rfcRequest s = .ok (⟨q.method, q.target, q.keys.map asciiLower, body⟩, rest) := by
  -- both readers cut the same request line and header block (primed: bfe's)
  obtain ⟨line, r0, m, rest1, t, fs, r', hl, hs1, hs2, hm0, hmt, hf, hcf, hcb⟩ := cleanRequest_true hc
  obtain ⟨line', r0', rest1', cfs, hrl, hs1', hs2', hu, hrh, hfr, hkeys⟩ := readRequestHead_some hh
  cases (readLine_of_rfcLine s line r0 hl).symm.trans hrl
  cases hs1.symm.trans hs1'
  obtain ⟨rfl, _⟩ := Prod.mk.inj (Option.some.inj (hs2.symm.trans hs2'))
  obtain ⟨raw, hfs, hraw, hread⟩ := fields_agree _ _ _ _ _ hf
  cases (hread _ (Nat.lt_succ_self _)).symm.trans hrh
  have hrf : rfcFraming 1 fs = .ok q.framing := by
    rw [hfs]; exact framing_agree raw (fun p hp => (hraw p hp).2) (hfs ▸ hcf) _ hfr
  obtain ⟨ht0, htv⟩ := uri_accept _ hu
  have hnames : q.keys.map asciiLower = fs.map (·.name) := by
    rw [hkeys, hfs]
    simp only [List.map_map]
    exact List.map_congr_left fun p hp => asciiLower_canonKey p.1 (hraw p hp).2.1
  unfold rfcRequest
  simp only [hl, hs1, hs2]
  -- the guards method-not-token, target-bytes, version-syntax, minor
  have c1 : ¬ (q.method.length = 0 ∨ ¬ q.method.all C23.isTchar = true) := fun h => h.elim hm0 (· hmt)
  have c2 : ¬ (q.target.length = 0 ∨ ¬ q.target.all (fun b => decide (33 ≤ b.toNat ∧ b.toNat ≤ 126)) = true) :=
    fun h => h.elim ht0 (· htv)
  have c3 : ¬ ¬ (sHTTP11.length = 8 ∧ sHTTP11.take 7 = sHTTP ++ [49, 46] ∧
      (sHTTP11.drop 7).all isDigit = true) := by decide
  have c4 : decNat (sHTTP11.drop 7) = 1 := by decide
  simp only [c1, c2, c3, if_false, c4, hf, hrf]
  cases hq : q.framing with
  | length n =>
    rw [hq] at hb
    simp only [readBody] at hb
    by_cases hlt : r.length < n
    · simp [hlt] at hb
    · simp only [hlt, if_false] at hb ⊢
      obtain ⟨hb1, hb2⟩ := Prod.mk.inj hb
      rw [← hb1, ← Option.some.inj hb2, hnames]
  | chunked =>
    rw [hq] at hb hrf
    simp only [readBody] at hb
    by_cases he : (C23.decode r).err = .eof
    · simp only [he, if_true] at hb
      obtain ⟨hb1, hb2⟩ := Prod.mk.inj hb
      obtain ⟨r2, tfs, r3, hsc, htf⟩ := cleanBody_true hcb (te_present_of_rfcFraming_chunked 1 fs hrf)
      obtain ⟨hd, rfl⟩ := chunked_strict r r2 he hsc
      simp only [hd, htf]
      rw [← hb1, trailer_agree _ tfs r3 rest htf hb2, hnames]
    · simp [he] at hb

/-- the `…S_norm` lemmas read `mapN (fS x) = f (norm x)`, or the same on the components of another result type -/
def mapN {α} (o : Option (α × RS)) : Option (α × Bytes) := o.map (fun p => (p.1, norm p.2))

theorem readLineS_norm (x : RS) : mapN (readLineS x.1 x.2) = readLine (norm x) := by
  obtain ⟨buf, segs⟩ := x
  show mapN (readLineS buf segs) = readLine (buf ++ segs.flatten)
  fun_induction readLineS buf segs with
  | case1 buf =>
    rw [List.flatten_nil, List.append_nil]
    cases readLine buf <;> simp [mapN, norm]
  | case2 buf g rest l r hs =>
    rw [readLine_of_split _ l _ (C23.splitLF_append_some buf l r _ hs)]
    rfl
  | case3 buf g rest hs ih => rw [ih, List.flatten_cons, List.append_assoc]

theorem headS_norm (x : RS) : headS x.1 x.2 = (norm x).head? := by
  obtain ⟨buf, segs⟩ := x
  show headS buf segs = (buf ++ segs.flatten).head?
  fun_induction headS buf segs with
  | case1 => rfl
  | case2 => rfl
  | case3 g rest ih => exact ih

theorem skipS_norm (x : RS) : norm (skipS x.1 x.2) = (norm x).dropWhile isSPHT := by
  obtain ⟨buf, segs⟩ := x
  show norm (skipS buf segs) = (buf ++ segs.flatten).dropWhile isSPHT
  fun_induction skipS buf segs with
  | case1 buf => simp [norm]
  | case2 buf g rest hd ih => rw [List.dropWhile_append, hd]; exact ih
  | case3 buf g rest b t hd => rw [List.dropWhile_append, hd]; rfl

theorem contLoopS_norm (f : Nat) (acc : Bytes) (x : RS) :
    ((contLoopS f acc x).1, norm (contLoopS f acc x).2) = contLoop f acc (norm x) := by
  induction f generalizing acc x with
  | zero => rfl
  | succ f ih =>
    rw [contLoopS, headS_norm]
    cases hn : norm x with
    | nil => rw [contLoop]; dsimp only [List.head?_nil]; rw [hn]
    | cons b t =>
      rw [contLoop]
      dsimp only [List.head?_cons]
      by_cases hb : isSPHT b = true
      · rw [if_pos hb, if_pos hb, ← hn, ← skipS_norm, ← readLineS_norm]
        cases readLineS (skipS x.1 x.2).1 (skipS x.1 x.2).2 with
        | none => rfl
        | some q => exact ih _ q.2
      · rw [if_neg hb, if_neg hb, hn]

theorem readContinuedS_norm (x : RS) : mapN (readContinuedS x) = readContinued (norm x) := by
  rw [readContinued, ← readLineS_norm]
  fun_cases readContinuedS x <;>
    simp only [*, mapN, Option.map_some, Option.map_none, ← contLoopS_norm, if_true, if_false]

theorem readHeaderS_norm (f : Nat) (x : RS) : mapN (readHeaderS f x) = readHeader f (norm x) := by
  -- `symm`: `*` (branch facts, `ih`) is to rewrite the `readHeaderS` side; `zetaDelta`: its `let key`
  symm
  fun_induction readHeaderS f x <;>
    simp +zetaDelta only [readHeader, *, mapN, Option.map_some, Option.map_none, ← readContinuedS_norm,
      if_true, if_false]

theorem takeS_norm (n : Nat) (x : RS) :
    (C23.takeSeg n x.1 x.2).1 = (norm x).take n ∧ norm (C23.takeSeg n x.1 x.2).2 = (norm x).drop n :=
  C23.takeSeg_norm n x.1 x.2

theorem readTrailerS_norm (x : RS) : (readTrailerS x).map norm = readTrailer (norm x) := by
  obtain ⟨p1, p2⟩ := takeS_norm 2 x
  rw [readTrailer_peek, ← p1, ← p2, ← (takeS_norm 4096 x).1, ← readHeaderS_norm, readTrailerS]
  generalize (C23.takeSeg 2 x.1 x.2).1 = pk
  match pk with
  | [] | [_] | _ :: _ :: _ :: _ => rfl
  | [a, b] =>
    dsimp only
    rw [apply_ite (Option.map norm), apply_ite (Option.map norm)]
    cases readHeaderS _ x <;> rfl

theorem readRequestHeadS_norm (x : RS) : mapN (readRequestHeadS x) = readRequestHead (norm x) := by
  rw [readRequestHead, ← readLineS_norm]
  fun_cases readRequestHeadS x <;>
    simp only [*, mapN, Option.map_some, Option.map_none, ← readHeaderS_norm, ne_eq, not_false_eq_true,
      if_true, if_false]

theorem readBodyS_norm (fr : Framing) (x : RS) :
    ((readBodyS fr x).1, (readBodyS fr x).2.map norm) = readBody fr (norm x) := by
  cases fr with
  | length n =>
    obtain ⟨d1, d2⟩ := takeS_norm n x
    simp only [readBodyS, readBody, d1]
    by_cases hlt : (norm x).length < n
    · simp only [hlt, if_true, Option.map_none, List.take_of_length_le (Nat.le_of_lt hlt)]
    · have : ¬ (List.take n (norm x)).length < n := by
        rw [List.length_take_of_le (Nat.le_of_not_lt hlt)]; exact Nat.lt_irrefl _
      simp only [this, hlt, if_false, Option.map_some, d2]
  | chunked =>
    have hd : (C23.decodeSegS x.1 x.2).toRes = C23.decode (norm x) := C23.decodeSegAux_eq _ x.1 x.2
    rw [readBodyS, readBody, ← hd]
    simp only [C23.ResS.toRes]
    by_cases he : (C23.decodeSegS x.1 x.2).err = .eof
    · simp only [he, if_true, readTrailerS_norm]; rfl
    · simp only [he, if_false, Option.map_none]

theorem parseOneS_eq (segs : List Bytes) : parseOneS segs = parseOne segs.flatten := by
  rw [parseOneS, parseOne, show segs.flatten = norm ([], segs) from rfl, ← readRequestHeadS_norm]
  cases readRequestHeadS ([], segs) with
  | none => rfl
  | some q => dsimp only [mapN, Option.map_some]; rw [← readBodyS_norm]

end BfeVerif.C24
