import BfeVerif.C50.Model
/-! C50 — the model's `split` / `join` are core's `List.splitOn` / `List.intercalate` (`split_eq`, `join_eq`), so that
    `filepath.Join`'s re-split of the joined clean elements gives them back by `List.splitOn_intercalate`
    (`joinSegs_of_normal`): every path opened is the root followed by ordinary elements. -/
namespace BfeVerif.C50

/-- an ordinary path element: what `path.Clean` keeps as it is -/
def Normal (s : Str) : Prop := s ≠ [] ∧ s ≠ dot ∧ s ≠ dotdot ∧ slash ∉ s

theorem normalSeg_iff (s : Str) : normalSeg s = true ↔ Normal s := by
  unfold normalSeg Normal
  simp [bne_iff_ne, and_assoc]

theorem split_eq (p : Str) : split p = p.splitOn slash := by
  induction p with
  | nil => rfl
  | cons c cs ih =>
    rw [split, ih, List.splitOn_cons_eq_if_modifyHead]
    cases h : cs.splitOn slash with
    | nil => exact absurd h (List.splitOn_ne_nil _ _)
    | cons => rfl

theorem join_eq (segs : List Str) : join segs = [slash].intercalate segs := by
  fun_induction join segs with
  | case1 => rfl
  | case2 x => exact List.intercalate_singleton.symm
  | case3 x y t ih => rw [ih, List.intercalate_cons_cons, List.append_assoc]; rfl

theorem not_mem_of_mem_splitOn {α : Type} [BEq α] [LawfulBEq α] (a : α) (l : List α) :
    ∀ s ∈ l.splitOn a, a ∉ s := by
  induction l with
  | nil => exact fun s hs => List.mem_singleton.mp hs ▸ List.not_mem_nil
  | cons x xs ih =>
    rw [List.splitOn_cons_eq_if_modifyHead]
    split
    · exact List.forall_mem_cons.mpr ⟨List.not_mem_nil, ih⟩
    · rename_i hx
      cases h : xs.splitOn a with
      | nil => exact nofun
      | cons hd tl =>
        obtain ⟨hh, ht⟩ := List.forall_mem_cons.mp (h ▸ ih)
        exact List.forall_mem_cons.mpr
          ⟨fun hm => (List.mem_cons.mp hm).elim (fun e => hx (beq_iff_eq.mpr e.symm)) hh, ht⟩

theorem cleanStep_keeps_normal (st : List Str) (s : Str) (hst : ∀ x ∈ st, Normal x) (hs : slash ∉ s) :
    ∀ x ∈ cleanStep true st s, Normal x := by
  unfold cleanStep
  by_cases h1 : (s == [] || s == dot) = true
  · rw [if_pos h1]; exact hst
  · rw [if_neg h1]
    by_cases h2 : (s == dotdot) = true
    · -- `..` pops the top element, which is ordinary and so not `..` itself
      rw [if_pos h2]
      cases st with
      | nil => exact hst
      | cons top rest =>
        obtain ⟨_, _, hdd, _⟩ := hst top List.mem_cons_self
        have htop : ¬ (top == dotdot) = true := fun e => hdd (beq_iff_eq.mp e)
        dsimp only
        rw [if_neg htop]
        exact fun x hx => hst x (List.mem_cons_of_mem _ hx)
    · rw [if_neg h2]
      simp only [Bool.or_eq_true, beq_iff_eq, not_or] at h1
      exact List.forall_mem_cons.mpr ⟨⟨h1.1, h1.2, fun e => h2 (beq_iff_eq.mpr e), hs⟩, hst⟩

theorem cleanSegs_normal (segs : List Str) (hs : ∀ s ∈ segs, slash ∉ s) :
    ∀ x ∈ cleanSegs true segs, Normal x := fun x hx =>
  List.foldlRecOn segs (cleanStep true) (motive := fun st => ∀ x ∈ st, Normal x) (fun _ h => absurd h List.not_mem_nil)
    (fun st hst s hmem => cleanStep_keeps_normal st s hst (hs s hmem)) x (List.mem_reverse.mp hx)

theorem cleanStep_of_normal {s : Str} (h : Normal s) (st : List Str) : cleanStep true st s = s :: st := by
  obtain ⟨h1, h2, h3, _⟩ := h
  simp [cleanStep, h1, h2, h3]

theorem cleanSegs_append_of_normal (A B : List Str) (h : ∀ s ∈ B, Normal s) :
    cleanSegs true (A ++ B) = cleanSegs true A ++ B := by
  induction B generalizing A with
  | nil => simp
  | cons s rest ih =>
    have push : cleanSegs true (A ++ [s]) = cleanSegs true A ++ [s] := by
      unfold cleanSegs
      rw [List.foldl_append, List.foldl_cons, List.foldl_nil, cleanStep_of_normal (h s List.mem_cons_self),
        List.reverse_cons]
    rw [List.append_cons, ih _ fun s' h' => h s' (List.mem_cons_of_mem _ h'), push, List.append_assoc]
    rfl

theorem cleanSegs_append_empty (A : List Str) : cleanSegs true (A ++ [[]]) = cleanSegs true A := by
  unfold cleanSegs
  rw [List.foldl_append]
  simp [cleanStep]

theorem joinSegs_of_normal (dir : Str) (segs : List Str) (h : ∀ s ∈ segs, Normal s) :
    joinSegs dir (join segs) = cleanSegs true (split dir) ++ segs := by
  unfold joinSegs
  rw [split_eq, split_eq, List.splitOn_append_cons_self, join_eq]
  by_cases hne : segs = []
  · subst hne
    rw [List.intercalate_nil, List.splitOn_nil, List.append_nil]
    exact cleanSegs_append_empty _
  · rw [List.splitOn_intercalate slash (fun s hs => (h s hs).2.2.2) hne]   -- the last part of `Normal`: no slash
    exact cleanSegs_append_of_normal _ _ h

theorem relSegs_normal (name : Str) : ∀ s ∈ relSegs name, Normal s :=
  cleanSegs_normal _ (split_eq _ ▸ not_mem_of_mem_splitOn slash _)

/-- no symbolic link at this place (nothing, a file or a directory) -/
def NotLink (n : Option Node) : Prop := ∀ t, n ≠ some (Node.link t)

theorem derefAt_of_notLink (t : List Entry) (p : List Str) (h : NotLink (nodeAt t p)) : derefAt t p = p := by
  unfold derefAt
  cases hn : nodeAt t p with
  | none => rfl
  | some n =>
    cases n with
    | file c => rfl
    | dir => rfl
    | link l => exact absurd hn (h l)

theorem nodeAt_notLink (tree : List Entry) (h : ∀ e0 ∈ tree, ∀ t, e0.node ≠ Node.link t) (p : List Str) :
    NotLink (nodeAt tree p) := by
  intro t
  unfold nodeAt
  cases hf : List.find? (fun e => e.path == p) tree with
  | some x =>
    intro heq
    exact h x (List.mem_of_find?_eq_some hf) t (Option.some.inj heq)
  | none =>
    simp only []
    split <;> simp

/-- the hypothesis speaks of the prefixes of the whole `target = pre ++ rest`, since the induction moves elements from
    `rest` to `pre` -/
theorem walk_congr (t1 t2 : List Entry) (target : List Str)
    (h : ∀ p, p <+: target → nodeAt t1 p = nodeAt t2 p ∧ NotLink (nodeAt t1 p))
    (rest pre : List Str) (hp : pre ++ rest = target) : walk t1 pre rest = walk t2 pre rest := by
  induction rest generalizing pre with
  | nil =>
    obtain ⟨hn, hl⟩ := h pre ⟨_, hp⟩
    simp only [walk, derefAt_of_notLink t1 pre hl, derefAt_of_notLink t2 pre (hn ▸ hl), hn]
  | cons s rest ih =>
    obtain ⟨hn, hl⟩ := h pre ⟨_, hp⟩
    simp only [walk, derefAt_of_notLink t1 pre hl, derefAt_of_notLink t2 pre (hn ▸ hl), hn,
      ih (pre ++ [s]) (by rw [← hp, List.append_assoc]; rfl)]

/-- the two configurations have the same sandbox and root, and their trees agree at every place that is an
    ancestor of the root, the root itself, or below the root (they may differ anywhere else); none of these
    places is a symbolic link (a link may lead out of the root: the stated assumption of C50) -/
def AgreeBelowRoot (c1 c2 : Cfg) : Prop :=
  c1.sb = c2.sb ∧ c1.root = c2.root ∧
  ∀ p, (c1.sb ++ p <+: rootSegs c1 ∨ rootSegs c1 <+: c1.sb ++ p) →
    nodeAt c1.tree p = nodeAt c2.tree p ∧ NotLink (nodeAt c1.tree p)

theorem resolve_congr (c1 c2 : Cfg) (h : AgreeBelowRoot c1 c2) (segs : List Str) :
    resolve c1.tree c1.sb (rootSegs c1 ++ segs) = resolve c2.tree c2.sb (rootSegs c2 ++ segs) := by
  obtain ⟨hsb, hroot, hag⟩ := h
  have hrs : rootSegs c2 = rootSegs c1 := by unfold rootSegs; rw [hroot]
  rw [hrs, ← hsb]
  unfold resolve
  split
  · rename_i hp
    obtain ⟨rel, hrel⟩ := List.isPrefixOf_iff_prefix.mp hp
    rw [← hrel, List.drop_left]
    -- a prefix of the path walked is comparable with the root, which is a prefix of it too
    refine walk_congr _ _ rel (fun p hpp => hag p ?_) rel [] rfl
    exact List.prefix_or_prefix_of_prefix (hrel ▸ (List.prefix_append_right_inj _).mpr hpp) (List.prefix_append _ _)
  · rfl

theorem probeSegs_eq (cfg : Cfg) (f : Str) : probeSegs cfg f = rootSegs cfg ++ relSegs f :=
  joinSegs_of_normal _ _ (relSegs_normal f)

theorem openSegs_eq (cfg : Cfg) (f : Str) :
    openSegs cfg f = (dirOpenRel f).map (fun _ => rootSegs cfg ++ relSegs f) := by
  unfold openSegs dirOpenRel
  dsimp only
  split
  · rfl
  · exact congrArg some (joinSegs_of_normal _ _ (relSegs_normal f))

theorem pickVariant_mem (cfg : Cfg) (fname : Str) (encs : List Enc) :
    (pickVariant cfg fname encs).1 ∈ fname :: encs.map fun e => fname ++ e.ext := by
  -- 1 no encoding left; 2 the variant of `e` exists; 3 it does not: try the next
  fun_induction pickVariant cfg fname encs with
  | case1 => exact List.mem_singleton.mpr rfl
  | case2 e es h => exact List.mem_cons_of_mem _ List.mem_cons_self
  | case3 e es h ih =>
    rcases List.mem_cons.mp ih with h | h
    · exact List.mem_cons.mpr (.inl h)
    · exact List.mem_cons_of_mem _ (List.mem_cons_of_mem _ h)

theorem newStaticFile_eq (cfg : Cfg) (f : Str) (encs : List Enc) :
    newStaticFile cfg f encs =
      match dirOpenRel (pickVariant cfg f encs).1 with
      | none => .error Err.invalid
      | some _ =>
        match atRoot cfg (pickVariant cfg f encs).1 with
        | Res.file c => .ok (c, (pickVariant cfg f encs).2)
        | Res.dir => .error Err.isDir
        | Res.notExist => .error Err.notExist
        | Res.tooLong => .error Err.other := by
  unfold newStaticFile atRoot
  simp only [openSegs_eq]
  cases dirOpenRel (pickVariant cfg f encs).1 <;> rfl

theorem pickVariant_congr (c1 c2 : Cfg) (h : AgreeBelowRoot c1 c2) (f : Str) (encs : List Enc) :
    pickVariant c1 f encs = pickVariant c2 f encs := by
  induction encs with
  | nil => rfl
  | cons e es ih =>
    unfold pickVariant probeExists
    rw [probeSegs_eq, probeSegs_eq, resolve_congr c1 c2 h, ih]

theorem newStaticFile_congr (c1 c2 : Cfg) (h : AgreeBelowRoot c1 c2) (f : Str) (encs : List Enc) :
    newStaticFile c1 f encs = newStaticFile c2 f encs := by
  rw [newStaticFile_eq, newStaticFile_eq, pickVariant_congr c1 c2 h]
  unfold atRoot
  rw [resolve_congr c1 c2 h]

/-- the name opened is one of the two `candidateNames` starts from -/
theorem openStaticFile_from (cfg : Cfg) (path : Str) (encs : List Enc) (df : Str) :
    ∃ f ∈ (if df == [] then [path] else [path, df]),
      openStaticFile cfg path encs df = newStaticFile cfg f encs := by
  have hp : path ∈ (if df == [] then [path] else [path, df]) := by split <;> exact List.mem_cons_self
  -- 1 `path` opens; 2 not found or a directory, and there is a default file: open that; 3 any other error
  fun_cases openStaticFile cfg path encs df with
  | case1 r h => exact ⟨path, hp, h.symm⟩
  | case2 e h hc =>
    rw [Bool.and_eq_true, bne_iff_ne, ← beq_eq_false_iff_ne] at hc
    exact ⟨df, by rw [hc.2]; exact List.mem_cons_of_mem _ List.mem_cons_self, rfl⟩
  | case3 e h => exact ⟨path, hp, h.symm⟩

/-- every answer of `serve` (createRespFromStaticFile), by its status; `n` (`file`: `v`, with its encoding) is the name
    the handler settled on; that `v` is a value of `pickVariant` is all that ties its encoding to `encs` -/
inductive Answer (cfg : Cfg) (method path : Str) (encs : List Enc) (df : Str) : Resp → Prop
  | notAllowed : method ≠ sGET → method ≠ sHEAD → Answer cfg method path encs df { status := 405 }
  | file {v c} : method = sGET ∨ method = sHEAD → v.1 ∈ candidateNames path encs df →
      (∃ f, v = pickVariant cfg f encs) → atRoot cfg v.1 = Res.file c →
      Answer cfg method path encs df
        { status := 200, enc := v.2, clen := some c.length, body := if method != sHEAD then c else [] }
  | missing {n} : method = sGET ∨ method = sHEAD → n ∈ candidateNames path encs df →
      (dirOpenRel n).isSome = true → atRoot cfg n = Res.notExist → Answer cfg method path encs df { status := 404 }
  | failed {n} : method = sGET ∨ method = sHEAD → n ∈ candidateNames path encs df →
      dirOpenRel n = none ∨ atRoot cfg n = Res.dir ∨ atRoot cfg n = Res.tooLong →
      Answer cfg method path encs df { status := 500 }

theorem serve_answer (cfg : Cfg) (method path : Str) (encs : List Enc) (df : Str) :
    Answer cfg method path encs df (serve cfg method path encs df) := by
  unfold serve
  split
  next hm =>
    simp only [Bool.and_eq_true, bne_iff_ne] at hm
    exact .notAllowed hm.1 hm.2
  next hm =>
    have hm : method = sGET ∨ method = sHEAD := by
      simp only [Bool.and_eq_true, bne_iff_ne, not_and, Decidable.not_not] at hm
      exact Decidable.or_iff_not_imp_left.mpr hm
    obtain ⟨f, hf, ho⟩ := openStaticFile_from cfg path encs df
    have hn : (pickVariant cfg f encs).1 ∈ candidateNames path encs df :=
      List.mem_flatMap.mpr ⟨f, hf, pickVariant_mem cfg f encs⟩
    rw [ho, newStaticFile_eq]
    cases hd : dirOpenRel (pickVariant cfg f encs).1 with
    | none => exact .failed hm hn (.inl hd)
    | some _ =>
      cases hr : atRoot cfg (pickVariant cfg f encs).1 with
      | file c => exact .file hm hn ⟨f, rfl⟩ hr
      | dir => exact .failed hm hn (.inr (.inl hr))
      | notExist => exact .missing hm hn (hd ▸ rfl) hr
      | tooLong => exact .failed hm hn (.inr (.inr hr))

theorem stableAfter_eq (cs : List SConf) : stableAfter cs = (cs.getLast?.map (·.products)).getD [] := by
  unfold stableAfter
  rcases List.eq_nil_or_concat cs with rfl | ⟨l, c, rfl⟩
  · rfl
  · rw [List.concat_eq_append, List.foldl_append, List.getLast?_concat]
    rfl

theorem ftableAfter_eq (tree : List Entry) (sb : List Str) (cs : List FConf) :
    ftableAfter tree sb cs = ((cs.reverse.find? (fconfOk tree sb)).map (·.toSConf.products)).getD [] := by
  unfold ftableAfter
  rw [List.foldl_eq_foldr_reverse]
  generalize cs.reverse = l
  induction l with
  | nil => rfl
  | cons c l ih =>
    rw [List.foldr_cons, List.find?_cons, fupdate]
    cases fconfOk tree sb c
    · exact ih
    · rfl

theorem mem_acceptedEncodings {ec : Bool} {ae : Str} {e : Enc} :
    e ∈ acceptedEncodings ec ae ↔
      ec = true ∧ hasToken ae (match e with | .gzip => tokGzip | .br => tokBr) = true := by
  unfold acceptedEncodings
  cases ec with
  | false => simp
  | true =>
    -- each of the two lists holds its own coding, and only if the token test succeeded
    rw [if_pos rfl, List.mem_append, List.mem_ite_nil_right, List.mem_ite_nil_right, List.mem_singleton,
      List.mem_singleton]
    cases e <;> simp

end BfeVerif.C50
