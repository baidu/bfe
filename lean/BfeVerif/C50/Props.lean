import BfeVerif.C50.Proofs
/-!
  C50 — static file serving stays inside the document root.
-/
namespace BfeVerif.C50

/-- **path.Clean of a rooted path**: every element that survives is an ordinary name — not empty, not `.`,
    not `..`, no separator — whatever the input bytes are. -/
theorem C50_clean_rooted_normal (name : Str) : ∀ s ∈ relSegs name, Normal s :=
  relSegs_normal name

/-- lexical containment: for every request path, if `http.Dir(root).Open` gets as far
    as `os.Open`, the path it opens is the (cleaned) document root followed by ordinary elements only:
    `root ++ "/" ++ seg₁ ++ "/" ++ … ` with no `..`, `.`, empty element or separator inside an element. -/
theorem C50_under_root (cfg : Cfg) (fname : Str) (full : List Str) (h : openSegs cfg fname = some full) :
    ∃ segs, full = rootSegs cfg ++ segs ∧ ∀ s ∈ segs, Normal s := by
  rw [openSegs_eq] at h
  obtain ⟨_, _, rfl⟩ := Option.map_eq_some_iff.mp h
  exact ⟨_, rfl, relSegs_normal fname⟩

/-- the same for the existence probe of the `.gz` / `.br` variants: every file-system
    access of the handler stays below the document root. -/
theorem C50_probe_under_root (cfg : Cfg) (fname : Str) :
    ∃ segs, probeSegs cfg fname = rootSegs cfg ++ segs ∧ ∀ s ∈ segs, Normal s :=
  ⟨relSegs fname, probeSegs_eq cfg fname, relSegs_normal fname⟩

/-- a 200 response carries exactly the bytes of a regular file located below the
    document root (none for HEAD), and Content-Length is that file's size. -/
theorem C50_served_under_root (cfg : Cfg) (method path : Str) (encs : List Enc) (df : Str)
    (h : (serve cfg method path encs df).status = 200) :
    ∃ segs c, (∀ s ∈ segs, Normal s) ∧ resolve cfg.tree cfg.sb (rootSegs cfg ++ segs) = Res.file c ∧
      (serve cfg method path encs df).clen = some c.length ∧
      (serve cfg method path encs df).body = (if method = sHEAD then [] else c) := by
  have a := serve_answer cfg method path encs df
  generalize serve cfg method path encs df = r at a h
  cases a with
  | @file v c _ _ _ hr =>
    refine ⟨_, c, relSegs_normal v.1, hr, rfl, ?_⟩
    by_cases hh : method = sHEAD <;> simp [hh]
  | _ => cases h

/-- only GET and HEAD are served; every other method gets a bare 405. -/
theorem C50_methods (cfg : Cfg) (method path : Str) (encs : List Enc) (df : Str) :
    (method ≠ sGET ∧ method ≠ sHEAD → serve cfg method path encs df = { status := 405 }) ∧
    ((serve cfg method path encs df).status = 200 → method = sGET ∨ method = sHEAD) := by
  have a := serve_answer cfg method path encs df
  generalize serve cfg method path encs df = r at a
  cases a with
  | notAllowed => exact ⟨fun _ => rfl, nofun⟩
  | file hm | missing hm | failed hm => exact ⟨fun ⟨h1, h2⟩ => absurd hm (not_or.mpr ⟨h1, h2⟩), fun _ => hm⟩

/-- when neither the requested file, nor an accepted encoded variant of it, nor the default
    file (or its variants) exists below the root, and the names are acceptable to `http.Dir`, a GET/HEAD
    is answered 404 with no body. -/
theorem C50_404 (cfg : Cfg) (method path : Str) (encs : List Enc) (df : Str)
    (hm : method = sGET ∨ method = sHEAD)
    (h : ∀ n ∈ candidateNames path encs df, atRoot cfg n = Res.notExist ∧ (dirOpenRel n).isSome = true) :
    serve cfg method path encs df = { status := 404 } := by
  have a := serve_answer cfg method path encs df
  generalize serve cfg method path encs df = r at a
  cases a with
  | notAllowed h1 h2 => exact absurd hm (not_or.mpr ⟨h1, h2⟩)
  | file _ hn _ hr => exact nomatch (h _ hn).1.symm.trans hr
  | missing => rfl
  | failed _ hn hc =>
    obtain ⟨h1, h2⟩ := h _ hn
    rcases hc with hc | hc | hc
    · rw [hc] at h2; cases h2
    · exact nomatch h1.symm.trans hc
    · exact nomatch h1.symm.trans hc

/-! Non-vacuity and the classic traversal attempts -/
-- "/../../secret.txt" resolves to <root>/secret.txt
example : relSegs [0x2f, 0x2e, 0x2e, 0x2f, 0x2e, 0x2e, 0x2f, 0x73] = [[0x73]] := by decide +kernel
-- "a/./b//../c/" -> a/c
example : clean [0x61, 0x2f, 0x2e, 0x2f, 0x62, 0x2f, 0x2f, 0x2e, 0x2e, 0x2f, 0x63, 0x2f] = [0x61, 0x2f, 0x63] := by decide +kernel
-- "../../x" (unrooted) keeps the leading dot-dots; "/../x" (rooted) does not
example : clean [0x2e, 0x2e, 0x2f, 0x2e, 0x2e, 0x2f, 0x78] = [0x2e, 0x2e, 0x2f, 0x2e, 0x2e, 0x2f, 0x78] := by decide +kernel
example : clean [0x2f, 0x2e, 0x2e, 0x2f, 0x78] = [0x2f, 0x78] := by decide +kernel
example : Normal [0x61] := by unfold Normal; decide

def exCfg : Cfg :=
  { tree := [{ path := [[0x72], [0x61]], node := Node.file [1, 2, 3] }, { path := [[0x73]], node := Node.file [9] }],
    sb := [[0x53]], root := [0x2f, 0x53, 0x2f, 0x72] }   -- sandbox /S, root /S/r holding a; /S/s is outside
-- GET /x/../a is served from the root
example : serve exCfg sGET [0x2f, 0x78, 0x2f, 0x2e, 0x2e, 0x2f, 0x61] [] [] =
    { status := 200, clen := some 3, body := [1, 2, 3] } := by decide +kernel
-- GET /../s stays inside: /S/r/s does not exist, so 404 (the hypotheses of C50_404 hold)
example : ∀ n ∈ candidateNames [0x2f, 0x2e, 0x2e, 0x2f, 0x73] [] [],
    atRoot exCfg n = Res.notExist ∧ (dirOpenRel n).isSome = true := by decide +kernel
example : serve exCfg sGET [0x2f, 0x2e, 0x2e, 0x2f, 0x73] [] [] = { status := 404 } := by decide +kernel
example : validUtf8 [0xc3, 0xa9] = true ∧ validUtf8 [0xff] = false ∧ validUtf8 [0xed, 0xa0, 0x80] = false := by decide +kernel

/-- non-interference: two file trees that agree on the way to the document
    root and everywhere below it — and differ arbitrarily elsewhere: sentinel files, `.gz` twins next to the
    root, sibling directories — give every request the same status, Content-Encoding, Content-Length and
    body.  (Holds for the tree with fixes/C50-probe-under-root.md: the variant probe is rooted.) -/
theorem C50_outside_root_irrelevant (c1 c2 : Cfg) (h : AgreeBelowRoot c1 c2)
    (method path : Str) (encs : List Enc) (df : Str) :
    serve c1 method path encs df = serve c2 method path encs df := by
  unfold serve openStaticFile
  rw [newStaticFile_congr c1 c2 h path encs, newStaticFile_congr c1 c2 h df encs]

/-- a syntactic way to obtain `AgreeBelowRoot`: adding any entry whose place is neither on the way to the
    root nor below it (a file outside the root) to a tree in which the root directory exists.  (The driver's class
    `outside-root-influence` compares with `serve (restrict cfg)`, which drops all such entries at once:
    `AgreeBelowRoot cfg (restrict cfg)` is not proved.) -/
theorem C50_agree_add_outside (cfg : Cfg) (e : Entry) (rootRel : List Str)
    (hroot : rootSegs cfg = cfg.sb ++ rootRel)
    (hexists : ∃ e0 ∈ cfg.tree, rootRel <+: e0.path)
    (hout : ¬ (e.path <+: rootRel) ∧ ¬ (rootRel <+: e.path))
    (hnolink : ∀ e0 ∈ cfg.tree, ∀ t, e0.node ≠ Node.link t) :
    AgreeBelowRoot cfg { cfg with tree := cfg.tree ++ [e] } := by
  refine ⟨rfl, rfl, ?_⟩
  intro p hp
  refine ⟨?_, nodeAt_notLink cfg.tree hnolink p⟩
  rw [hroot] at hp
  have hp' : p <+: rootRel ∨ rootRel <+: p :=
    hp.imp (List.prefix_append_right_inj _).mp (List.prefix_append_right_inj _).mp
  have hne : (e.path == p) = false :=
    beq_eq_false_iff_ne.mpr fun heq => hp'.elim (fun h => hout.1 (heq ▸ h)) fun h => hout.2 (heq ▸ h)
  unfold nodeAt
  simp only [List.find?_append, List.find?_cons, hne, List.find?_nil, Option.or_none]
  cases hf : List.find? (fun e => e.path == p) cfg.tree with
  | some x => rfl
  | none =>
    simp only [List.any_append, List.any_cons, List.any_nil, Bool.or_false]
    rcases hp' with h | h
    · -- p is an ancestor of (or is) the root, which exists: a directory in both trees
      obtain ⟨e0, he0, hpre⟩ := hexists
      have : cfg.tree.any (fun e => p.isPrefixOf e.path) = true :=
        List.any_eq_true.mpr ⟨e0, he0, List.isPrefixOf_iff_prefix.mpr (List.IsPrefix.trans h hpre)⟩
      simp [this]
    · have : p.isPrefixOf e.path = false :=
        Bool.eq_false_iff.mpr fun hx => hout.2 (h.trans (List.isPrefixOf_iff_prefix.mp hx))
      simp [this]

-- the sentinel /S/s of `exCfg` is such an entry: the tree with and without it serve identically
example : AgreeBelowRoot { exCfg with tree := [{ path := [[0x72], [0x61]], node := Node.file [1, 2, 3] }] } exCfg :=
  C50_agree_add_outside { exCfg with tree := [{ path := [[0x72], [0x61]], node := Node.file [1, 2, 3] }] }
    { path := [[0x73]], node := Node.file [9] } [[0x72]] (by decide) ⟨_, List.mem_singleton.mpr rfl, by decide⟩
    ⟨by decide, by decide⟩ (by intro e0 he t; simp at he; subst he; simp)

/-- a 500 answer has exactly three possible causes, each tied to a name the request may
    be answered from: `http.Dir` rejects the name (NUL, invalid UTF-8), the name is a directory, or an
    element is longer than NAME_MAX. -/
theorem C50_500_cause (cfg : Cfg) (method path : Str) (encs : List Enc) (df : Str)
    (h : (serve cfg method path encs df).status = 500) :
    ∃ n ∈ candidateNames path encs df,
      dirOpenRel n = none ∨ atRoot cfg n = Res.dir ∨ atRoot cfg n = Res.tooLong := by
  have a := serve_answer cfg method path encs df
  generalize serve cfg method path encs df = r at a h
  cases a with
  | failed _ hn hc => exact ⟨_, hn, hc⟩
  | _ => cases h

/-- The property's clause "answers missing files with 404" read literally: whenever none of the names the
    request may be answered from is a regular file below the root, a GET/HEAD gets 404. -/
def C50_missing_404_full : Prop :=
  ∀ (cfg : Cfg) (method path : Str) (encs : List Enc) (df : Str), (method = sGET ∨ method = sHEAD) →
    (∀ n ∈ candidateNames path encs df, (atRoot cfg n).isFile = false) →
    (serve cfg method path encs df).status = 404

def exCfgDir : Cfg :=
  { tree := [{ path := [[0x72], [0x64]], node := Node.dir }], sb := [[0x53]], root := [0x2f, 0x53, 0x2f, 0x72] }

/-- **Finding** (`directory-not-404`): a directory (here `/d`, and likewise `/` itself) requested when no
    default file is configured is answered 500 (`errUnexpectedDir` falls through `errorStatusCode`). -/
theorem C50_witness_directory_500 : ¬ C50_missing_404_full := by
  intro h
  have := h exCfgDir sGET [0x2f, 0x64] [] [] (Or.inl rfl) (by decide +kernel)
  revert this
  decide +kernel

/-- **Finding** (`bad-name-not-404`): a name `http.Dir` rejects (here `/` followed by a NUL byte) is answered 500
    although it names no file. -/
theorem C50_witness_badname_500 : (serve exCfgDir sGET [0x2f, 0x00] [] []).status = 500 ∧
    (∀ n ∈ candidateNames [0x2f, 0x00] [] [], (atRoot exCfgDir n).isFile = false) := by decide +kernel

/-- `C50_missing_404_full` holds once the three causes of `C50_500_cause` are excluded (`C50_404` with its hypothesis
    spelt out by cases). -/
theorem C50_missing_404_partial (cfg : Cfg) (method path : Str) (encs : List Enc) (df : Str)
    (hm : method = sGET ∨ method = sHEAD)
    (hmiss : ∀ n ∈ candidateNames path encs df, (atRoot cfg n).isFile = false)
    (hok : ∀ n ∈ candidateNames path encs df,
      dirOpenRel n ≠ none ∧ atRoot cfg n ≠ Res.dir ∧ atRoot cfg n ≠ Res.tooLong) :
    (serve cfg method path encs df).status = 404 := by
  refine congrArg Resp.status (C50_404 cfg method path encs df hm fun n hn => ?_)
  obtain ⟨h1, h2, h3⟩ := hok n hn
  refine ⟨?_, Option.isSome_iff_ne_none.mpr h1⟩
  cases hr : atRoot cfg n with
  | file c => exact absurd (hr ▸ hmiss n hn) (by simp [Res.isFile])
  | dir => exact absurd hr h2
  | notExist => rfl
  | tooLong => exact absurd hr h3

/-- whatever the history of reloads (same or different version strings, products
    added / removed / moved to another root), the rules the handler sees for a product are exactly those of
    the LAST loaded configuration. -/
theorem C50_reload_in_force (cs : List SConf) (product : Str) :
    slookup (stableAfter cs) product = sInForce cs product := by
  rw [stableAfter_eq, sInForce]
  cases cs.getLast? <;> rfl

/-- after any history of reloads the last loaded configuration alone decides the
    answer — in particular the document root in force is the configured one, never an earlier one. -/
theorem C50_reload_last_conf (tree : List Entry) (sb : List Str) (cs : List SConf) (c : SConf)
    (product method path : Str) (encs : List Enc) :
    serveH tree sb (cs ++ [c]) product method path encs = serveH tree sb [c] product method path encs := by
  unfold serveH
  rw [C50_reload_in_force, C50_reload_in_force]
  simp [sInForce]

/-- for every history of rule-file (re)loads — accepted and rejected files, any
    version strings — the rules the handler sees are those of the last ACCEPTED file. -/
theorem C50_file_reload_in_force (tree : List Entry) (sb : List Str) (cs : List FConf) (product : Str) :
    slookup (ftableAfter tree sb cs) product = fInForce tree sb cs product := by
  rw [ftableAfter_eq, fInForce]
  cases cs.reverse.find? (fconfOk tree sb) <;> rfl

/-- a rejected rule file changes nothing -/
theorem C50_file_reload_rejected_keeps (tree : List Entry) (sb : List Str) (cs : List FConf) (c : FConf)
    (hbad : fconfOk tree sb c = false) : ftableAfter tree sb (cs ++ [c]) = ftableAfter tree sb cs := by
  unfold ftableAfter
  simp [List.foldl_append, fupdate, hbad]

theorem pickVariant_enc (cfg : Cfg) (f : Str) (encs : List Enc) (e : Enc)
    (h : (pickVariant cfg f encs).2 = some e) : e ∈ encs := by
  -- as in `pickVariant_mem`: 1 no encoding left; 2 the variant of `x` exists; 3 try the next
  fun_induction pickVariant cfg f encs with
  | case1 => nomatch h
  | case2 x xs hx => exact Option.some.inj h ▸ List.mem_cons_self
  | case3 x xs hx ih => exact List.mem_cons_of_mem _ (ih h)

/-- a pre-compressed variant (Content-Encoding gzip / br) is only ever served
    for an encoding in the accepted list, i.e. EnableCompress is on and `HasToken(Accept-Encoding, coding)`. -/
theorem C50_variant_only_accepted (cfg : Cfg) (method path : Str) (ec : Bool) (ae : Str) (df : Str) (e : Enc)
    (h : (serve cfg method path (acceptedEncodings ec ae) df).enc = some e) :
    ec = true ∧ hasToken ae (match e with | .gzip => tokGzip | .br => tokBr) = true := by
  have hmem : e ∈ acceptedEncodings ec ae := by
    have a := serve_answer cfg method path (acceptedEncodings ec ae) df
    generalize serve cfg method path (acceptedEncodings ec ae) df = r at a h
    cases a with
    | file _ _ hv =>
      obtain ⟨f, rfl⟩ := hv
      exact pickVariant_enc cfg f _ e h
    | _ => cases h
  have := mem_acceptedEncodings.mp hmem
  -- the `match` of the statement also abstracts `h`: the two agree once `e` is a constructor
  cases e <;> exact this

/-- **Finding** (`variant-despite-q0`): `HasToken` does not read weights.  `Accept-Encoding: gzip ;q=0` (optional
    white space before the semicolon is legal, RFC 7231) says gzip is NOT acceptable, yet the token test
    succeeds and the `.gz` variant is served. -/
theorem C50_witness_variant_despite_q0 :
    hasToken [0x67, 0x7a, 0x69, 0x70, 0x20, 0x3b, 0x71, 0x3d, 0x30] tokGzip = true ∧
    specAccepts [0x67, 0x7a, 0x69, 0x70, 0x20, 0x3b, 0x71, 0x3d, 0x30] tokGzip = false := by decide +kernel

def exCfgLink : Cfg :=
  { tree := [{ path := [[0x72], [0x6c]], node := Node.link [[0x73]] }, { path := [[0x73]], node := Node.file [9] }],
    sb := [[0x53]], root := [0x2f, 0x53, 0x2f, 0x72] }

/-- **Finding** (`symlink-leaves-root`; the stated assumption of C50 made explicit): containment is lexical.
    A symbolic link below the root that points outside (`/S/r/l -> /S/s`) is followed, so `GET /l` is answered
    with the bytes of a file that is not below the document root. -/
theorem C50_witness_symlink_leaves_root :
    serve exCfgLink sGET [0x2f, 0x6c] [] [] = { status := 200, clen := some 1, body := [9] } ∧
    ¬ (filesUnderRoot exCfgLink).contains [9] := by decide +kernel

end BfeVerif.C50
