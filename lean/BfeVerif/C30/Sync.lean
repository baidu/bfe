import BfeVerif.C30.Model
import BfeVerif.C30.Proofs
/-!
  Encoder/decoder synchronisation: whatever the encoder writes is a `Chain` of complete representations for
  `Decoder.Write`, and `Sync` relates the two dynamic tables over whole histories.
  C31 builds on the lemmas about `Dec.at` (`at_eq`; `at_isSome` is used only there) and on `parseRepr_cons`.
-/
namespace BfeVerif.C30

/-- the index space of RFC 7541 §2.3.3 (dynamic entries newest first); index `i` is position `i - 1` -/
def allPairs (T : Tables) (ents : List HF) : List (List Nat × List Nat) := T.static ++ dynPairs ents

theorem dynPairs_length (ents : List HF) : (dynPairs ents).length = ents.length := by simp [dynPairs]

theorem at_eq (T : Tables) (d : Dec) (i : Nat) (hi : 1 ≤ i) : d.at T i = (allPairs T d.tab.ents)[i - 1]? := by
  unfold Dec.at allPairs
  rw [if_neg (by omega)]
  by_cases h2 : i > d.tab.ents.length + T.static.length
  · rw [if_pos h2, List.getElem?_eq_none (by rw [List.length_append, dynPairs_length]; omega)]
  · rw [if_neg h2]
    by_cases h3 : i ≤ T.static.length
    · rw [if_pos h3, List.getElem?_append_left (by omega)]
    · rw [if_neg h3, List.getElem?_append_right (by omega), dynPairs, List.getElem?_map,
        List.getElem?_reverse (by omega)]
      congr 2; omega

theorem at_succ (T : Tables) (d : Dec) (j : Nat) : d.at T (1 + j) = (allPairs T d.tab.ents)[j]? := by
  rw [at_eq T d _ (Nat.le_add_right 1 j), Nat.add_sub_cancel_left]

theorem allPairs_length (T : Tables) (ents : List HF) : (allPairs T ents).length = T.static.length + ents.length := by
  rw [allPairs, List.length_append, dynPairs_length]

theorem at_isSome (T : Tables) (d : Dec) (i : Nat) :
    (d.at T i).isSome = true ↔ 1 ≤ i ∧ i ≤ T.static.length + d.tab.ents.length := by
  by_cases h1 : 1 ≤ i
  · rw [at_eq T d i h1, isSome_getElem?, allPairs_length]
    omega
  · obtain rfl : i = 0 := by omega
    exact ⟨fun h => Bool.noConfusion h, fun h => absurd h.1 (Nat.not_succ_le_zero 0)⟩

/-- what a search from position `pos` on, begun with index `i0`, reports: `(i0, false)`, or the position of an entry
    with the field's name which, if a match is reported, also has its value (and the field is not sensitive) -/
def Found (f : HF) (l : List (List Nat × List Nat)) (pos i0 : Nat) (r : Nat × Bool) : Prop :=
  r = (i0, false) ∨ ∃ j v, l[j]? = some (f.name, v) ∧ r.1 = pos + j ∧ (r.2 = true → v = f.value ∧ f.sensitive = false)

/-- `hi'`: how `searchAux` hands the name index on over an entry: as it was, or, at the first entry with the name, its position -/
theorem Found.cons {f : HF} {n v : List Nat} {rest : List (List Nat × List Nat)} {pos i0 i' : Nat} {r : Nat × Bool}
    (h : Found f rest (pos + 1) i' r) (hi' : i' = i0 ∨ (n = f.name ∧ i' = if i0 = 0 then pos else i0)) :
    Found f ((n, v) :: rest) pos i0 r := by
  rcases h with rfl | ⟨j, w, hj, h1, h2⟩
  · rcases hi' with rfl | ⟨rfl, rfl⟩
    · exact Or.inl rfl
    · split
      · exact Or.inr ⟨0, v, rfl, rfl, nofun⟩
      · exact Or.inl rfl
  · exact Or.inr ⟨j + 1, w, hj, by omega, h2⟩

theorem searchAux_spec (f : HF) (l : List (List Nat × List Nat)) (pos i0 : Nat) :
    Found f l pos i0 (searchAux f l pos i0) := by
  -- 1 end of list, 2 other name, 3 name of a sensitive field, 4 name with another value, 5 name and value
  fun_induction searchAux f l pos i0 with
  | case1 => exact Or.inl rfl
  | case2 n v rest pos i hn ih => exact ih.cons (Or.inl rfl)
  | case3 n v rest pos i hn i' hs ih => exact ih.cons (Or.inr ⟨Decidable.not_not.mp hn, rfl⟩)
  | case4 n v rest pos i hn i' hs hv ih => exact ih.cons (Or.inr ⟨Decidable.not_not.mp hn, rfl⟩)
  | case5 n v rest pos i hn hs hv =>
    obtain rfl := Decidable.not_not.mp hn
    exact Or.inr ⟨0, v, rfl, rfl, fun _ => ⟨Decidable.not_not.mp hv, Bool.eq_false_iff.mpr hs⟩⟩

theorem Found.left {f : HF} {l1 l2 : List (List Nat × List Nat)} {pos i0 : Nat} {r : Nat × Bool}
    (h : Found f l1 pos i0 r) : Found f (l1 ++ l2) pos i0 r :=
  h.imp_right fun ⟨j, v, hj, h12⟩ =>
    ⟨j, v, by rw [List.getElem?_append_left (List.getElem?_eq_some_iff.mp hj).1]; exact hj, h12⟩

theorem Found.right {f : HF} {l1 l2 : List (List Nat × List Nat)} {pos i0 : Nat} {r : Nat × Bool}
    (h : Found f l2 pos i0 r) (hr : r ≠ (i0, false)) (i1 : Nat) :
    Found f (l1 ++ l2) pos i1 (r.1 + l1.length, r.2) := by
  rcases h with rfl | ⟨j, v, hj, h1, h2⟩
  · exact absurd rfl hr
  · refine Or.inr ⟨l1.length + j, v, ?_, by show r.1 + _ = _; omega, h2⟩
    rw [List.getElem?_append_right (Nat.le_add_right _ _), Nat.add_sub_cancel_left]
    exact hj

theorem searchTable_spec (T : Tables) (ents : List HF) (f : HF) :
    Found f (allPairs T ents) 1 0 (searchTable T ents f) := by
  have hS := searchAux_spec f T.static 1 0
  have hD := searchAux_spec f (dynPairs ents) 1 0
  unfold searchTable allPairs
  dsimp only
  generalize searchAux f T.static 1 0 = rS at hS ⊢
  generalize searchAux f (dynPairs ents) 1 0 = rD at hD ⊢
  split
  · -- a static entry has name and value
    exact hS.left
  · split
    · -- the dynamic result is taken; it passed `d.2 || (r.1 == 0 && d.1 != 0)`, so it is not `(0, false)`
      rename_i hc
      refine hD.right (fun e => ?_) 0
      rw [e, Bool.false_or, Bool.and_eq_true] at hc
      exact absurd hc.2 (by decide)
    · -- the static name index is kept (or nothing was found at all)
      rename_i hc
      rw [(Bool.or_eq_false_iff.mp (Bool.eq_false_iff.mpr hc)).1]
      rcases hS.left (l2 := dynPairs ents) with rfl | ⟨j, v, hj, h1, _⟩
      · exact Or.inl rfl
      · exact Or.inr ⟨j, v, hj, h1, nofun⟩

/-- `bytes` is a sequence of complete representations taking the decoder from `d` to `d'`, emitting `fs` -/
inductive Chain (T : Tables) : Dec → List Nat → Dec → List HF → Prop where
  | nil (d : Dec) : Chain T d [] d []
  -- `r ≠ []`: `writeLoop` has the length of its input (+ 1) as fuel and spends one unit on each representation
  | cons {d d' d'' : Dec} {r bytes : List Nat} {em : Option HF} {fs : List HF} :
      r ≠ [] → (∀ more, parseRepr T d (r ++ more) = .ok (d', more, em)) → Chain T d' bytes d'' fs →
      Chain T d (r ++ bytes) d'' (em.toList ++ fs)

theorem Chain.single {T : Tables} {d d' : Dec} {r : List Nat} {em : Option HF} (hr : r ≠ [])
    (h : ∀ more, parseRepr T d (r ++ more) = .ok (d', more, em)) : Chain T d r d' em.toList := by
  simpa using Chain.cons hr h (Chain.nil d')

theorem Chain.append {T : Tables} {d d' d'' : Dec} {b1 b2 : List Nat} {f1 f2 : List HF}
    (h1 : Chain T d b1 d' f1) (h2 : Chain T d' b2 d'' f2) : Chain T d (b1 ++ b2) d'' (f1 ++ f2) := by
  induction h1 with
  | nil d => simpa using h2
  | cons hr hp _ ih =>
    rw [List.append_assoc, List.append_assoc]
    exact Chain.cons hr hp (ih h2)

theorem Chain.writeLoop_eq {T : Tables} {d d' : Dec} {bytes : List Nat} {fs : List HF} (h : Chain T d bytes d' fs) :
    ∀ (f : Nat) (out : List HF), bytes.length < f →
      writeLoop T f d bytes out = ({ dec := d', out := out ++ fs }, none) := by
  induction h with
  | nil d =>
    intro f out hf
    obtain ⟨f, rfl⟩ : ∃ g, f = g + 1 := ⟨f - 1, by omega⟩
    rw [writeLoop, if_pos List.length_nil, List.append_nil]
  | @cons d d1 d2 r bytes em fs hr hp _ ih =>
    intro f out hf
    have hrpos : 0 < r.length := List.length_pos_iff.mpr hr
    rw [List.length_append] at hf
    obtain ⟨f, rfl⟩ : ∃ g, f = g + 1 := ⟨f - 1, by omega⟩
    rw [writeLoop, if_neg (by rw [List.length_append]; omega), hp bytes]
    dsimp only
    rw [ih f _ (by omega)]
    cases em <;> simp

theorem Chain.write_eq {T : Tables} {s : DState} {d' : Dec} {bytes : List Nat} {fs : List HF}
    (h : Chain T s.dec bytes d' fs) (hs : s.save = []) :
    s.write T bytes = ({ dec := d', out := s.out ++ fs }, none) := by
  unfold DState.write
  cases h with
  | nil => rw [if_pos List.length_nil, List.append_nil, ← hs]
  | @cons _ _ _ r _ _ _ hr hp hc =>
    have hrpos : 0 < r.length := List.length_pos_iff.mpr hr
    rw [if_neg (by rw [List.length_append]; omega), hs]
    exact (Chain.cons hr hp hc).writeLoop_eq _ _ (Nat.lt_succ_self _)

theorem parseRepr_cons (T : Tables) (d : Dec) (b : Nat) (rest : List Nat) :
    parseRepr T d (b :: rest) =
      if b ≥ 128 then parseFieldIndexed T d (b :: rest)
      else if b ≥ 64 then parseFieldLiteral T d (b :: rest) 6 0
      else if b < 16 then parseFieldLiteral T d (b :: rest) 4 1
      else if b < 32 then parseFieldLiteral T d (b :: rest) 4 2
      else parseDynamicTableSizeUpdate d (b :: rest) := by rw [parseRepr]

theorem chain_tableSize (T : Tables) (d : Dec) (v : Nat) (hv : v ≤ d.allowed) (hv63 : v < 2 ^ 63) :
    Chain T d (appendTableSize v) { d with tab := d.tab.setMaxSize v } [] := by
  obtain ⟨b, r, hbr, hb, hrd⟩ := orFirst_appendVarInt 5 v 32 hv63 (by decide)
  unfold appendTableSize
  rw [hbr]
  refine Chain.single (em := none) (List.cons_ne_nil _ _) fun more => ?_
  rw [List.cons_append, parseRepr_cons, if_neg (by omega), if_neg (by omega), if_neg (by omega), if_neg (by omega)]
  simp only [parseDynamicTableSizeUpdate, hrd, if_neg (Nat.not_lt_of_le hv)]

theorem chain_indexed (T : Tables) (d : Dec) (idx : Nat) (n v : List Nat) (hidx : idx < 2 ^ 63)
    (hat : d.at T idx = some (n, v)) (hstr : d.maxStrLen = 0) :
    Chain T d (orFirst 128 (appendVarInt 7 idx)) d [{ name := n, value := v }] := by
  obtain ⟨b, r, hbr, hb, hrd⟩ := orFirst_appendVarInt 7 idx 128 hidx (by decide)
  rw [hbr]
  refine Chain.single (em := some _) (List.cons_ne_nil _ _) fun more => ?_
  rw [List.cons_append, parseRepr_cons, if_pos (by omega)]
  simp only [parseFieldIndexed, hrd, hat, callEmit, hstr, ne_eq, not_true_eq_false, false_and, if_false]

/-- the three literal representations (RFC 7541 §6.2.1-6.2.3): type byte, prefix bits, `indexType` -/
inductive LitKind : Nat → Nat → Nat → Prop where
  | incremental : LitKind 64 6 0
  | withoutIndexing : LitKind 0 4 1
  | neverIndexed : LitKind 16 4 2

theorem litKind_dispatch (T : Tables) (d : Dec) {tb n it : Nat} (hk : LitKind tb n it) (b : Nat) (rest : List Nat)
    (hb : b < 2 ^ n) : parseRepr T d ((b + tb) :: rest) = parseFieldLiteral T d ((b + tb) :: rest) n it := by
  rw [parseRepr_cons]
  cases hk with
  | incremental => rw [if_neg (by omega), if_pos (by omega)]
  | withoutIndexing => rw [if_neg (by omega), if_neg (by omega), if_pos (by omega)]
  | neverIndexed => rw [if_neg (by omega), if_neg (by omega), if_neg (by omega), if_pos (by omega)]

/-- octets of a header string: real bytes, of a length the integer coding can carry -/
def StrOk (T : Tables) (s : List Nat) : Prop := (∀ c ∈ s, c < T.codes.length) ∧ s.length < 2 ^ 63

/-- the left-hand side is the last `match` of `parseFieldLiteral`, verbatim: read the value, index it or not, emit -/
theorem parse_literal_tail {T : Tables} (ok : TablesOk T) (d : Dec) (it : Nat) (nm val more : List Nat)
    (hval : StrOk T val) (hstr : d.maxStrLen = 0) :
    (match readString T d.maxStrLen (appendHpackString T val ++ more) with
      | .error e => (.error e : Parsed)
      | .ok (val, rest) =>
        let d' : Dec := if it = 0 then { d with tab := d.tab.add { name := nm, value := val } } else d
        callEmit d' rest { name := nm, value := val, sensitive := it = 2 }) =
    .ok (if it = 0 then { d with tab := d.tab.add { name := nm, value := val } } else d, more,
         some { name := nm, value := val, sensitive := it = 2 }) := by
  rw [hstr, readString_append ok val more hval.1 hval.2]
  simp only [callEmit]
  split <;> simp [hstr]

/-- how a literal representation names its field (RFC 7541 §6.2): index 0 and the name spelt out, or the index of
    an entry of `pairs` that has the name -/
def NameRef (T : Tables) (pairs : List (List Nat × List Nat)) (nm : List Nat) (idx : Nat) (bytes : List Nat) : Prop :=
  (idx = 0 ∧ bytes = appendHpackString T nm) ∨ (bytes = [] ∧ ∃ j v, idx = 1 + j ∧ pairs[j]? = some (nm, v))

theorem chain_literal {T : Tables} (ok : TablesOk T) (d : Dec) {tb n it : Nat} (hk : LitKind tb n it)
    (idx : Nat) (nm val nb : List Nat) (hidx : idx < 2 ^ 63) (href : NameRef T (allPairs T d.tab.ents) nm idx nb)
    (hnm : StrOk T nm) (hval : StrOk T val) (hstr : d.maxStrLen = 0) :
    Chain T d (orFirst tb (appendVarInt n idx) ++ nb ++ appendHpackString T val)
      (if it = 0 then { d with tab := d.tab.add { name := nm, value := val } } else d)
      [{ name := nm, value := val, sensitive := it = 2 }] := by
  obtain ⟨b, r, hbr, hb, hrd⟩ := orFirst_appendVarInt n idx tb hidx (by cases hk <;> decide)
  rw [hbr]
  refine Chain.single (em := some _) (List.cons_ne_nil _ _) fun more => ?_
  simp only [List.cons_append, List.append_assoc]
  rw [litKind_dispatch T d hk b _ hb]
  simp only [parseFieldLiteral, hrd]
  rcases href with ⟨rfl, rfl⟩ | ⟨rfl, j, v0, rfl, hget⟩
  · simp only [Nat.lt_irrefl, if_false]
    rw [hstr, readString_append ok nm _ hnm.1 hnm.2]
    have := parse_literal_tail ok d it nm val more hval hstr
    -- `rw [hstr]` above has rewritten `d.maxStrLen` in the rest of the goal too
    rw [hstr] at this
    exact this
  · simp only [show 1 + j > 0 by omega, if_true, at_succ, hget, List.nil_append]
    exact parse_literal_tail ok d it nm val more hval hstr

/-- `a` = the decoder's allowed maximum.  Not pending: the tables are equal and `minSize` is reset.
    Pending: the encoder's table is the decoder's table evicted down to `minSize`, the smallest size set since
    the last update was sent, and that is what `WriteField` will announce first. -/
structure Sync (a : Nat) (e : Enc) (d : Dec) : Prop where
  dwf : d.tab.WF
  dle : d.tab.size ≤ d.tab.maxSize
  dmaxa : d.tab.maxSize ≤ a
  dallowed : d.allowed = a
  dstr : d.maxStrLen = 0
  limit_le : e.limit ≤ a
  emax : e.tab.maxSize ≤ e.limit
  notPending : e.pending = false → e.minSize = uint32Max ∧ e.tab = d.tab
  pending : e.pending = true → e.minSize ≤ e.tab.maxSize ∧
        e.tab = { d.tab.setMaxSize e.minSize with maxSize := e.tab.maxSize }

theorem Sync.ewf {a : Nat} {e : Enc} {d : Dec} (h : Sync a e d) : e.tab.WF ∧ e.tab.size ≤ e.tab.maxSize := by
  cases hp : e.pending with
  | true =>
    obtain ⟨hm, heq⟩ := h.pending hp
    have g := setMaxSize_good d.tab e.minSize h.dwf
    rw [heq]
    exact ⟨g.1, Nat.le_trans g.2.1 hm⟩
  | false => rw [(h.notPending hp).2]; exact ⟨h.dwf, h.dle⟩

theorem sync_resize {a : Nat} (ha : a ≤ uint32Max) {e : Enc} {d : Dec} (h : Sync a e d) (v' L : Nat)
    (hv : v' ≤ L) (hL : L ≤ a) :
    Sync a { e with limit := L, minSize := if v' < e.minSize then v' else e.minSize, pending := true,
                    tab := e.tab.setMaxSize v' } d := by
  refine { h with limit_le := hL, emax := hv, notPending := (fun hc => by cases hc), pending := fun _ => ⟨?_, ?_⟩ }
  · show (if v' < e.minSize then v' else e.minSize) ≤ v'; split <;> omega
  · show e.tab.setMaxSize v' = { d.tab.setMaxSize _ with maxSize := v' }
    cases hp : e.pending with
    | true =>
      have hmin : (if v' < e.minSize then v' else e.minSize) = min e.minSize v' := by
        rw [Nat.min_def]; split <;> split <;> omega
      rw [hmin, ← setMaxSize_setMaxSize]
      exact congrArg (·.setMaxSize v') (h.pending hp).2
    | false =>
      obtain ⟨hm, heq⟩ := h.notPending hp
      have hmin : (if v' < e.minSize then v' else e.minSize) = v' := by split <;> omega
      rw [hmin, heq]
      rfl

theorem sync_setMax {a : Nat} (ha : a ≤ uint32Max) {e : Enc} {d : Dec} (h : Sync a e d) (v : Nat) :
    Sync a (e.setMaxDynamicTableSize v) d :=
  sync_resize ha h (if v > e.limit then e.limit else v) e.limit (by split <;> omega) h.limit_le

theorem sync_setLimit {a : Nat} (ha : a ≤ uint32Max) {e : Enc} {d : Dec} (h : Sync a e d) (v : Nat) (hv : v ≤ a) :
    Sync a (e.setMaxDynamicTableSizeLimit v) d := by
  unfold Enc.setMaxDynamicTableSizeLimit
  split
  · exact sync_resize ha h v v (Nat.le_refl _) hv
  · exact { h with limit_le := hv, emax := Nat.le_of_not_gt ‹_› }

theorem flush_pending (e : Enc) : e.flush.1.pending = false := by
  unfold Enc.flush
  cases h : e.pending with
  | true => rfl
  | false => exact h

theorem sync_flush (T : Tables) {a : Nat} (ha : a ≤ uint32Max) {e : Enc} {d : Dec} (h : Sync a e d) :
    ∃ d1, Chain T d e.flush.2 d1 [] ∧ Sync a e.flush.1 d1 := by
  unfold Enc.flush
  cases hpend : e.pending with
  | false => exact ⟨d, Chain.nil d, h⟩
  | true =>
    obtain ⟨hm, heq⟩ := h.pending hpend
    have hMa : e.tab.maxSize ≤ a := Nat.le_trans h.emax h.limit_le
    have h63 : ∀ x, x ≤ a → x < 2 ^ 63 := fun x hx => by unfold uint32Max at ha; omega
    refine ⟨{ d with tab := e.tab }, ?_,
      { h with dwf := h.ewf.1, dle := h.ewf.2, dmaxa := hMa, notPending := fun _ => ⟨rfl, rfl⟩, pending := (fun hc => by cases hc) }⟩
    -- the last update brings a decoder that is one `setMaxSize` away to the encoder's table
    have last : ∀ d0 : Dec, d0.allowed = a → d0.tab.setMaxSize e.tab.maxSize = e.tab →
        Chain T d0 (appendTableSize e.tab.maxSize) { d0 with tab := e.tab } [] := by
      intro d0 h1 h2
      have := chain_tableSize T d0 e.tab.maxSize (by rw [h1]; exact hMa) (h63 _ hMa)
      rw [h2] at this
      exact this
    simp only [if_true]
    split
    · refine (chain_tableSize T d e.minSize (by rw [h.dallowed]; omega) (h63 _ (by omega))).append (last _ h.dallowed ?_)
      rw [setMaxSize_setMaxSize, Nat.min_eq_left hm]
      exact heq.symm
    · have hmM : e.minSize = e.tab.maxSize := by omega
      exact last d h.dallowed (heq.trans (by rw [hmM]; rfl)).symm

theorem litKind_of (sensitive c : Bool) :
    ∃ tb n it, LitKind tb n it ∧ encodeTypeByte (!sensitive && c) sensitive = tb ∧
      (if (!sensitive && c) = true then 6 else 4) = n ∧ (!sensitive && c) = decide (it = 0) ∧ decide (it = 2) = sensitive := by
  cases sensitive with
  | true => exact ⟨16, 4, 2, .neverIndexed, rfl, rfl, rfl, rfl⟩
  | false =>
    cases c with
    | true => exact ⟨64, 6, 0, .incremental, rfl, rfl, rfl, rfl⟩
    | false => exact ⟨0, 4, 1, .withoutIndexing, rfl, rfl, rfl, rfl⟩

theorem encodeField_cases (T : Tables) (e : Enc) (f : HF) :
    (∃ j, (allPairs T e.tab.ents)[j]? = some (f.name, f.value) ∧ f.sensitive = false ∧
      e.encodeField T f = (e, orFirst 128 (appendVarInt 7 (1 + j)))) ∨
    ∃ tb n it idx nb, LitKind tb n it ∧ decide (it = 2) = f.sensitive ∧ NameRef T (allPairs T e.tab.ents) f.name idx nb ∧
      e.encodeField T f = (if it = 0 then { e with tab := e.tab.add f } else e,
        orFirst tb (appendVarInt n idx) ++ nb ++ appendHpackString T f.value) := by
  have hspec := searchTable_spec T e.tab.ents f
  unfold Enc.encodeField
  dsimp only
  by_cases hm : (searchTable T e.tab.ents f).2 = true
  · rw [if_pos hm]
    rcases hspec with h0 | ⟨j, v, hget, h1, himp⟩
    · rw [h0] at hm; cases hm
    · obtain ⟨rfl, hsens⟩ := himp hm
      exact Or.inl ⟨j, hget, hsens, by rw [h1]⟩
  · rw [if_neg hm]
    -- the model's type byte, prefix width and `indexing` flag, in terms of the kind
    obtain ⟨tb, n, it, hk, htb, hn, hit, hsn⟩ := litKind_of f.sensitive (decide (f.size ≤ e.tab.maxSize))
    rw [htb, hn]
    simp only [hit, decide_eq_true_eq]
    by_cases h0 : (searchTable T e.tab.ents f).1 = 0
    · exact Or.inr ⟨tb, n, it, 0, _, hk, hsn, Or.inl ⟨rfl, rfl⟩, by rw [if_pos h0]; cases hk <;> rfl⟩
    · rcases hspec with hz | ⟨j, v, hget, h1, _⟩
      · rw [hz] at h0; exact absurd rfl h0
      · exact Or.inr ⟨tb, n, it, 1 + j, [], hk, hsn, Or.inr ⟨rfl, j, v, rfl, hget⟩,
          by rw [if_neg h0, h1, List.append_nil]⟩

theorem encodeField_pending (T : Tables) (e : Enc) (f : HF) : (e.encodeField T f).1.pending = e.pending := by
  rcases encodeField_cases T e f with ⟨_, _, _, heq⟩ | ⟨_, _, _, _, _, _, _, _, heq⟩ <;> rw [heq]
  split <;> rfl

/-- `32 ≤ b < 64`: the first octet of a size update, 001xxxxx -/
theorem encodeField_first (T : Tables) (e : Enc) (f : HF) :
    ∃ b r, (e.encodeField T f).2 = b :: r ∧ ¬ (32 ≤ b ∧ b < 64) := by
  rcases encodeField_cases T e f with ⟨j, _, _, heq⟩ | ⟨tb, n, it, idx, nb, hk, _, _, heq⟩ <;> rw [heq]
  · obtain ⟨b, r, hbr, hb⟩ := appendVarInt_head 7 (1 + j)
    exact ⟨b + 128, r, by rw [hbr]; rfl, by omega⟩
  · obtain ⟨b, r, hbr, hb⟩ := appendVarInt_head n idx
    exact ⟨b + tb, r ++ nb ++ _, by rw [hbr]; rfl, by cases hk <;> omega⟩

theorem sync_encodeField {T : Tables} (ok : TablesOk T) (hst : T.static.length < 2 ^ 62) {a : Nat} (ha : a ≤ uint32Max)
    {e : Enc} {d : Dec} (h : Sync a e d) (hnp : e.pending = false) (f : HF) (hn : StrOk T f.name) (hv : StrOk T f.value) :
    ∃ d2, Chain T d (e.encodeField T f).2 d2 [f] ∧ Sync a (e.encodeField T f).1 d2 := by
  obtain ⟨hmin, htab⟩ := h.notPending hnp
  have hlt : ∀ j x, (allPairs T d.tab.ents)[j]? = some x → 1 + j < 2 ^ 63 := by
    intro j x hx
    have hl := (List.getElem?_eq_some_iff.mp hx).1
    rw [allPairs_length] at hl
    have h1 := sumSizes_ge d.tab.ents
    have h2 : d.tab.size = sumSizes d.tab.ents := h.dwf
    have h3 := h.dle
    have h4 := h.dmaxa
    unfold uint32Max at ha
    omega
  -- with `f` taken apart, the record the decoder builds is `f` itself
  obtain ⟨nm, val, sens⟩ := f
  rcases encodeField_cases T e ⟨nm, val, sens⟩ with ⟨j, hget, hsens, heq⟩ | ⟨tb, n, it, idx, nb, hk, hsn, href, heq⟩ <;> rw [heq]
  · rw [htab] at hget
    obtain rfl : sens = false := hsens
    exact ⟨d, chain_indexed T d _ nm val (hlt _ _ hget) ((at_succ T d j).trans hget) h.dstr, h⟩
  · rw [htab] at href
    obtain rfl : decide (it = 2) = sens := hsn
    have hidx : idx < 2 ^ 63 := by
      rcases href with ⟨rfl, _⟩ | ⟨_, j, v, rfl, hget⟩
      · exact Nat.two_pow_pos 63
      · exact hlt _ _ hget
    refine ⟨_, chain_literal ok d hk idx nm val nb hidx href hn hv h.dstr, ?_⟩
    -- the literal is added to both tables or to neither
    by_cases hi : it = 0
    · subst hi
      obtain ⟨hwf, hle, _⟩ := add_good d.tab ⟨nm, val, false⟩ h.dwf
      exact { h with dwf := hwf, dle := hle, notPending := fun _ => ⟨hmin, congrArg (·.add ⟨nm, val, false⟩) htab⟩,
                     pending := (fun hc => by rw [hnp] at hc; cases hc) }
    · rw [if_neg hi, if_neg hi]
      exact h

/-- invariant between operations: the bytes written since the last `endBlock` are a chain of complete
    representations taking the real decoder state to a virtual state `vd` that is in sync with the encoder -/
def Inv (T : Tables) (a : Nat) (h : Hist) (fs : List HF) : Prop :=
  h.dead = false ∧ h.dec.save = [] ∧ ∃ vd, Chain T h.dec.dec h.cur vd fs ∧ Sync a h.enc vd

theorem inv_init (T : Tables) {a : Nat} (ha0 : BfeVerif.Generated.C30.initialHeaderTableSize ≤ a) :
    Inv T a (Hist.init a) [] := by
  have g := setMaxSize_good ({} : DynTab) BfeVerif.Generated.C30.initialHeaderTableSize rfl
  exact ⟨rfl, rfl, _, Chain.nil _,
    { dwf := g.1, dle := g.2.1, dmaxa := ha0, dallowed := rfl, dstr := rfl, limit_le := ha0, emax := Nat.le_refl _,
      notPending := fun _ => ⟨rfl, rfl⟩, pending := (fun hc => by cases hc) }⟩

theorem inv_field {T : Tables} (ok : TablesOk T) (hst : T.static.length < 2 ^ 62) {a : Nat} (ha : a ≤ uint32Max)
    {h : Hist} {fs : List HF} (hi : Inv T a h fs) (f : HF) (hn : StrOk T f.name) (hv : StrOk T f.value) :
    Inv T a (h.step T (.field f)) (fs ++ [f]) ∧ (h.step T (.field f)).obs = h.obs := by
  obtain ⟨hd, hs, vd, hc, hsy⟩ := hi
  obtain ⟨d1, c1, s1⟩ := sync_flush T ha hsy
  obtain ⟨d2, c2, s2⟩ := sync_encodeField ok hst ha s1 (flush_pending h.enc) f hn hv
  simp only [Hist.step, hd, Bool.false_eq_true, if_false, Enc.writeField]
  exact ⟨⟨rfl, hs, d2, hc.append (c1.append c2), s2⟩, trivial⟩

/-- the two `Set…` operations touch only the encoder -/
theorem inv_setEnc {T : Tables} {a : Nat} {h : Hist} {fs : List HF} (hi : Inv T a h fs) (op : Op) (e' : Enc)
    (hstep : h.step T op = if h.dead then h else { h with enc := e' })
    (hs : ∀ vd, Sync a h.enc vd → Sync a e' vd) :
    Inv T a (h.step T op) fs ∧ (h.step T op).obs = h.obs := by
  obtain ⟨hd, hs', vd, hc, hsy⟩ := hi
  simp only [hstep, hd, Bool.false_eq_true, if_false]
  exact ⟨⟨rfl, hs', vd, hc, hs vd hsy⟩, trivial⟩

theorem inv_endBlock {T : Tables} {a : Nat} {h : Hist} {fs : List HF} (hi : Inv T a h fs) :
    ∃ o, (h.step T .endBlock).obs = h.obs ++ [o] ∧ GoodObs a o fs ∧ Inv T a (h.step T .endBlock) [] := by
  obtain ⟨hd, hs, vd, hc, hsy⟩ := hi
  have hw := Chain.write_eq (s := { h.dec with out := [] }) hc hs
  have hgood : GoodObs a { bytes := h.cur, fields := fs, err := none, truncated := false, enc := h.enc.tab,
                           dec := vd.tab, pending := h.enc.pending } fs :=
    { noerr := rfl, notrunc := rfl, fields := rfl, decle := hsy.dle, encle := hsy.ewf.2, maxa := hsy.dmaxa,
      eq := fun hp => (hsy.notPending hp).2 }
  refine ⟨_, ?_, hgood, ?_⟩
  · simp only [Hist.step, hd, Bool.false_eq_true, if_false, hw, DState.close]
    simp
  · simp only [Hist.step, hd, Bool.false_eq_true, if_false, hw, DState.close]
    simp only [List.length_nil, Nat.lt_irrefl, if_false, Option.isSome_none, Bool.or_self]
    exact ⟨rfl, rfl, vd, Chain.nil vd, hsy⟩

theorem sync_history {T : Tables} (ok : TablesOk T) (hcodes : T.codes.length = 256) (hst : T.static.length < 2 ^ 62)
    {a : Nat} (ha : a ≤ uint32Max) :
    ∀ (ops : List Op) (h : Hist) (fs : List HF), Inv T a h fs → (∀ op ∈ ops, OpValid a op) →
    ∃ obs', (ops.foldl (Hist.step T) h).obs = h.obs ++ obs' ∧ AllGood a obs' (expected ops fs) := by
  intro ops
  induction ops with
  | nil => intro h fs _ _; exact ⟨[], by simp, by simp [expected, AllGood]⟩
  | cons op ops ih =>
    intro h fs hi hok
    have hok' : ∀ op ∈ ops, OpValid a op := fun o ho => hok o (by simp [ho])
    have hop := hok op (by simp)
    rw [List.foldl_cons]
    -- an operation that closes no block leaves the records alone
    have same : ∀ fs', Inv T a (h.step T op) fs' ∧ (h.step T op).obs = h.obs → expected (op :: ops) fs = expected ops fs' →
        ∃ obs', (ops.foldl (Hist.step T) (h.step T op)).obs = h.obs ++ obs' ∧ AllGood a obs' (expected (op :: ops) fs) := by
      intro fs' hi' he
      obtain ⟨obs', h1, h2⟩ := ih _ _ hi'.1 hok'
      exact ⟨obs', by rw [h1, hi'.2], he ▸ h2⟩
    cases op with
    | field f =>
      have str : ∀ s : List Nat, (∀ c ∈ s, c < 256) ∧ s.length < 2 ^ 31 → StrOk T s :=
        fun s h => ⟨by rw [hcodes]; exact h.1, by omega⟩
      exact same _ (inv_field ok hst ha hi f (str _ hop.1) (str _ hop.2)) rfl
    | setMax v => exact same _ (inv_setEnc hi _ _ rfl fun vd hsy => sync_setMax ha hsy v) rfl
    | setLimit v => exact same _ (inv_setEnc hi _ _ rfl fun vd hsy => sync_setLimit ha hsy v hop) rfl
    | endBlock =>
      obtain ⟨o, ho, hg, hi'⟩ := inv_endBlock hi
      obtain ⟨obs', h1, h2⟩ := ih _ _ hi' hok'
      exact ⟨o :: obs', by rw [h1, ho]; simp, hg, h2⟩

end BfeVerif.C30
