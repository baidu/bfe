import BfeVerif.C30.Huffman
/-! Round trips of prefixed integers and string literals; the dynamic table's `size` stays the sum of its entry sizes, and evictions compose. -/
namespace BfeVerif.C30

/-- the decoder's overflow test (on the shift) never fires while the value read, `j * 2 ^ m`, stays below 2^63 -/
theorem readVarIntTail_append (rest : List Nat) (j : Nat) : ∀ (m acc : Nat), j * 2 ^ m < 2 ^ 63 →
    readVarIntTail (appendVarIntTail j ++ rest) acc m = .ok (acc + j * 2 ^ m, rest) := by
  fun_induction appendVarIntTail j with
  | case1 j hj =>
    intro m acc _
    simp only [List.cons_append, List.nil_append, readVarIntTail, if_pos hj, Nat.mod_eq_of_lt hj]
  | case2 j hj ih =>
    intro m acc h
    have e : j % 128 * 2 ^ m + j / 128 * 2 ^ (m + 7) = j * 2 ^ m := by
      rw [Nat.pow_add, ← Nat.mul_assoc, Nat.mul_right_comm, ← Nat.add_mul, Nat.mod_add_div' j 128]
    -- another octet follows: 2 ^ (m + 7) = 128 * 2 ^ m ≤ j * 2 ^ m
    have h7 : m + 7 < 63 := (Nat.pow_lt_pow_iff_right (by decide)).mp
      (Nat.lt_of_le_of_lt (by rw [Nat.pow_add, Nat.mul_comm]; exact Nat.mul_le_mul_right _ (by omega)) h)
    simp only [List.cons_append, readVarIntTail, Nat.add_mod_left, Nat.mod_mod]
    rw [if_neg (by omega), if_neg (by omega), ih _ _ (by omega), Nat.add_assoc, e]

/-- the bound is sharp: the tail of `2 ^ 63 + (2 ^ n - 1)` is `128 ^ 9`, whose ninth continuation octet (shift 56) the decoder
    refuses as an overflow -/
theorem readVarInt_append (n i : Nat) (rest : List Nat) (hi : i < 2 ^ 63 + (2 ^ n - 1)) :
    readVarInt n (appendVarInt n i ++ rest) = .ok (i, rest) := by
  have hpos : 0 < 2 ^ n := Nat.two_pow_pos n
  unfold appendVarInt
  by_cases h : i < 2 ^ n - 1
  · simp only [h, if_true, List.cons_append, List.nil_append, readVarInt, Nat.mod_eq_of_lt (Nat.lt_of_lt_pred h)]
  · have hk : (2 ^ n - 1) % 2 ^ n = 2 ^ n - 1 := Nat.mod_eq_of_lt (by omega)
    simp only [h, if_false, List.cons_append, readVarInt, hk, Nat.lt_irrefl]
    rw [readVarIntTail_append rest _ 0 _ (by omega)]
    congr 2; omega

theorem orFirst_zero (l : List Nat) : orFirst 0 l = l := by cases l <;> rfl

theorem appendVarInt_head (n i : Nat) : ∃ b r, appendVarInt n i = b :: r ∧ b < 2 ^ n := by
  unfold appendVarInt
  have hpos : 0 < 2 ^ n := Nat.two_pow_pos n
  by_cases h : i < 2 ^ n - 1
  · exact ⟨i, [], by simp [h], by omega⟩
  · exact ⟨2 ^ n - 1, appendVarIntTail (i - (2 ^ n - 1)), by simp [h], by omega⟩

/-- how a prefixed integer with a representation flag or-ed into its first octet (`dst[first] |= flag`, the
    flag above the prefix bits) looks and reads back -/
theorem orFirst_appendVarInt (n i flag : Nat) (hi : i < 2 ^ 63) (hf : flag % 2 ^ n = 0) :
    ∃ b r, orFirst flag (appendVarInt n i) = (b + flag) :: r ∧ b < 2 ^ n ∧
      ∀ rest, readVarInt n ((b + flag) :: (r ++ rest)) = .ok (i, rest) := by
  obtain ⟨b, r, hbr, hb⟩ := appendVarInt_head n i
  refine ⟨b, r, by rw [hbr]; rfl, hb, fun rest => ?_⟩
  have := readVarInt_append n i rest (Nat.lt_add_right _ hi)
  rw [hbr] at this
  simpa only [List.cons_append, readVarInt, Nat.add_mod b, hf, Nat.add_zero, Nat.mod_mod] using this

theorem readString_append {T : Tables} (ok : TablesOk T) (s rest : List Nat)
    (hs : ∀ c ∈ s, c < T.codes.length) (hlen : s.length < 2 ^ 63) :
    readString T 0 (appendHpackString T s ++ rest) = .ok (s, rest) := by
  -- a length with the Huffman flag or not, then that many octets
  have key : ∀ (flag : Nat) (body : List Nat), flag % 2 ^ 7 = 0 → body.length < 2 ^ 63 →
      readString T 0 (orFirst flag (appendVarInt 7 body.length) ++ body ++ rest) =
        if flag < 128 then .ok (body, rest) else
          match liftH (huffmanDecode T 0 body) with
          | .error e => .error e
          | .ok s => .ok (s, rest) := by
    intro flag body hf hl
    obtain ⟨b, r, hbr, hb, hrd⟩ := orFirst_appendVarInt 7 body.length flag hl hf
    rw [hbr, List.append_assoc]
    simp only [readString, List.cons_append, hrd, ne_eq, not_true_eq_false, false_and, if_false, List.length_append,
      Nat.not_lt_of_le (Nat.le_add_right _ _), List.take_left, List.drop_left]
    by_cases h : flag < 128
    · simp only [h, show ¬ b + flag ≥ 128 by omega, decide_false, Bool.not_false, if_true]
    · simp only [h, show b + flag ≥ 128 by omega, decide_true, Bool.not_true, Bool.false_eq_true, if_false]
      rfl
  unfold appendHpackString
  dsimp only
  split
  · rw [← huffEncode_length ok s, key 128 _ (by decide) (by rw [huffEncode_length ok s]; omega), huffman_roundtrip ok s hs]
    rfl
  · rw [← orFirst_zero (appendVarInt _ _), key 0 s (by decide) hlen]
    rfl

def sumSizes : List HF → Nat
  | [] => 0
  | e :: es => e.size + sumSizes es

/-- Go's `evict` trusts the running total `size`: were it above the sum, the loop could be over `maxSize` with no entry
    left, where Go indexes an empty slice (`evictLoop`) -/
def DynTab.WF (t : DynTab) : Prop := t.size = sumSizes t.ents

theorem sumSizes_append (a b : List HF) : sumSizes (a ++ b) = sumSizes a + sumSizes b := by
  induction a with
  | nil => simp [sumSizes]
  | cons x xs ih => simp [sumSizes, ih]; omega

theorem sumSizes_ge (l : List HF) : 32 * l.length ≤ sumSizes l := by
  induction l with
  | nil => simp [sumSizes]
  | cons e es ih => simp [sumSizes, HF.size]; omega

theorem evictLoop_good (ents : List HF) : ∀ (size max : Nat), size = sumSizes ents →
    (evictLoop ents size max).2 = sumSizes (evictLoop ents size max).1 ∧ (evictLoop ents size max).2 ≤ max := by
  intro size max h
  -- 1 no entry left, 2 above the maximum: the oldest entry goes, 3 within the maximum
  fun_induction evictLoop ents size max with
  | case1 => exact ⟨h, by rw [h]; exact Nat.zero_le _⟩
  | case2 e es size max hgt ih => exact ih (by rw [h, sumSizes, Nat.add_sub_cancel_left])
  | case3 e es size max hle => exact ⟨h, Nat.le_of_not_gt hle⟩

theorem evictLoop_id (ents : List HF) (size m : Nat) (h : size ≤ m) : evictLoop ents size m = (ents, size) := by
  cases ents with
  | nil => rfl
  | cons e es => rw [evictLoop, if_neg (Nat.not_lt_of_le h)]

theorem evictLoop_comp (ents : List HF) : ∀ (size a b : Nat),
    evictLoop (evictLoop ents size a).1 (evictLoop ents size a).2 b = evictLoop ents size (min a b) := by
  intro size a b
  fun_induction evictLoop ents size a with
  | case1 => rfl
  | case2 e es size a hgt ih => rw [ih, evictLoop, if_pos (by omega)]
  | case3 e es size a hle =>
    by_cases hb : b ≤ a
    · rw [Nat.min_eq_right hb]
    · rw [Nat.min_eq_left (by omega), evictLoop_id _ _ a (by omega)]
      exact evictLoop_id _ _ _ (by omega)

theorem evict_good (t : DynTab) (h : t.WF) : t.evict.WF ∧ t.evict.size ≤ t.evict.maxSize :=
  evictLoop_good t.ents t.size t.maxSize h

theorem setMaxSize_good (t : DynTab) (v : Nat) (h : t.WF) :
    (t.setMaxSize v).WF ∧ (t.setMaxSize v).size ≤ v ∧ (t.setMaxSize v).maxSize = v :=
  have g := evict_good { t with maxSize := v } h
  ⟨g.1, g.2, rfl⟩

theorem setMaxSize_setMaxSize (t : DynTab) (a b : Nat) :
    (t.setMaxSize a).setMaxSize b = { t.setMaxSize (min a b) with maxSize := b } := by
  simp only [DynTab.setMaxSize, DynTab.evict, evictLoop_comp]

theorem add_good (t : DynTab) (f : HF) (h : t.WF) :
    (t.add f).WF ∧ (t.add f).size ≤ (t.add f).maxSize ∧ (t.add f).maxSize = t.maxSize := by
  have hw : DynTab.WF { t with ents := t.ents ++ [f], size := t.size + f.size } := by
    unfold DynTab.WF at *; simp [sumSizes_append, sumSizes, h]
  have := evict_good _ hw
  exact ⟨this.1, this.2, rfl⟩

end BfeVerif.C30
