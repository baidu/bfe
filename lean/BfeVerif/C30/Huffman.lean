import BfeVerif.C30.Core
/-!
  Huffman lemmas shared by C30 and C31, for any tables `T` that satisfy the decidable facts `TablesOk`.
  C30 needs them up to `huffman_roundtrip`; the last two sections (accepted input is canonical, errors) serve
  C31/HuffRef.lean only.
-/
namespace BfeVerif.C30

/-! ### bits and bytes -/

def ones (k : Nat) : List Bool := List.replicate k true

theorem length_ones (k : Nat) : (ones k).length = k := by simp [ones]

theorem ones_all (k : Nat) : (ones k).all id = true := List.all_eq_true.mpr fun _ hb => List.eq_of_mem_replicate hb

theorem eq_ones_of_all {bs : List Bool} (h : bs.all id = true) : bs = ones bs.length :=
  List.eq_replicate_iff.mpr ⟨rfl, List.all_eq_true.mp h⟩

theorem lt8_eq (bs : List Bool) : lt8 bs = decide (bs.length < 8) := by
  rw [Bool.eq_iff_iff]; simp [lt8, List.drop_eq_nil_iff]; omega

theorem foldl_bits_div (bs : List Bool) : ∀ a : Nat,
    bs.foldl (fun a b => 2 * a + (if b then 1 else 0)) a / 2 ^ bs.length = a := by
  induction bs with
  | nil => intro a; simp
  | cons b bs ih =>
    intro a
    rw [List.foldl_cons, List.length_cons, Nat.pow_succ, ← Nat.div_div_eq_div_mul, ih]
    cases b <;> simp <;> omega

theorem bitsOf_foldl (bs : List Bool) : ∀ a : Nat,
    bitsOf (bs.foldl (fun a b => 2 * a + (if b then 1 else 0)) a) bs.length = bs := by
  induction bs with
  | nil => intro a; rfl
  | cons b bs ih =>
    intro a
    rw [List.foldl_cons, List.length_cons, bitsOf, foldl_bits_div, ih]
    cases b <;> simp <;> omega

theorem bytesBits_packBytes (bs : List Bool) (h8 : 8 ∣ bs.length) : bytesBits (packBytes bs) = bs := by
  obtain ⟨n, h⟩ := h8
  induction n generalizing bs with
  | zero =>
    have : bs = [] := List.eq_nil_of_length_eq_zero (by omega)
    subst this; rfl
  | succ n ih =>
    -- `bs` has eight bits at least: the shorter shapes contradict `h`
    rcases bs with _ | ⟨b7, _ | ⟨b6, _ | ⟨b5, _ | ⟨b4, _ | ⟨b3, _ | ⟨b2, _ | ⟨b1, _ | ⟨b0, rest⟩⟩⟩⟩⟩⟩⟩⟩ <;>
      simp only [List.length_cons, List.length_nil] at h <;> try omega
    simp only [packBytes, bytesBits]
    rw [ih rest (by omega)]
    exact congrArg (· ++ rest) (bitsOf_foldl _ 0)

theorem bytesBits_length (v : List Nat) : (bytesBits v).length = 8 * v.length := by
  induction v with
  | nil => rfl
  | cons b r ih => simp only [bytesBits, bitsOf, List.length_append, List.length_cons, List.length_nil, ih]; omega

/-! ### the tables: prefix-freeness, and what `look` finds (both directions) -/

def NoPre (a b : List Bool) : Prop := ¬ a <+: b ∧ ¬ b <+: a

theorem heads_eq (b : Bool) (x : Bool) (r : List Bool) :
    (match (x :: r : List Bool) with | x :: r => if x == b then some r else none | [] => none) =
      if x == b then some r else none := rfl

theorem noPre_cons {x y : Bool} {u v : List Bool} (h : x = y → NoPre u v) : NoPre (x :: u) (y :: v) :=
  ⟨fun hp => (h (List.cons_prefix_cons.mp hp).1).1 (List.cons_prefix_cons.mp hp).2,
   fun hp => (h (List.cons_prefix_cons.mp hp).1.symm).2 (List.cons_prefix_cons.mp hp).2⟩

theorem pfCheck_pairwise : ∀ (f : Nat) (cs : List (List Bool)), pfCheck f cs = true → cs.Pairwise NoPre := by
  intro f cs h
  -- 1 no code, 2 one code, 3 fuel 0, 4 both halves by first bit
  fun_induction pfCheck f cs with
  | case1 => exact List.Pairwise.nil
  | case2 => exact List.pairwise_singleton _ _
  | case3 => cases h
  | case4 f cs _ _ ih0 ih1 =>
    simp only [Bool.and_eq_true, List.all_eq_true, Bool.not_eq_true', List.isEmpty_eq_false_iff] at h
    obtain ⟨⟨hne, h0⟩, h1⟩ := h
    -- two codes that begin with the same bit have their rests in the same half
    refine List.Pairwise.imp_of_mem ?_ ((List.pairwise_filterMap.mp (ih0 h0)).and (List.pairwise_filterMap.mp (ih1 h1)))
    intro u v hu hv huv
    obtain ⟨x, ru, rfl⟩ := List.exists_cons_of_ne_nil (hne u hu)
    obtain ⟨y, rv, rfl⟩ := List.exists_cons_of_ne_nil (hne v hv)
    refine noPre_cons fun hxy => ?_
    subst hxy
    cases x with
    | false => exact huv.1 ru (by simp) rv (by simp)
    | true => exact huv.2 ru (by simp) rv (by simp)

/-- hypotheses on the tables, all decidable and checked on the generated tables.  The fuel 31 is the longest code
    (EOS, 30 bits) + 1; with too little fuel `pfCheck` is false.  Of `eos`, `padBits_eq` uses only `take ≤ 7`. -/
structure TablesOk (T : Tables) : Prop where
  pf : pfCheck 31 (allCodes T) = true
  pad : padOk T = true
  eos : T.eos = List.replicate 30 true

theorem TablesOk.pairwise {T : Tables} (ok : TablesOk T) : (allCodes T).Pairwise NoPre := pfCheck_pairwise 31 _ ok.pf

theorem codes_noPre {T : Tables} (ok : TablesOk T) (i j : Nat) (hi : i < T.codes.length) (hj : j < T.codes.length)
    (hij : i ≠ j) : NoPre T.codes[i] T.codes[j] := by
  have hc := List.pairwise_iff_getElem.mp (List.pairwise_append.mp ok.pairwise).1
  rcases Nat.lt_or_gt_of_ne hij with h | h
  · exact hc i j hi hj h
  · exact ⟨(hc j i hj hi h).2, (hc j i hj hi h).1⟩

/-- the empty code would be a prefix of EOS -/
theorem codes_ne_nil {T : Tables} (ok : TablesOk T) (i : Nat) (hi : i < T.codes.length) : T.codes[i] ≠ [] := by
  intro h
  have := (List.pairwise_append.mp ok.pairwise).2.2 _ (List.getElem_mem hi) T.eos (by simp)
  rw [h] at this
  exact this.1 List.nil_prefix

theorem findLeaf_cases (n : Nat) (path : List Bool) : ∀ (cs : List (List Bool)) (i : Nat),
    (findLeaf n path cs i = none ∧ ∀ c ∈ cs, isLeafFor n path c = false) ∨
    ∃ s, ∃ hs : s < cs.length, findLeaf n path cs i = some (i + s, cs[s].length - n) ∧ isLeafFor n path cs[s] = true := by
  intro cs i
  fun_induction findLeaf n path cs i with
  | case1 => exact Or.inl ⟨rfl, nofun⟩
  | case2 c cs i hc => exact Or.inr ⟨0, Nat.zero_lt_succ _, rfl, hc⟩
  | case3 c cs i hc ih =>
    rcases ih with ⟨h, hall⟩ | ⟨s, hs, h1, h2⟩
    · exact Or.inl ⟨h, List.forall_mem_cons.mpr ⟨Bool.eq_false_iff.mpr hc, hall⟩⟩
    · exact Or.inr ⟨s + 1, Nat.succ_lt_succ hs, by rw [h1, Nat.add_assoc, Nat.add_comm 1]; rfl, h2⟩

theorem isLeafFor_iff (n : Nat) (path c : List Bool) :
    isLeafFor n path c = true ↔ c <+: path ∧ n < c.length ∧ c.length ≤ n + 8 := by
  simp [isLeafFor, List.isPrefixOf_iff_prefix, and_assoc]

theorem isInternalFor_iff (n : Nat) (path c : List Bool) :
    isInternalFor n path c = true ↔ path <+: c ∧ n + 8 < c.length := by
  simp [isInternalFor, List.isPrefixOf_iff_prefix]

/-- a position inside the code of symbol `s`: `acc` is consumed (the path of the current trie node), `r` to come -/
structure InCode (T : Tables) (s : Nat) (acc r : List Bool) : Prop where
  lt : s < T.codes.length
  eq : acc ++ r = T.codes[s]
  ne : r ≠ []

theorem InCode.start {T : Tables} (ok : TablesOk T) {s : Nat} (hs : s < T.codes.length) : InCode T s [] T.codes[s] :=
  ⟨hs, rfl, codes_ne_nil ok s hs⟩

theorem InCode.pos {T : Tables} {s : Nat} {acc r : List Bool} (h : InCode T s acc r) : 0 < r.length :=
  List.length_pos_iff.mpr h.ne

theorem InCode.next {T : Tables} {s : Nat} {acc r : List Bool} (h : InCode T s acc r) (h8 : 8 < r.length) :
    InCode T s (acc ++ r.take 8) (r.drop 8) :=
  ⟨h.lt, by rw [List.append_assoc, List.take_append_drop]; exact h.eq,
    fun e => by have := congrArg List.length e; rw [List.length_drop, List.length_nil] at this; omega⟩

theorem code_unique {T : Tables} (ok : TablesOk T) {j s : Nat} (hj : j < T.codes.length) (hs : s < T.codes.length)
    {p : List Bool} (hjp : T.codes[j] <+: p) (hsp : T.codes[s] <+: p ∨ p <+: T.codes[s]) : j = s := by
  apply Decidable.byContradiction
  intro hjs
  have np := codes_noPre ok j s hj hs hjs
  rcases hsp with h | h
  · rcases List.prefix_or_prefix_of_prefix hjp h with h1 | h1
    · exact np.1 h1
    · exact np.2 h1
  · exact np.1 (hjp.trans h)

theorem look_leaf {T : Tables} (ok : TablesOk T) {s : Nat} {acc r : List Bool} (h : InCode T s acc r) (idx : List Bool)
    (hr8 : r.length ≤ 8) (hpre : r <+: idx) : look T acc idx = .leaf s r.length := by
  have hrpos := h.pos
  obtain ⟨hs, hc, _⟩ := h
  have hlen : T.codes[s].length = acc.length + r.length := by rw [← hc, List.length_append]
  have hcp : T.codes[s] <+: acc ++ idx := by rw [← hc]; exact (List.prefix_append_right_inj acc).mpr hpre
  unfold look
  rcases findLeaf_cases acc.length (acc ++ idx) T.codes 0 with ⟨_, hnone⟩ | ⟨j, hj, hf, hl⟩
  · have := hnone _ (List.getElem_mem hs)
    rw [(isLeafFor_iff _ _ _).mpr ⟨hcp, by omega, by omega⟩] at this
    cases this
  · obtain rfl := code_unique ok hj hs ((isLeafFor_iff _ _ _).mp hl).1 (Or.inl hcp)
    rw [hf, Nat.zero_add]
    dsimp only
    congr 1; omega

theorem look_internal {T : Tables} (ok : TablesOk T) {s : Nat} {acc r : List Bool} (h : InCode T s acc r)
    (hr8 : 8 < r.length) : look T acc (r.take 8) = .internal := by
  obtain ⟨hs, hc, _⟩ := h
  have hlen : T.codes[s].length = acc.length + r.length := by rw [← hc, List.length_append]
  have hpc : acc ++ r.take 8 <+: T.codes[s] := by
    rw [← hc]; exact (List.prefix_append_right_inj acc).mpr (List.take_prefix 8 r)
  unfold look
  rcases findLeaf_cases acc.length (acc ++ r.take 8) T.codes 0 with ⟨hf, _⟩ | ⟨j, hj, _, hl⟩
  · have hany : T.codes.any (isInternalFor acc.length (acc ++ r.take 8)) = true :=
      List.any_eq_true.mpr ⟨T.codes[s], List.getElem_mem hs, (isInternalFor_iff _ _ _).mpr ⟨hpc, by omega⟩⟩
    rw [hf]
    simp only [hany, if_true]
  · obtain ⟨hcp, _, h2⟩ := (isLeafFor_iff _ _ _).mp hl
    obtain rfl := code_unique ok hj hs hcp (Or.inr hpc)
    omega

theorem look_leaf_sound {T : Tables} {acc idx : List Bool} {s l : Nat} (h : look T acc idx = .leaf s l) :
    ∃ r, InCode T s acc r ∧ r.length = l ∧ r <+: idx := by
  unfold look at h
  rcases findLeaf_cases acc.length (acc ++ idx) T.codes 0 with ⟨hf, _⟩ | ⟨j, hj, hf, hleaf⟩
  · rw [hf] at h; dsimp only at h; split at h <;> cases h
  · rw [hf] at h
    simp only [Look.leaf.injEq, Nat.zero_add] at h
    obtain ⟨rfl, rfl⟩ := h
    obtain ⟨hpre, h1, h2⟩ := (isLeafFor_iff _ _ _).mp hleaf
    obtain ⟨r, hr⟩ : acc <+: T.codes[j] :=
      List.prefix_of_prefix_length_le (List.prefix_append acc idx) hpre (by omega)
    have hrl : r.length = T.codes[j].length - acc.length := by
      have := congrArg List.length hr
      rw [List.length_append] at this; omega
    refine ⟨r, ⟨hj, hr, fun e => by rw [e, List.length_nil] at hrl; omega⟩, hrl, ?_⟩
    rw [← hr] at hpre
    exact (List.prefix_append_right_inj acc).mp hpre

/-! ### the encoder's bits -/

theorem symCode_eq (T : Tables) (c : Nat) (h : c < T.codes.length) : symCode T c = T.codes[c] := by
  simp [symCode, List.getD_eq_getElem?_getD, h]

theorem encBits_cons_append {T : Tables} (c : Nat) (hc : c < T.codes.length) (syms : List Nat) (p : List Bool) :
    encBits T (c :: syms) ++ p = T.codes[c] ++ (encBits T syms ++ p) := by
  rw [encBits, symCode_eq T c hc, List.append_assoc]

theorem encBits_append (T : Tables) (a b : List Nat) : encBits T (a ++ b) = encBits T a ++ encBits T b := by
  induction a with
  | nil => rfl
  | cons c a ih => simp [encBits, ih]

theorem encBits_length (T : Tables) (s : List Nat) : (encBits T s).length = huffBitLen T s := by
  induction s with
  | nil => rfl
  | cons c r ih => rw [encBits, huffBitLen, List.length_append, ih]

theorem padBits_eq {T : Tables} (ok : TablesOk T) (n : Nat) : padBits T n = ones ((8 - n % 8) % 8) := by
  unfold padBits ones
  rw [ok.eos, List.take_replicate]
  congr 1; omega

theorem bytesBits_huffEncode {T : Tables} (ok : TablesOk T) (s : List Nat) :
    bytesBits (huffEncode T s) = encBits T s ++ ones ((8 - (encBits T s).length % 8) % 8) := by
  unfold huffEncode
  rw [padBits_eq ok]
  apply bytesBits_packBytes
  rw [List.length_append, length_ones]
  omega

theorem huffEncode_length {T : Tables} (ok : TablesOk T) (s : List Nat) :
    (huffEncode T s).length = huffEncodeLength T s := by
  have h := congrArg List.length (bytesBits_huffEncode ok s)
  rw [bytesBits_length, List.length_append, length_ones, encBits_length] at h
  unfold huffEncodeLength
  omega

/-! ### canonical input (codes, then fewer than 8 one-bits) decodes -/

theorem tailLoop_pad {T : Tables} (ok : TablesOk T) (f k : Nat) (hk : k < 8) (out : List Nat) :
    tailLoop T f [] (ones k) out = .ok ([], ones k, out) := by
  cases f with
  | zero => rfl
  | succ f =>
    rw [tailLoop, length_ones]
    by_cases h0 : k = 0
    · rw [if_pos h0]
    · have hp := List.all_eq_true.mp ok.pad k (List.mem_range.mpr hk)
      rw [if_neg h0, ones]
      revert hp
      cases look T [] (List.replicate k true ++ List.replicate (8 - k) false) with
      | nil => nofun
      | internal => intro; rfl
      | leaf s l => exact fun hp => if_pos (of_decide_eq_true hp)

theorem tailLoop_leaf {T : Tables} (ok : TablesOk T) {s : Nat} {acc r : List Bool} (h : InCode T s acc r)
    (rest : List Bool) (out : List Nat) (f : Nat) (h8 : r.length + rest.length ≤ 8) :
    tailLoop T (f + 1) acc (r ++ rest) out = tailLoop T f [] rest (out ++ [s]) := by
  have hrpos := h.pos
  rw [tailLoop, if_neg (by rw [List.length_append]; omega),
    look_leaf ok h _ (by omega) (by rw [List.append_assoc]; exact List.prefix_append _ _)]
  simp only [List.length_append, if_neg (show ¬ r.length > r.length + rest.length by omega), List.drop_left]

theorem mainLoop_leaf {T : Tables} (ok : TablesOk T) {s : Nat} {acc r : List Bool} (h : InCode T s acc r)
    (rest : List Bool) (out : List Nat) (f : Nat) (h8 : 8 ≤ (r ++ rest).length) (hr8 : r.length ≤ 8) :
    mainLoop T 0 (f + 1) acc (r ++ rest) out = mainLoop T 0 f [] rest (out ++ [s]) := by
  rw [mainLoop, lt8_eq, decide_eq_false (Nat.not_lt_of_le h8), look_leaf ok h _ hr8 (List.prefix_take_iff.mpr ⟨List.prefix_append _ _, hr8⟩)]
  simp only [Bool.false_eq_true, if_false, ne_eq, not_true_eq_false, false_and, List.drop_left]

theorem mainLoop_internal {T : Tables} (ok : TablesOk T) {s : Nat} {acc r : List Bool} (h : InCode T s acc r)
    (rest : List Bool) (out : List Nat) (f : Nat) (hr8 : 8 < r.length) :
    mainLoop T 0 (f + 1) acc (r ++ rest) out = mainLoop T 0 f (acc ++ r.take 8) (r.drop 8 ++ rest) out := by
  rw [mainLoop, lt8_eq, decide_eq_false (by rw [List.length_append]; omega), List.take_append_of_le_length (by omega), List.drop_append_of_le_length (by omega),
    look_internal ok h hr8]
  simp only [Bool.false_eq_true, if_false]

/-- where the decoder stands in a canonical stream (the codes of `syms`, then `k` one-bits) -/
inductive AtCanon (T : Tables) (k : Nat) : List Bool → List Bool → List Nat → Prop where
  | pad : AtCanon T k [] (ones k) []
  | code {s : Nat} {acc r : List Bool} {syms : List Nat} : InCode T s acc r → (∀ x ∈ syms, x < T.codes.length) →
      AtCanon T k acc (r ++ (encBits T syms ++ ones k)) (s :: syms)

theorem AtCanon.boundary {T : Tables} (ok : TablesOk T) (k : Nat) {syms : List Nat}
    (hall : ∀ x ∈ syms, x < T.codes.length) : AtCanon T k [] (encBits T syms ++ ones k) syms := by
  cases syms with
  | nil => exact .pad
  | cons c syms =>
    have hcl : c < T.codes.length := hall c (by simp)
    rw [encBits_cons_append c hcl]
    exact .code (InCode.start ok hcl) (List.forall_mem_cons.mp hall).2

theorem tailLoop_canon {T : Tables} (ok : TablesOk T) {k : Nat} (hk : k < 8) :
    ∀ (f : Nat) {acc bs : List Bool} {syms : List Nat} (out : List Nat), AtCanon T k acc bs syms →
    bs.length < 8 → bs.length < f → tailLoop T f acc bs out = .ok ([], ones k, out ++ syms) := by
  intro f
  induction f with
  | zero => intro _ _ _ _ _ _ hf; omega
  | succ f ih =>
    intro acc bs syms out h hl8 hf
    cases h with
    | pad => rw [List.append_nil]; exact tailLoop_pad ok _ k hk out
    | code hin hall =>
      have hrpos := hin.pos
      rw [List.length_append] at hl8 hf
      rw [tailLoop_leaf ok hin _ out f (by omega),
        ih _ (.boundary ok k hall) (by omega) (by omega), List.append_assoc]
      rfl

theorem finalize_pad (k : Nat) (hk : k < 8) (o : List Nat) : finalize (.ok ([], ones k, o)) = .ok o := by
  have h1 : ¬ (([] : List Bool).length + (ones k).length > 7) := by rw [length_ones]; simp; omega
  simp only [finalize, h1, if_false, ones_all, if_true]

/-- `out' ++ syms' = out ++ syms`: what is emitted and what is to come stay the same whole, so that both steps are the
    induction hypothesis as it stands -/
theorem mainLoop_canon {T : Tables} (ok : TablesOk T) {k : Nat} (hk : k < 8) :
    ∀ (f : Nat) {acc bs : List Bool} {syms : List Nat} (out : List Nat), AtCanon T k acc bs syms → bs.length < f →
    ∃ acc' bs' out' syms', mainLoop T 0 f acc bs out = .ok (acc', bs', out') ∧ AtCanon T k acc' bs' syms' ∧
      out' ++ syms' = out ++ syms ∧ bs'.length < 8 := by
  intro f
  induction f with
  | zero => intro _ _ _ _ _ hf; omega
  | succ f ih =>
    intro acc bs syms out h hf
    by_cases hl : bs.length < 8
    · exact ⟨acc, bs, out, syms, by rw [mainLoop, lt8_eq, decide_eq_true hl, if_pos rfl], h, rfl, hl⟩
    · cases h with
      | pad => rw [length_ones] at hl; omega
      | @code s acc r syms hin hall =>
        have hrpos := hin.pos
        rw [List.length_append] at hl hf
        by_cases hr8 : r.length ≤ 8
        · rw [mainLoop_leaf ok hin _ out f (by rw [List.length_append]; omega) hr8, List.append_cons out s syms]
          exact ih _ (.boundary ok k hall) (by omega)
        · rw [mainLoop_internal ok hin _ out f (by omega)]
          exact ih out (.code (hin.next (by omega)) hall) (by rw [List.length_append, List.length_drop]; omega)

theorem huffman_canon {T : Tables} (ok : TablesOk T) (syms : List Nat) (k : Nat) (hk : k < 8)
    (hall : ∀ x ∈ syms, x < T.codes.length) (v : List Nat) (hv : bytesBits v = encBits T syms ++ ones k) :
    huffmanDecode T 0 v = .ok syms := by
  obtain ⟨a, p, o, rest, hm, hat, hs, hl⟩ := mainLoop_canon ok hk _ [] (.boundary ok k hall) (Nat.lt_succ_self _)
  rw [← hv] at hm
  simp only [huffmanDecode, hm]
  rw [tailLoop_canon ok hk 8 _ hat hl hl, finalize_pad k hk, hs]
  rfl

theorem huffman_roundtrip {T : Tables} (ok : TablesOk T) (s : List Nat) (hs : ∀ c ∈ s, c < T.codes.length) :
    huffmanDecode T 0 (huffEncode T s) = .ok s :=
  huffman_canon ok s _ (by omega) hs _ (bytesBits_huffEncode ok s)

/-! ### accepted input is canonical -/

/-- `acc` is the path of the decoder's current node: empty at the root, whole index bytes below it (`node`), so that
    an end with at most 7 bits left is an end at the root (`huffman_sound`) -/
structure Consumed (T : Tables) (bits acc bs : List Bool) (out : List Nat) : Prop where
  eq : bits = encBits T out ++ acc ++ bs
  syms : ∀ x ∈ out, x < T.codes.length
  node : acc = [] ∨ 8 ≤ acc.length

/-- `hpre`: the `l` bits of the index byte `idx` that end the code are bits of the input (the main loop looks up
    `bs.take 8`, the tail loop `bs` filled up with zeros) -/
theorem Consumed.leaf {T : Tables} {bits acc idx bs : List Bool} {out : List Nat} {s l : Nat}
    (h : Consumed T bits acc bs out) (hk : look T acc idx = .leaf s l)
    (hpre : ∀ r, r <+: idx → r.length = l → r <+: bs) : Consumed T bits [] (bs.drop l) (out ++ [s]) := by
  obtain ⟨r, ⟨hs, hr, _⟩, rfl, hri⟩ := look_leaf_sound hk
  obtain ⟨t, rfl⟩ := hpre r hri rfl
  refine ⟨?_, List.forall_mem_append.mpr ⟨h.syms, List.forall_mem_singleton.mpr hs⟩, Or.inl rfl⟩
  rw [h.eq, List.drop_left, encBits_append, encBits, symCode_eq T s hs, ← hr]
  simp only [encBits, List.append_assoc, List.append_nil]

theorem mainLoop_sound {T : Tables} {m f : Nat} {bits acc bs : List Bool} {out : List Nat} {acc' bs' : List Bool}
    {out' : List Nat} (h : mainLoop T m f acc bs out = .ok (acc', bs', out')) (hc : Consumed T bits acc bs out) :
    Consumed T bits acc' bs' out' := by
  -- 1 fuel 0, 2 fewer than 8 bits, 3 nil child, 4 string too long, 5 leaf, 6 internal node
  fun_induction mainLoop T m f acc bs out with
  | case1 | case2 => cases h; exact hc
  | case3 | case4 => cases h
  | case5 f acc bs out _ s l hk _ ih => exact ih h (hc.leaf hk fun r hr _ => hr.trans (List.take_prefix 8 bs))
  | case6 f acc bs out hl hk ih =>
    rw [lt8_eq, decide_eq_true_eq] at hl
    exact ih h ⟨by rw [hc.eq]; simp only [List.append_assoc, List.take_append_drop], hc.syms,
      Or.inr (by rw [List.length_append, List.length_take]; omega)⟩

theorem tailLoop_sound {T : Tables} {f : Nat} {bits acc pend : List Bool} {out : List Nat} {acc' pend' : List Bool}
    {out' : List Nat} (h : tailLoop T f acc pend out = .ok (acc', pend', out')) (hc : Consumed T bits acc pend out) :
    Consumed T bits acc' pend' out' := by
  -- 1 fuel 0, 2 no bits, 3 nil child, 4 internal node (break), 5 leaf longer than the bits left (break), 6 leaf
  fun_induction tailLoop T f acc pend out with
  | case1 | case2 | case4 | case5 => cases h; exact hc
  | case3 => cases h
  | case6 f acc pend out _ s l hk hgt ih =>
    exact ih h (hc.leaf hk fun r hr hrl => List.prefix_of_prefix_length_le hr (List.prefix_append pend _) (by omega))

theorem huffmanDecode_cases (T : Tables) (m : Nat) (v : List Nat) :
    (∃ e, mainLoop T m ((bytesBits v).length + 1) [] (bytesBits v) [] = .error e ∧ huffmanDecode T m v = .error e) ∨
    ∃ a p o, mainLoop T m ((bytesBits v).length + 1) [] (bytesBits v) [] = .ok (a, p, o) ∧
      huffmanDecode T m v = finalize (tailLoop T 8 a p o) := by
  cases hm : mainLoop T m ((bytesBits v).length + 1) [] (bytesBits v) [] with
  | error e => exact Or.inl ⟨e, rfl, by simp only [huffmanDecode, hm]⟩
  | ok s => exact Or.inr ⟨s.1, s.2.1, s.2.2, rfl, by simp only [huffmanDecode, hm]⟩

theorem finalize_ok {r : Except HErr (List Bool × List Bool × List Nat)} {res : List Nat} (h : finalize r = .ok res) :
    ∃ acc pend, r = .ok (acc, pend, res) ∧ acc.length + pend.length ≤ 7 ∧ pend.all id = true := by
  revert h
  -- 1 error passed on, 2 more than 7 bits left, 3 accepted, 4 a zero among the bits left
  fun_cases finalize r with
  | case1 | case2 | case4 => intro h; cases h
  | case3 acc pend out hlen hall => intro h; cases h; exact ⟨acc, pend, rfl, Nat.le_of_not_gt hlen, hall⟩

theorem finalize_err {r : Except HErr (List Bool × List Bool × List Nat)} {e : HErr} (h : finalize r = .error e) :
    r = .error e ∨ e = .invalid := by
  revert h
  fun_cases finalize r with
  | case1 => intro h; cases h; exact Or.inl rfl
  | case2 | case4 => intro h; cases h; exact Or.inr rfl
  | case3 => intro h; cases h

theorem huffman_sound (T : Tables) (m : Nat) (v res : List Nat) (h : huffmanDecode T m v = .ok res) :
    ∃ k, k < 8 ∧ bytesBits v = encBits T res ++ ones k ∧ ∀ x ∈ res, x < T.codes.length := by
  rcases huffmanDecode_cases T m v with ⟨e, _, hd⟩ | ⟨a1, p1, o1, hm, hd⟩ <;> rw [hd] at h
  · cases h
  · obtain ⟨a2, p2, ht, hlen, hall⟩ := finalize_ok h
    obtain ⟨hb, hv, ha2⟩ := tailLoop_sound ht (mainLoop_sound (bits := bytesBits v) hm ⟨rfl, nofun, Or.inl rfl⟩)
    obtain rfl : a2 = [] := ha2.resolve_right (by omega)
    rw [List.append_nil] at hb
    exact ⟨p2.length, by rw [List.length_nil] at hlen; omega, by rw [hb, ← eq_ones_of_all hall], hv⟩

/-! ### errors: with no string-length limit, ErrInvalidHuffman only -/

theorem mainLoop_err0 {T : Tables} {f : Nat} {acc bs : List Bool} {out : List Nat} {e : HErr}
    (h : mainLoop T 0 f acc bs out = .error e) : e = .invalid := by
  -- cases as in `mainLoop_sound`; in 4 the test `maxLen ≠ 0` is `hc.1 : 0 ≠ 0`
  fun_induction mainLoop T 0 f acc bs out with
  | case1 | case2 => cases h
  | case3 => cases h; rfl
  | case4 _ _ _ _ _ _ _ _ hc => exact absurd rfl hc.1
  | case5 _ _ _ _ _ _ _ _ _ ih => exact ih h
  | case6 _ _ _ _ _ _ ih => exact ih h

theorem tailLoop_err {T : Tables} {f : Nat} {acc pend : List Bool} {out : List Nat} {e : HErr}
    (h : tailLoop T f acc pend out = .error e) : e = .invalid := by
  fun_induction tailLoop T f acc pend out with
  | case1 | case2 | case4 | case5 => cases h
  | case3 => cases h; rfl
  | case6 _ _ _ _ _ _ _ _ _ ih => exact ih h

theorem huffman_err0 (T : Tables) (v : List Nat) (e : HErr) (h : huffmanDecode T 0 v = .error e) : e = .invalid := by
  rcases huffmanDecode_cases T 0 v with ⟨e', hm, hd⟩ | ⟨a, p, o, _, hd⟩ <;> rw [hd] at h
  · cases h; exact mainLoop_err0 hm
  · exact (finalize_err h).elim tailLoop_err id

end BfeVerif.C30
