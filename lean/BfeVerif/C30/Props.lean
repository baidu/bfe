import BfeVerif.C30.Sync
/-!
  C30 — HPACK encoding round-trips and respects table limits.
-/
namespace BfeVerif.C30

/-- integers: what `appendVarInt` writes with an `n`-bit prefix, `readVarInt` reads back, leaving the rest
    (every value below 2^63; from 2^63 + 2^n - 1 on the decoder reports an overflow instead). -/
theorem C30_varint_roundtrip (n i : Nat) (rest : List Nat) (hi : i < 2 ^ 63) :
    readVarInt n (appendVarInt n i ++ rest) = .ok (i, rest) :=
  readVarInt_append n i rest (Nat.lt_add_right _ hi)

/-- dynamic table: after `add` the size is the sum of the entries and within `maxSize` -/
theorem C30_table_bound_add (t : DynTab) (f : HF) (h : t.WF) :
    (t.add f).WF ∧ (t.add f).size ≤ (t.add f).maxSize ∧ (t.add f).maxSize = t.maxSize :=
  add_good t f h

/-- dynamic table: after `setMaxSize v` (SETTINGS change or size update) likewise, with `maxSize = v` -/
theorem C30_table_bound_setMaxSize (t : DynTab) (v : Nat) (h : t.WF) :
    (t.setMaxSize v).WF ∧ (t.setMaxSize v).size ≤ v ∧ (t.setMaxSize v).maxSize = v :=
  setMaxSize_good t v h

/-! Facts about the tables extracted from tables.go / huffman.go on this run (finite, checked by the kernel). -/

/-- the 256 codes and EOS are pairwise prefix-free (none is a prefix of another) -/
theorem C30_table_prefix_free : pfCheck 31 (allCodes T) = true := by decide +kernel

/-- from the root of the decoding trie, ≤ 7 one-bits (zero filled) never reach a nil child or a complete code -/
theorem C30_table_pad_ok : padOk T = true := by decide +kernel

/-- the EOS constant of AppendHuffmanString is thirty one-bits; the static table has 61 entries -/
theorem C30_table_shape : T.eos = List.replicate 30 true ∧ T.static.length = 61 := by decide +kernel

theorem C30_table_codes_length : T.codes.length = 256 := by
  show (BfeVerif.Generated.C30.huffCodes.map _).length = 256
  rw [List.length_map]; decide +kernel

theorem C30_tables_ok : TablesOk T := ⟨C30_table_prefix_free, C30_table_pad_ok, C30_table_shape.1⟩

/-- pairwise prefix-freeness as a statement about bit strings (what the finite check means) -/
theorem C30_codes_prefix_free : (allCodes T).Pairwise NoPre := C30_tables_ok.pairwise

/-- **Huffman round trip**: the decoder (byte-wise trie walk + tail loop, as coded) inverts the encoder
    on every octet string. -/
theorem C30_huffman_roundtrip (s : List Nat) (hs : ∀ c ∈ s, c < 256) :
    huffmanDecode T 0 (huffEncode T s) = .ok s :=
  huffman_roundtrip C30_tables_ok s (by rw [C30_table_codes_length]; exact hs)

/-- `HuffmanEncodeLength` is the length of what `AppendHuffmanString` writes (the announced string length) -/
theorem C30_huffman_length (s : List Nat) : (huffEncode T s).length = huffEncodeLength T s :=
  huffEncode_length C30_tables_ok s

/-- **string literals round-trip**: `readString (appendHpackString s ++ rest) = (s, rest)`, whichever of the
    raw / Huffman forms the encoder picks. -/
theorem C30_string_roundtrip (s rest : List Nat) (hs : ∀ c ∈ s, c < 256) (hlen : s.length < 2 ^ 63) :
    readString T 0 (appendHpackString T s ++ rest) = .ok (s, rest) :=
  readString_append C30_tables_ok s rest (by rw [C30_table_codes_length]; exact hs) hlen

/-- **C30, encoder/decoder synchronisation over whole histories.**  Encoder = NewEncoder, decoder =
    NewDecoder(4096) with SetAllowedMaxDynamicTableSize(a).  For EVERY sequence of WriteField /
    SetMaxDynamicTableSize / SetMaxDynamicTableSizeLimit / end-of-block operations (fields with byte octets,
    names and values shorter than 2^31, limit never above `a`, 4096 ≤ a < 2^32), every block decodes without error to exactly the fields written into it
    (names, values, never-index flags, in order), both tables stay within their maximum, the decoder's maximum
    within `a`, and whenever the encoder owes no size update the two dynamic tables are equal.
    The invariant behind it is `Sync` (SetMaxDynamicTableSizeLimit as in fixes/C30-limit-minsize.md; emit never fails). -/
theorem C30_sync (a : Nat) (ops : List Op) (ha0 : BfeVerif.Generated.C30.initialHeaderTableSize ≤ a)
    (ha : a < 2 ^ 32) (hops : ∀ op ∈ ops, OpValid a op) :
    AllGood a (runHist T a ops).obs (expected ops []) := by
  obtain ⟨obs', h1, h2⟩ := sync_history C30_tables_ok C30_table_codes_length (by rw [C30_table_shape.2]; decide)
    (Nat.le_pred_of_lt ha) ops _ [] (inv_init T ha0) hops
  unfold runHist
  rw [h1]
  exact h2

/-- RFC 7541 §4.2 on the encoder's side: what `WriteField` writes is the pending size update(s) followed by ONE field representation, whose first octet
    is never that of a size update (001xxxxx) … -/
theorem C30_field_repr_not_update (e : Enc) (f : HF) :
    (e.writeField T f).2 = e.flush.2 ++ (e.flush.1.encodeField T f).2 ∧
    ∃ b r, (e.flush.1.encodeField T f).2 = b :: r ∧ ¬ (32 ≤ b ∧ b < 64) :=
  ⟨rfl, encodeField_first T _ f⟩

/-- … and afterwards nothing is pending, so the next `WriteField` (no Set… call in between) writes no size update:
    updates can only stand in front of the first field written after a size change. -/
theorem C30_no_update_unless_pending (e : Enc) (f : HF) :
    (e.writeField T f).1.pending = false ∧ (e.pending = false → e.flush.2 = []) :=
  ⟨(encodeField_pending T _ f).trans (flush_pending e), fun h => by simp [Enc.flush, h]⟩

/-- non-vacuity: the history of fixes/C30-limit-minsize.md (limit 50 evicts, limit 8192, max 4096; a
    SetMaxDynamicTableSizeLimit that leaves `minSize` alone announces only "4096" and the tables differ from then on) -/
example : (runHist T 8192 [.field ⟨[120, 45, 97], List.replicate 20 97, false⟩, .endBlock, .setLimit 50, .setLimit 8192,
    .setMax 4096, .field ⟨[120, 45, 98], [98], false⟩, .endBlock]).obs.map (fun o => (o.enc == o.dec, o.fields.length)) =
    [(true, 1), (true, 1)] := by decide +kernel

example : ({ ents := [{ name := [1], value := [2] }], size := 34, maxSize := 40 } : DynTab).WF := rfl
-- RFC 7541 C.4.1 (`www.example.com`, Huffman coded) and C.1.3 (1337 with a 5-bit prefix)
example : huffEncode T [119, 119, 119, 46, 101, 120, 97, 109, 112, 108, 101, 46, 99, 111, 109] =
    [0xf1, 0xe3, 0xc2, 0xe5, 0xf2, 0x3a, 0x6b, 0xa0, 0xab, 0x90, 0xf4, 0xff] := by decide +kernel
example : appendVarInt 5 1337 = [31, 154, 10] := by decide +kernel

end BfeVerif.C30
