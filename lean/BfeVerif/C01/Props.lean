import BfeVerif.C01.Proofs
/-!
  C01 — smooth weighted round-robin gives exact weight shares.

  Setting of the theorems over `ws`: `ws` is the ordered list of configured weights of a sub-cluster, all
  positive, non-empty; `g > 0` is the scaling constant of `BackendRR.Init` (100 in the source); `initList g ws` is
  the state `BalanceRR.Init` builds (all backends available, slow start off); `W = ws.sum` is the sum of the
  CONFIGURED weights.  `picks k s` are the results of `k` consecutive `smoothBalance` calls from state `s`,
  `stateAfter k s` the state they leave.  The others speak of arbitrary lists, of a reload (`Update`), of slow start (on `SS`).
  `sumCur`, `sumW`, `mkState`, `scaleL`, `elig`, `pattern`, `embedP` in the statements are defined in Proofs.lean.
-/
namespace BfeVerif.C01

/-- closed form of every reachable state: after `k` calls backend `i` holds
    `current = g·((k+1)·wᵢ − W·nᵢ(k))`, `nᵢ(k)` = how often it was returned so far. -/
theorem C01_closed_form (g : Int) (hg : 0 < g) (ws : List Int) (hpos : ∀ w ∈ ws, 0 < w) (hne : ws ≠ [])
    (k i : Nat) (w : Int) (hi : ws[i]? = some w) :
    (stateAfter k (initList g ws))[i]? =
      some ⟨g * w, g * (((k : Int) + 1) * w - ws.sum * cnt i (picks k (initList g ws))), true⟩ := by
  have h := (orbit_init ws hpos hne k).pt i w w (by rw [List.getElem?_map, hi]; rfl)
  rw [initList_scale, stateAfter_scale hg, picks_scale hg, scaleL, List.getElem?_map, h,
    Int.add_mul, Int.one_mul, Int.add_comm _ w]
  rfl

/-- a call never fails and always returns a configured backend -/
theorem C01_all_ok (g : Int) (hg : 0 < g) (ws : List Int) (hpos : ∀ w ∈ ws, 0 < w) (hne : ws ≠ [])
    (k : Nat) : ∀ x ∈ picks k (initList g ws), ∃ j, j < ws.length ∧ x = some j := by
  have h := (orbit_init ws hpos hne k).range
  rwa [List.length_map, ← picks_scale hg, ← initList_scale] at h

/-- Σ current = Σ weight = W in every reachable state (unscaled state; the scaled one is g times it,
    see `C01_closed_form`) -/
theorem C01_sum_inv (ws : List Int) (hpos : ∀ w ∈ ws, 0 < w) (hne : ws ≠ [])
    (k : Nat) : sumCur (stateAfter k (initList 1 ws)) = ws.sum ∧
      sumW (stateAfter k (initList 1 ws)) = ws.sum :=
  ⟨(orbit_init ws hpos hne k).sc, (orbit_init ws hpos hne k).sw⟩

/-- from ANY state (not only reachable ones): one successful call makes Σ current = Σ weight
    over the eligible backends — the sum heals after one call even after a reload -/
theorem C01_sum_heals (bs : List Backend) (m : Nat) (bs' : List Backend)
    (h : smoothStep bs = some (m, bs')) : sumCur bs' = sumW bs ∧ sumW bs' = sumW bs :=
  smoothStep_sums h

/-- lower bound on the credit, stated for `g = 1` (cf. `C01_closed_form`): `current_i > wᵢ − W` in every reachable state -/
theorem C01_lower (ws : List Int) (hpos : ∀ w ∈ ws, 0 < w) (hne : ws ≠ [])
    (k i : Nat) (w : Int) (hi : ws[i]? = some w) :
    ((k : Int) + 1) * w - ws.sum * cnt i (picks k (initList 1 ws)) > w - ws.sum := by
  have h := (orbit_init ws hpos hne k).lb i w w (by rw [List.getElem?_map, hi]; rfl)
  have hW := sum_pos ws hpos hne
  rw [Int.add_mul, Int.one_mul]
  omega

/-- **exact shares over one period**: in the first `W` calls backend `i` is returned exactly `wᵢ` times -/
theorem C01_counts (g : Int) (hg : 0 < g) (ws : List Int) (hpos : ∀ w ∈ ws, 0 < w) (hne : ws ≠ [])
    (i : Nat) (w : Int) (hi : ws[i]? = some w) :
    (cnt i (picks ws.sum.toNat (initList g ws)) : Int) = w := by
  have hW := sum_pos ws hpos hne
  rw [initList_scale, picks_scale hg]
  exact (orbit_init ws hpos hne ws.sum.toNat).cnt_eq hW (Int.toNat_of_nonneg (Int.le_of_lt hW))
    (fun p hp => by obtain ⟨v, _, rfl⟩ := List.mem_map.mp hp; rfl)
    i w (hpos w (List.mem_of_getElem? hi)) (by rw [List.getElem?_map, hi]; rfl)

/-- **period**: after `W` calls the state is the initial state again -/
theorem C01_period (g : Int) (hg : 0 < g) (ws : List Int) (hpos : ∀ w ∈ ws, 0 < w) (hne : ws ≠ []) :
    stateAfter ws.sum.toNat (initList g ws) = initList g ws := by
  have hk : ((ws.sum.toNat : Nat) : Int) = ws.sum :=
    Int.toNat_of_nonneg (Int.le_of_lt (sum_pos ws hpos hne))
  have hlen : (initList g ws).length = ws.length := List.length_map _
  apply List.ext_getElem?
  intro i
  rcases Nat.lt_or_ge i ws.length with hi | hi
  · have hw : ws[i]? = some ws[i] := List.getElem?_eq_getElem hi
    rw [C01_closed_form g hg ws hpos hne _ i _ hw, C01_counts g hg ws hpos hne i _ hw, hk,
      Int.add_mul, Int.one_mul, Int.add_comm _ ws[i], Int.add_sub_cancel, initList, List.getElem?_map, hw,
      Int.mul_comm]
    rfl
  · rw [List.getElem?_eq_none (by rw [stateAfter_length, hlen]; exact hi),
      List.getElem?_eq_none (by rw [hlen]; exact hi)]

theorem C01_periodic (g : Int) (hg : 0 < g) (ws : List Int) (hpos : ∀ w ∈ ws, 0 < w) (hne : ws ≠ [])
    (k : Nat) : picks (ws.sum.toNat + k) (initList g ws)
      = picks ws.sum.toNat (initList g ws) ++ picks k (initList g ws) := by
  rw [picks_add, C01_period g hg ws hpos hne]

/-- **C01 (full strength, steady state)**: EVERY window of `W` consecutive calls — wherever it starts —
    returns backend `i` exactly `wᵢ` times. -/
theorem C01_window (g : Int) (hg : 0 < g) (ws : List Int) (hpos : ∀ w ∈ ws, 0 < w) (hne : ws ≠ [])
    (start i : Nat) (w : Int) (hi : ws[i]? = some w) :
    (cnt i (window start ws.sum.toNat (initList g ws)) : Int) = w := by
  rw [cnt_window_of_period (C01_period g hg ws hpos hne)]
  exact C01_counts g hg ws hpos hne i w hi

/-! Non-vacuity: the example of the source's header comment, `{a:5, b:1, c:1}` gives `aabacaa`. -/
example : picks 7 (initList 100 [5, 1, 1]) = [some 0, some 0, some 1, some 0, some 2, some 0, some 0] := by
  decide +kernel
example : stateAfter 7 (initList 100 [5, 1, 1]) = initList 100 [5, 1, 1] := by decide +kernel
example : (∀ w ∈ ([5, 1, 1] : List Int), 0 < w) ∧ ([5, 1, 1] : List Int) ≠ [] := by decide +kernel
example : window 3 7 (initList 100 [5, 1, 1]) = [some 0, some 2, some 0, some 0, some 0, some 0, some 1] := by
  decide +kernel

/-- the common factor (the ×100 of `Init`, or any gcd of the configured weights) is irrelevant:
    the result sequence only depends on the ordered list of weight RATIOS -/
theorem C01_scale (g : Int) (hg : 0 < g) (k : Nat) (bs : List Backend) :
    picks k (scaleL g bs) = picks k bs := picks_scale hg k bs

theorem C01_scale_init (g : Int) (hg : 0 < g) (ws : List Int) (k : Nat) :
    picks k (initList g ws) = picks k (initList 1 ws) := by
  rw [initList_scale, picks_scale hg]

/-- **ineligible members are invisible** (unavailable, or weight ≤ 0 — whatever their `current`):
    the results on ANY list are the results on its eligible sub-list, re-indexed by position -/
theorem C01_filter (k : Nat) (bs : List Backend) :
    picks k bs = (picks k (elig bs)).map (Option.map (embedP (pattern bs))) := picks_filter k bs

/-- … and the eligible sub-list evolves exactly as if it were alone, the eligibility pattern is untouched -/
theorem C01_filter_state (bs : List Backend) :
    elig (stepState bs) = stepState (elig bs) ∧ pattern (stepState bs) = pattern bs :=
  ⟨(step_filter bs).2, pattern_stepState bs⟩

/-- a call never returns an unavailable backend or one with weight ≤ 0 -/
theorem C01_never_ineligible (k : Nat) (bs : List Backend) (m : Nat) (hm : some m ∈ picks k bs) :
    (pattern bs)[m]? = some true := by
  induction k generalizing bs with
  | zero => cases hm
  | succ k ih =>
    rcases List.mem_cons.mp hm with hm | hm
    · rcases smoothStep_spec bs with ⟨hn, _⟩ | ⟨m', b, hb, he, _, hs⟩
      · rw [stepPick, hn] at hm; cases hm
      · rw [stepPick, hs] at hm; cases hm
        rw [pattern, List.getElem?_map, hb, Option.map_some, he]
    · rw [← pattern_stepState]
      exact ih _ hm

/-- **C01 with ineligible members present**: if the eligible members of a list are in the state `Init`
    gives them (e.g. some members unavailable or with weight ≤ 0 from the start), every window of `W`
    calls returns the `i`-th eligible member exactly `wᵢ` times; `W` sums the eligible weights only. -/
theorem C01_window_filtered (g : Int) (hg : 0 < g) (ws : List Int) (hpos : ∀ w ∈ ws, 0 < w) (hne : ws ≠ [])
    (bs : List Backend) (hbs : elig bs = initList g ws)
    (start i : Nat) (w : Int) (hi : ws[i]? = some w) :
    (cnt (embedP (pattern bs) i) (window start ws.sum.toNat bs) : Int) = w := by
  have hn : ((pattern bs).filter id).length = ws.length := by
    rw [length_filter_pattern, hbs, initList, List.length_map]
  rw [window_filter, hbs, cnt_map_embed _ _ (fun x hx => ?_) i (hn ▸ (List.getElem?_eq_some_iff.mp hi).1)]
  · exact C01_window g hg ws hpos hne start i w hi
  · rw [hn]
    exact C01_all_ok g hg ws hpos hne _ x (List.mem_of_mem_drop hx)

/-! `hbs` is satisfiable with ineligible members present -/
example : elig [⟨300, 300, true⟩, ⟨0, 0, true⟩, ⟨200, 200, false⟩, ⟨100, 100, true⟩] = initList 100 [3, 1] := by
  decide +kernel
example : picks 5 [⟨300, 300, true⟩, ⟨0, 0, true⟩, ⟨200, 200, false⟩, ⟨100, 100, true⟩]
    = [some 0, some 0, some 3, some 0, some 0] := by decide +kernel

/-- a reload that changes nothing (same members, same positive weights) leaves every reachable state
    untouched, so all the theorems above continue to hold across it -/
theorem C01_reload_same (g : Int) (hg : 0 < g) (ws : List Int) (hpos : ∀ w ∈ ws, 0 < w) (hne : ws ≠ [])
    (k : Nat) : updateSame g ws (stateAfter k (initList g ws)) = stateAfter k (initList g ws) := by
  have hlen : (stateAfter k (initList g ws)).length = ws.length := by
    rw [stateAfter_length, initList, List.length_map]
  apply List.ext_getElem?
  intro i
  rw [updateSame, List.getElem?_zipWith]
  rcases Nat.lt_or_ge i ws.length with hi | hi
  · have hw : ws[i]? = some ws[i] := List.getElem?_eq_getElem hi
    have : ¬ ws[i] ≤ 0 := Int.not_le.mpr (hpos ws[i] (List.getElem_mem hi))
    rw [C01_closed_form g hg ws hpos hne k i _ hw, hw]
    show some (updateWeight g ws[i] _) = _
    rw [updateWeight, if_neg this, Int.mul_comm]
  · rw [List.getElem?_eq_none hi, List.getElem?_eq_none (hlen ▸ hi)]

/-- **a reload with the IDENTICAL conf is a no-op for the selection sequence, from ANY state** (not only reachable
    ones, any currents, members of any weight): if `conf` lists exactly the members of the list, each with the
    weight it already has, `Update` keeps the list order, adds nothing, and every later result is the same as
    without the reload.  (A member of weight ≤ 0 gets `current = 0`; it is ineligible before and after.) -/
theorem C01_reload_identical_noop (g : Int) (hg : 0 < g) (conf : List (Nat × Int)) (l : List (Nat × SS))
    (hmem : ∀ p ∈ l, ∃ w, conf.lookup p.1 = some w ∧ p.2.b.weight = w * g)
    (hnew : ∀ q ∈ conf, l.any (fun p => p.1 == q.1) = true) :
    updateAdded g conf l = [] ∧
    (updateKept g conf l).map (·.1) = l.map (·.1) ∧
    ∀ k, picks k (backs (updateKept g conf l)) = picks k (backs l) := by
  -- with an identical conf `updateKept` keeps every member and only normalises its backend
  have hk : updateKept g conf l = l.map fun p => (p.1, { p.2 with b := normB p.2.b }) := by
    clear hnew
    induction l with
    | nil => rfl
    | cons p l ih =>
      obtain ⟨w, hw, hpw⟩ := hmem p List.mem_cons_self
      rw [updateKept, List.filterMap_cons, hw, Option.map_some, ← updateKept,
        ih fun x hx => hmem x (List.mem_cons_of_mem p hx), updateWeight_same g w hg p.2.b hpw]
      rfl
  refine ⟨?_, by rw [hk, List.map_map]; rfl, fun k => ?_⟩
  · rw [updateAdded, List.map_eq_nil_iff, List.filter_eq_nil_iff]
    intro q hq
    rw [hnew q hq]
    exact Bool.false_ne_true
  · rw [← picks_map_normB k (backs l), backs, backs, hk, List.map_map, List.map_map]
    rfl

/-- Exact shares from every starting point after a reload, at full strength: after a reload that
    changes weights (members unchanged), every window of `W' = Σ ws'` calls has exact shares. -/
def ReloadExact : Prop :=
  ∀ (ws ws' : List Int), ws.length = ws'.length → (∀ w ∈ ws, 0 < w) → (∀ w ∈ ws', 0 < w) →
    ∀ (k start i : Nat) (w : Int), ws'[i]? = some w →
      (cnt i (window start ws'.sum.toNat (updateSame 100 ws' (stateAfter k (initList 100 ws)))) : Int) = w

/-- The unchanged code violates it: `Update` keeps `current`, so the state after a weight change is
    off the canonical orbit.  Weights (1,1), one call, reload to (3,1): the next 4 calls return
    B A A B — shares 2/2 instead of 3/1.  (replayed on the real code: corpus/C01/known.ops) -/
theorem C01_reload_witness : ¬ ReloadExact := by
  intro h
  exact absurd (h [1, 1] [3, 1] rfl (by decide) (by decide) 1 0 0 3 rfl) (by decide +kernel)

/-- **what survives a reload (partial result)**.  Take ANY state whose members are all eligible and whose
    currents sum to the sum of the weights `W` — by `C01_sum_heals` that is every state from the first
    call after a reload / availability flip on (`ps` lists weight and current of each member).  Then calls
    never fail, Σ current stays `W`, the closed form `currentᵢ = cᵢ + k·wᵢ − W·nᵢ(k)` holds, and no backend
    ever runs ahead of its share by more than its initial credit surplus:
    `W·nᵢ(k) ≤ k·wᵢ + max 0 (cᵢ − wᵢ + W − 1)`   (for the canonical start `cᵢ = wᵢ` this is `nᵢ(k) < k·wᵢ/W + 1`).
    Exact windows are NOT recovered in general (see `C01_reload_witness`). -/
theorem C01_offorbit_bounded_partial (ps : List (Int × Int)) (W : Int) (hpos : ∀ p ∈ ps, 0 < p.1) (hW : 0 < W)
    (hsc : sumCur (mkState ps) = W) (hsw : sumW (mkState ps) = W)
    (k i : Nat) (w c : Int) (hi : ps[i]? = some (w, c)) :
    (∀ x ∈ picks k (mkState ps), ∃ j, j < ps.length ∧ x = some j) ∧
    sumCur (stateAfter k (mkState ps)) = W ∧
    (stateAfter k (mkState ps))[i]? = some ⟨w, c + (k : Int) * w - W * cnt i (picks k (mkState ps)), true⟩ ∧
    W * cnt i (picks k (mkState ps)) ≤ (k : Int) * w + max 0 (c - w + W - 1) := by
  have h := Orbit.run hpos hW hsc hsw k
  refine ⟨h.range, h.sc, h.pt i w c hi, ?_⟩
  have := h.lb i w c hi
  clear h hsc hsw hpos
  generalize W * (cnt i (picks k (mkState ps)) : Int) = a at this ⊢
  generalize (k : Int) * w = b at this ⊢
  omega

/-! a start with `c ≠ w` that meets `hsc`, `hsw`; the four calls of `C01_reload_witness` -/
example : sumCur (mkState [(300, 500), (100, -100)]) = 400 ∧ sumW (mkState [(300, 500), (100, -100)]) = 400 := by
  decide +kernel

example : picks 4 (updateSame 100 [3, 1] (stateAfter 1 (initList 100 [1, 1])))
    = [some 1, some 0, some 0, some 1] := by decide +kernel

/-- a `smoothBalance` call changes `current` only: weights and availability are those before the call -/
theorem C01_step_keeps_weight (bs : List Backend) :
    (stepState bs).map (fun b => (b.weight, b.avail)) = bs.map (fun b => (b.weight, b.avail)) :=
  stepState_weight_avail bs

/-! ### slow start.  `el` = time.Since(startTime) in ns is an arbitrary parameter of every call. -/

/-- `updateSlowStart` changes `weight` and `inSlowStart` at most -/
theorem C01_slowstart_keeps (el : Int) (s : SS) :
    (updateSlowStart el s).restarted = s.restarted ∧ (updateSlowStart el s).b.avail = s.b.avail ∧
    (updateSlowStart el s).final = s.final ∧ (updateSlowStart el s).b.current = s.b.current := by
  by_cases h : s.inSS = true
  · rw [updateSlowStart_ramping h]
    split <;> exact ⟨rfl, rfl, rfl, rfl⟩
  · rw [updateSlowStart_settled (Bool.eq_false_iff.mpr h)]
    exact ⟨rfl, rfl, rfl, rfl⟩

/-- **during slow start 0 ≤ weight ≤ final**, strictly below `final` while it lasts; `final` never changes -/
theorem C01_slowstart_bounds (el : Int) (s : SS) (hin : s.inSS = true) (hf : 0 ≤ s.final)
    (hT : 0 < s.ssTime) (hel : 0 ≤ el) :
    0 ≤ (updateSlowStart el s).b.weight ∧ (updateSlowStart el s).b.weight ≤ s.final ∧
    ((updateSlowStart el s).inSS = true → (updateSlowStart el s).b.weight < s.final) ∧
    (updateSlowStart el s).final = s.final ∧ (updateSlowStart el s).b.current = s.b.current := by
  have hw : 0 ≤ rampWeight el s := by
    rw [rampWeight, if_pos (Int.ne_of_gt hT)]
    exact Int.tdiv_nonneg (Int.mul_nonneg hf hel)
      (Int.mul_nonneg (Int.le_of_lt hT) (Int.le_of_lt nsPerSec_pos))
  rw [updateSlowStart_ramping hin]
  split
  · exact ⟨hf, Int.le_refl _, fun h => absurd h Bool.false_ne_true, rfl, rfl⟩
  · rename_i hlt
    exact ⟨hw, Int.le_of_lt (Int.not_le.mp hlt), fun _ => Int.not_le.mp hlt, rfl, rfl⟩

/-- the same for the call in which slow start begins (`restarted` set by the health checker / by Update) -/
theorem C01_slowstart_bounds_begin (T el0 el : Int) (s : SS) (hr : s.restarted = true) (hf : 0 ≤ s.final)
    (hT : 0 < T) (hel : 0 ≤ el0) :
    0 ≤ (checkOne T el0 el s).b.weight ∧ (checkOne T el0 el s).b.weight ≤ s.final ∧
    (checkOne T el0 el s).final = s.final ∧ (checkOne T el0 el s).restarted = false := by
  have h1 : initSlowStart T { s with restarted := false } = ⟨⟨1, 1, s.b.avail⟩, s.final, true, T, false⟩ :=
    if_neg (Int.ne_of_gt hT)
  rw [checkOne, if_pos hr, h1]
  have hb := C01_slowstart_bounds el0 ⟨⟨1, 1, s.b.avail⟩, s.final, true, T, false⟩ rfl hf hT hel
  obtain ⟨h0, hle, _, hfin, _⟩ := hb
  exact ⟨h0, hle, hfin, (C01_slowstart_keeps el0 _).1⟩

/-- **slow start ends**: the first call that observes `elapsed ≥ slowStartTime` restores `weight = final`
    and clears `inSlowStart` -/
theorem C01_slowstart_converges_one (el : Int) (s : SS) (hin : s.inSS = true) (hf : 0 ≤ s.final)
    (hT : 0 < s.ssTime) (hel : s.ssTime * nsPerSec ≤ el) :
    (updateSlowStart el s).inSS = false ∧ (updateSlowStart el s).b.weight = s.final := by
  rw [updateSlowStart_done hin hf hT hel]
  exact ⟨rfl, rfl⟩

def Settled (l : List SS) : Prop := ∀ s ∈ l, s.inSS = false ∧ s.restarted = false

/-- with every backend settled and none restarted, `checkSlowStart` does nothing, whatever the clock -/
theorem C01_slowstart_idle (T el0 el : Int) (l : List SS) (h : Settled l) : checkSlowStart T el0 el l = l := by
  unfold checkSlowStart
  split
  · refine (List.map_congr_left fun s hs => ?_).trans (List.map_id l)
    rw [checkOne, (h s hs).2, if_neg Bool.false_ne_true, updateSlowStart_settled (h s hs).1]
    rfl
  · rfl

/-- Let slow start be on (`T > 0`), no restart pending, `final ≥ 0`, and let
    this call observe `elapsed ≥ slowStartTime` for every backend that is still ramping.  Then after the
    call's checkSlowStart every backend is settled, every ramping backend has `weight = final` (= the
    configured weight × 100, `Init` sets `final = weight` and slow start never changes it) and the others
    are untouched. -/
theorem C01_slowstart_converges (T el0 el : Int) (hT : 0 < T) (l : List SS)
    (h : ∀ s ∈ l, s.restarted = false ∧ (s.inSS = true → 0 ≤ s.final ∧ 0 < s.ssTime ∧ s.ssTime * nsPerSec ≤ el)) :
    Settled (checkSlowStart T el0 el l) ∧
    (checkSlowStart T el0 el l).length = l.length ∧
    ∀ (i : Nat) s, l[i]? = some s →
      ∃ s', (checkSlowStart T el0 el l)[i]? = some s' ∧ s'.final = s.final ∧ s'.b.current = s.b.current ∧
        s'.b.avail = s.b.avail ∧ s'.b.weight = (if s.inSS then s.final else s.b.weight) := by
  have hone : ∀ s ∈ l, checkOne T el0 el s =
      if s.inSS then { s with b := { s.b with weight := s.final }, inSS := false } else s := by
    intro s hs
    obtain ⟨hr, hin⟩ := h s hs
    rw [checkOne, if_neg (ne_true_of_eq_false hr)]
    by_cases hi : s.inSS = true
    · obtain ⟨hf, hTs, hel⟩ := hin hi
      rw [if_pos hi, updateSlowStart_done hi hf hTs hel]
    · rw [if_neg hi, updateSlowStart_settled (Bool.eq_false_iff.mpr hi)]
  rw [checkSlowStart, if_pos hT]
  refine ⟨fun s' hs' => ?_, List.length_map _,
    fun i s hi => ⟨checkOne T el0 el s, by rw [List.getElem?_map, hi]; rfl, ?_⟩⟩
  · obtain ⟨s, hs, rfl⟩ := List.mem_map.mp hs'
    rw [hone s hs]
    split
    · exact ⟨rfl, (h s hs).1⟩
    · exact ⟨Bool.eq_false_iff.mpr ‹_›, (h s hs).1⟩
  · rw [hone s (List.mem_of_getElem? hi)]
    split <;> exact ⟨rfl, rfl, rfl, rfl⟩

/-- **after slow start the steady-state model applies again**: once every backend is settled, every further
    `Balance` call — whatever the clock, whatever `SetSlowStart` sets — is exactly one `smoothBalance` step on
    the weight/current list, so the results are `picks` and the states `stateAfter` of that list: all theorems
    about `picks` (C01_sum_heals, C01_offorbit_bounded_partial, C01_filter, and C01_window when the currents are
    on the canonical orbit) hold for the real call sequence.  `balanceSS` never changes a weight by itself
    (`stepState_weight_avail`), so the weights stay the configured ones. -/
theorem C01_slowstart_steady (calls : List (Int × Int × Int)) (l : List SS) (h : Settled l) :
    (runSS calls l).1 = picks calls.length (ssBackends l) ∧
    ssBackends (runSS calls l).2 = stateAfter calls.length (ssBackends l) ∧
    Settled (runSS calls l).2 := by
  induction calls generalizing l with
  | nil => exact ⟨rfl, rfl, h⟩
  | cons c rest ih =>
    obtain ⟨T, el0, el⟩ := c
    have hlen : (stepState (ssBackends l)).length = l.length := by
      rw [stepState_length, ssBackends, List.length_map]
    have := ih (ssPut l (stepState (ssBackends l))) fun s hs => by
      obtain ⟨s0, h0, h1, h2⟩ := ssPut_mem_flags hs
      rw [h1, h2]
      exact h s0 h0
    rw [ssBackends_ssPut _ _ hlen] at this
    rw [runSS, balanceSS, C01_slowstart_idle T el0 el l h]
    exact ⟨congrArg (_ :: ·) this.1, this.2.1, this.2.2⟩

/-! non-vacuity: weight 3 (final 300), slow start 30 s: 0 at 0 s, 150 at 15 s, 300 and done at 45 s -/
example : (updateSlowStart 0 ⟨⟨1, 1, true⟩, 300, true, 30, false⟩).b.weight = 0 := by decide +kernel
example : (updateSlowStart (15 * nsPerSec) ⟨⟨1, 1, true⟩, 300, true, 30, false⟩).b.weight = 150 := by decide +kernel
example : updateSlowStart (45 * nsPerSec) ⟨⟨150, 7, true⟩, 300, true, 30, false⟩
    = ⟨⟨300, 7, true⟩, 300, false, 30, false⟩ := by decide +kernel

end BfeVerif.C01
