import BfeVerif.C01.Model
/-!
  C01 — proofs.  The loop of `smoothBalance` is a fold of `Acc.see`; its invariant gives what one call does
  (`smoothStep_spec`).  A state whose currents and weights both sum to `W` then moves on an orbit with a closed
  form and a lower bound for every `current` (`Orbit`); `Init` starts on it, and after `W` calls every `current` is
  back at its weight, which is the exact shares (`Orbit.cnt_eq`).  Scaling and dropping the ineligible members
  commute with a call.  Last: `updateSlowStart` by cases, and `updateWeight` on an unchanged weight (`normB`) for the
  identical reload.
-/
namespace BfeVerif.C01

/-- `Σ current` over the ELIGIBLE members only -/
def sumCur : List Backend → Int
  | [] => 0
  | b :: bs => (if eligible b then b.current else 0) + sumCur bs

/-- `Σ weight` over the ELIGIBLE members only -/
def sumW : List Backend → Int
  | [] => 0
  | b :: bs => (if eligible b then b.weight else 0) + sumW bs

theorem eligible_bump (b : Backend) : eligible (bump b) = eligible b := by
  unfold bump; split <;> rfl

theorem bump_weight (b : Backend) : (bump b).weight = b.weight := by
  unfold bump; split <;> rfl

theorem bump_avail (b : Backend) : (bump b).avail = b.avail := by
  unfold bump; split <;> rfl

theorem bump_current (b : Backend) :
    (bump b).current = if eligible b then b.current + b.weight else b.current := by
  unfold bump; split <;> rfl

theorem bump_of_eligible {b : Backend} (h : eligible b = true) :
    bump b = { b with current := b.current + b.weight } := if_pos h

theorem eligible_mk {w : Int} (c : Int) (hw : 0 < w) : eligible ⟨w, c, true⟩ = true := by
  simp only [eligible, Bool.not_true, Bool.false_or, Bool.not_eq_true', decide_eq_false_iff_not]
  exact Int.not_le.mpr hw

theorem eligible_subTotal (t : Int) (b : Backend) : eligible (subTotal t b) = eligible b := rfl

@[simp] theorem subTotal_weight (t : Int) (b : Backend) : (subTotal t b).weight = b.weight := rfl
@[simp] theorem subTotal_current (t : Int) (b : Backend) : (subTotal t b).current = b.current - t := rfl

/-- One round of the loop on `best`/`max`/`total` (`scan_cons`): `b` not eligible / `b` the new best / best kept. -/
def Acc.see (a : Acc) (i : Nat) (b : Backend) : Acc :=
  if eligible b then
    if a.best.isNone || decide (b.current > a.max) then ⟨some i, b.current, a.total + b.current⟩
    else { a with total := a.total + b.current }
  else a

theorem scan_cons (b : Backend) (bs : List Backend) (i : Nat) (a : Acc) :
    scan (b :: bs) i a = (bump b :: (scan bs (i + 1) (a.see i b)).1, (scan bs (i + 1) (a.see i b)).2) := by
  rw [scan]
  unfold Acc.see bump
  by_cases he : eligible b = true
  · rw [if_pos he, if_pos he, if_pos he]
    by_cases hc : (a.best.isNone || decide (b.current > a.max)) = true
    · rw [if_pos hc, if_pos hc]
    · rw [if_neg hc, if_neg hc]
  · rw [if_neg he, if_neg he, if_neg he]

theorem scan_cons_snd (b : Backend) (bs : List Backend) (i : Nat) (a : Acc) :
    (scan (b :: bs) i a).2 = (scan bs (i + 1) (a.see i b)).2 := by rw [scan_cons]

theorem scan_fst (bs : List Backend) (i : Nat) (a : Acc) : (scan bs i a).1 = bs.map bump := by
  induction bs generalizing i a with
  | nil => rfl
  | cons b bs ih => rw [scan_cons, List.map_cons, ih]

theorem see_total (a : Acc) (i : Nat) (b : Backend) :
    (a.see i b).total = a.total + (if eligible b then b.current else 0) := by
  unfold Acc.see
  by_cases he : eligible b = true
  · rw [if_pos he, if_pos he]
    by_cases hc : (a.best.isNone || decide (b.current > a.max)) = true
    · rw [if_pos hc]
    · rw [if_neg hc]
  · rw [if_neg he, if_neg he, Int.add_zero]

theorem scan_total (bs : List Backend) (i : Nat) (a : Acc) :
    (scan bs i a).2.total = a.total + sumCur bs := by
  induction bs generalizing i a with
  | nil => exact (Int.add_zero _).symm
  | cons b bs ih => rw [scan_cons, ih, see_total, sumCur, Int.add_assoc]

/-- `a` after the loop has seen `pre`: `pre[best]` is eligible with the greatest `current` (not: the FIRST such; nothing needs it). -/
def Acc.Inv (pre : List Backend) (a : Acc) : Prop :=
  match a.best with
  | none => ∀ b ∈ pre, eligible b = false
  | some m => ∃ b, pre[m]? = some b ∧ eligible b = true ∧ b.current = a.max ∧
      ∀ b' ∈ pre, eligible b' = true → b'.current ≤ a.max

theorem Acc.Inv.see {pre : List Backend} {a : Acc} (h : a.Inv pre) (b : Backend) :
    (a.see pre.length b).Inv (pre ++ [b]) := by
  have hb : (pre ++ [b])[pre.length]? = some b := List.getElem?_concat_length
  have hold : ∀ {m bm}, pre[m]? = some bm → (pre ++ [b])[m]? = some bm := fun hm => by
    rw [List.getElem?_append_left (List.getElem?_eq_some_iff.mp hm).1]; exact hm
  unfold Acc.Inv Acc.see at *
  simp only [List.forall_mem_append, List.forall_mem_singleton]
  cases hbest : a.best with
  | none =>
    rw [hbest] at h
    by_cases he : eligible b = true
    · rw [if_pos he, if_pos (show (none.isNone || decide (b.current > a.max)) = true from rfl)]
      exact ⟨b, hb, he, rfl, fun b' hp he' => (by rw [h b' hp] at he'; cases he'), fun _ => Int.le_refl _⟩
    · rw [if_neg he, hbest]
      exact ⟨h, Bool.eq_false_iff.mpr he⟩
  | some m =>
    rw [hbest] at h
    obtain ⟨bm, hm, hem, hcm, hall⟩ := h
    by_cases he : eligible b = true
    · rw [if_pos he]
      by_cases hgt : b.current > a.max
      · rw [if_pos (show ((some m).isNone || decide (b.current > a.max)) = true from decide_eq_true hgt)]
        exact ⟨b, hb, he, rfl, fun b' hp he' => Int.le_trans (hall b' hp he') (Int.le_of_lt hgt),
          fun _ => Int.le_refl _⟩
      · rw [if_neg (show ¬ ((some m).isNone || decide (b.current > a.max)) = true from
          fun hc => hgt (of_decide_eq_true hc))]
        exact ⟨bm, hold hm, hem, hcm, hall, fun _ => Int.not_lt.mp hgt⟩
    · rw [if_neg he, hbest]
      exact ⟨bm, hold hm, hem, hcm, hall, fun he' => absurd he' he⟩

theorem scan_inv (pre bs : List Backend) (a : Acc) (h : a.Inv pre) :
    (scan bs pre.length a).2.Inv (pre ++ bs) := by
  induction bs generalizing pre a with
  | nil => rw [List.append_nil]; exact h
  | cons b bs ih =>
    have := ih (pre ++ [b]) _ (h.see b)
    rw [List.length_append, List.append_assoc] at this
    rw [scan_cons_snd]; exact this

theorem smoothStep_eq (bs : List Backend) :
    smoothStep bs = (scan bs 0 Acc.init).2.best.map fun m =>
      (m, (bs.map bump).modify m (subTotal (sumCur bs))) := by
  unfold smoothStep
  dsimp only
  rw [scan_fst, scan_total, show Acc.init.total = 0 from rfl, Int.zero_add]
  cases (scan bs 0 Acc.init).2.best <;> rfl

theorem stepPick_eq (bs : List Backend) : stepPick bs = (scan bs 0 Acc.init).2.best := by
  rw [stepPick, smoothStep_eq, Option.map_map]
  exact Option.map_id'

theorem stepState_eq (bs : List Backend) : stepState bs =
    ((stepPick bs).map fun m => (bs.map bump).modify m (subTotal (sumCur bs))).getD bs := by
  rw [stepPick_eq, stepState, smoothStep_eq]
  cases (scan bs 0 Acc.init).2.best <;> rfl

theorem smoothStep_spec (bs : List Backend) :
    (smoothStep bs = none ∧ ∀ b ∈ bs, eligible b = false) ∨
    ∃ m b, bs[m]? = some b ∧ eligible b = true ∧ (∀ b' ∈ bs, eligible b' = true → b'.current ≤ b.current) ∧
      smoothStep bs = some (m, (bs.map bump).modify m (subTotal (sumCur bs))) := by
  have hinv : (scan bs 0 Acc.init).2.Inv bs := scan_inv [] bs Acc.init fun _ hb => nomatch hb
  rw [smoothStep_eq]
  unfold Acc.Inv at hinv
  cases hb : (scan bs 0 Acc.init).2.best with
  | none => rw [hb] at hinv; exact .inl ⟨rfl, hinv⟩
  | some m =>
    rw [hb] at hinv
    obtain ⟨b, hbm, he, hc, hall⟩ := hinv
    exact .inr ⟨m, b, hbm, he, fun b' hb' he' => hc ▸ hall b' hb' he', rfl⟩

theorem sumCur_map_bump (bs : List Backend) : sumCur (bs.map bump) = sumCur bs + sumW bs := by
  induction bs with
  | nil => rfl
  | cons b bs ih =>
    rw [List.map_cons, sumCur, sumCur, sumW, eligible_bump, ih, bump_current]
    by_cases h : eligible b = true
    · rw [if_pos h, if_pos h, if_pos h, if_pos h, Int.add_assoc, Int.add_assoc, Int.add_left_comm b.weight]
    · rw [if_neg h, if_neg h, if_neg h, Int.zero_add, Int.zero_add, Int.zero_add]

theorem sumW_map_bump (bs : List Backend) : sumW (bs.map bump) = sumW bs := by
  induction bs with
  | nil => rfl
  | cons b bs ih => rw [List.map_cons, sumW, sumW, eligible_bump, ih, bump_weight]

theorem sumCur_modify (t : Int) {bs : List Backend} {m : Nat} {b : Backend}
    (hm : bs[m]? = some b) (he : eligible b = true) :
    sumCur (bs.modify m (subTotal t)) = sumCur bs - t := by
  induction bs generalizing m with
  | nil => cases hm
  | cons x xs ih =>
    cases m with
    | zero =>
      cases hm
      rw [List.modify_zero_cons, sumCur, sumCur, eligible_subTotal, if_pos he, if_pos he, subTotal_current,
        Int.sub_eq_add_neg, Int.add_right_comm, ← Int.sub_eq_add_neg]
    | succ m => rw [List.modify_succ_cons, sumCur, sumCur, ih hm, Int.add_sub_assoc]

theorem sumW_modify (t : Int) (bs : List Backend) (m : Nat) :
    sumW (bs.modify m (subTotal t)) = sumW bs := by
  induction bs generalizing m with
  | nil => rw [List.modify_nil]
  | cons x xs ih =>
    cases m with
    | zero => rfl
    | succ m => rw [List.modify_succ_cons, sumW, sumW, ih m]

theorem sumCur_le_zero {bs : List Backend} {M : Int} (hM : M ≤ 0)
    (h : ∀ b ∈ bs, eligible b = true → b.current ≤ M) : sumCur bs ≤ 0 := by
  induction bs with
  | nil => exact Int.le_refl 0
  | cons x xs ih =>
    have ih' := ih fun b hb => h b (List.mem_cons_of_mem x hb)
    have hx := h x List.mem_cons_self
    rw [sumCur]
    split
    · exact Int.add_nonpos (Int.le_trans (hx ‹_›) hM) ih'
    · exact Int.add_nonpos (Int.le_refl 0) ih'

theorem smoothStep_sums {bs : List Backend} {m : Nat} {bs' : List Backend}
    (h : smoothStep bs = some (m, bs')) : sumCur bs' = sumW bs ∧ sumW bs' = sumW bs := by
  rcases smoothStep_spec bs with ⟨hn, _⟩ | ⟨m', b, hbm, he, _, hs⟩
  · rw [hn] at h; cases h
  · rw [hs] at h; cases h
    have hm : (bs.map bump)[m]? = some (bump b) := by rw [List.getElem?_map, hbm]; rfl
    rw [sumCur_modify _ hm (eligible_bump b ▸ he), sumCur_map_bump, sumW_modify, sumW_map_bump]
    exact ⟨by rw [Int.add_comm]; exact Int.add_sub_cancel .., rfl⟩

/-- the winner's `current` was positive: `lb` in `Orbit.step` rests on that -/
theorem smoothStep_winner_pos {bs : List Backend} (h : 0 < sumCur bs) :
    ∃ m b, bs[m]? = some b ∧ eligible b = true ∧ 0 < b.current ∧
      smoothStep bs = some (m, (bs.map bump).modify m (subTotal (sumCur bs))) := by
  rcases smoothStep_spec bs with ⟨_, hall⟩ | ⟨m, b, hbm, he, hmax, hs⟩
  · exact absurd h (Int.not_lt.mpr (sumCur_le_zero (Int.le_refl 0) fun b hb he => by
      rw [hall b hb] at he; cases he))
  · exact ⟨m, b, hbm, he, Int.lt_of_not_ge fun hle => absurd h (Int.not_lt.mpr (sumCur_le_zero hle hmax)), hs⟩

/-- `Σ_{i<n} f i`, summed from the top -/
def sumTo : Nat → (Nat → Int) → Int
  | 0, _ => 0
  | n + 1, f => sumTo n f + f n

theorem sumTo_congr (n : Nat) (f g : Nat → Int) (h : ∀ i, i < n → f i = g i) :
    sumTo n f = sumTo n g := by
  induction n with
  | zero => rfl
  | succ n ih => rw [sumTo, sumTo, ih fun i hi => h i (Nat.lt_succ_of_lt hi), h n n.lt_succ_self]

theorem sumTo_shift (n : Nat) (f : Nat → Int) :
    sumTo (n + 1) f = f 0 + sumTo n (fun i => f (i + 1)) := by
  induction n with
  | zero => rw [sumTo, sumTo, sumTo, Int.zero_add, Int.add_zero]
  | succ n ih => rw [sumTo, ih, sumTo, Int.add_assoc]

theorem sumTo_getD (ws : List Int) : sumTo ws.length (fun i => ws.getD i 0) = ws.sum := by
  induction ws with
  | nil => rfl
  | cons w ws ih =>
    rw [List.length_cons, sumTo_shift, List.sum_cons, ← ih]
    rfl

theorem map_modify_comm {α β} (f : α → β) (g : β → β) (h : α → α) (hc : ∀ x, g (f x) = f (h x))
    (l : List α) (i : Nat) : (l.map f).modify i g = (l.modify i h).map f := by
  induction l generalizing i with
  | nil => rw [List.map_nil, List.modify_nil, List.modify_nil, List.map_nil]
  | cons x xs ih =>
    cases i with
    | zero => exact congrArg (· :: _) (hc x)
    | succ i => exact congrArg (_ :: ·) (ih i)

theorem stepState_weight_avail (bs : List Backend) :
    (stepState bs).map (fun b => (b.weight, b.avail)) = bs.map (fun b => (b.weight, b.avail)) := by
  rw [stepState_eq]
  cases stepPick bs with
  | none => rfl
  | some m =>
    show List.map _ ((bs.map bump).modify m _) = _
    rw [← map_modify_comm (fun b : Backend => (b.weight, b.avail)) id (subTotal _) (fun _ => rfl),
      List.modify_id, List.map_map]
    exact List.map_congr_left fun b _ => Prod.ext (bump_weight b) (bump_avail b)

theorem stepState_length (bs : List Backend) : (stepState bs).length = bs.length := by
  have := congrArg List.length (stepState_weight_avail bs)
  rwa [List.length_map, List.length_map] at this

theorem picks_add (a b : Nat) (s : List Backend) :
    picks (a + b) s = picks a s ++ picks b (stateAfter a s) := by
  induction a generalizing s with
  | zero => rw [Nat.zero_add]; rfl
  | succ a ih => rw [Nat.add_right_comm, picks, picks, stateAfter, ih, List.cons_append]

theorem stateAfter_add (a b : Nat) (s : List Backend) :
    stateAfter (a + b) s = stateAfter b (stateAfter a s) := by
  induction a generalizing s with
  | zero => rw [Nat.zero_add]; rfl
  | succ a ih => rw [Nat.add_right_comm, stateAfter, stateAfter, ih]

theorem picks_length (k : Nat) (s : List Backend) : (picks k s).length = k := by
  induction k generalizing s with
  | zero => rfl
  | succ k ih => rw [picks, List.length_cons, ih]

theorem picks_succ_right (k : Nat) (s : List Backend) :
    picks (k + 1) s = picks k s ++ [stepPick (stateAfter k s)] := picks_add k 1 s

theorem stateAfter_succ_right (k : Nat) (s : List Backend) :
    stateAfter (k + 1) s = stepState (stateAfter k s) := stateAfter_add k 1 s

theorem stateAfter_length (k : Nat) (s : List Backend) : (stateAfter k s).length = s.length := by
  induction k generalizing s with
  | zero => rfl
  | succ k ih => rw [stateAfter, ih, stepState_length]

theorem picks_window (start len : Nat) (s : List Backend) :
    picks (start + len) s = picks start s ++ window start len s := by
  rw [window, picks_add, List.drop_left' (picks_length start s)]

theorem cnt_append (i : Nat) (l l' : List (Option Nat)) : cnt i (l ++ l') = cnt i l + cnt i l' :=
  List.count_append

theorem cnt_window_of_period {P : Nat} {s : List Backend} (h : stateAfter P s = s) (start i : Nat) :
    cnt i (window start P s) = cnt i (picks P s) := by
  -- `start + P` calls seen as `start` calls then the window, and as one period then `start` calls
  have e := congrArg (cnt i) (picks_window start P s)
  rw [Nat.add_comm, picks_add, h, cnt_append, cnt_append] at e
  omega

theorem cnt_cons (i j : Nat) (l : List (Option Nat)) :
    cnt i (some j :: l) = cnt i l + if j = i then 1 else 0 := by
  unfold cnt
  rw [List.count_cons]
  simp only [beq_iff_eq, Option.some.injEq]

def mkState (ps : List (Int × Int)) : List Backend := ps.map fun p => ⟨p.1, p.2, true⟩

/-- `bs` is the state `k` calls after `mkState ps` (pairs weight, initial current), `l` the results so far,
    `W = Σ weight = Σ current`.  `lb`: a winner had `current ≥ 1` before `+ w - W`, a non-winner only grows.
    `range` (what `C01_all_ok` states) is carried for `cnt_map_embed`: counts survive re-indexing only for results in range. -/
structure Orbit (ps : List (Int × Int)) (W : Int) (k : Nat) (l : List (Option Nat)) (bs : List Backend) : Prop where
  len : bs.length = ps.length
  pt : ∀ (i : Nat) w c, ps[i]? = some (w, c) → bs[i]? = some ⟨w, c + (k : Int) * w - W * cnt i l, true⟩
  lb : ∀ (i : Nat) w c, ps[i]? = some (w, c) → min c (w - W + 1) ≤ c + (k : Int) * w - W * cnt i l
  sc : sumCur bs = W
  sw : sumW bs = W
  range : ∀ x ∈ l, ∃ j, j < ps.length ∧ x = some j

theorem closed_snoc (c w W : Int) (k i m : Nat) (l : List (Option Nat)) :
    c + ((k + 1 : Nat) : Int) * w - W * cnt i (l ++ [some m])
      = c + (k : Int) * w - W * cnt i l + w - if m = i then W else 0 := by
  rw [cnt_append, cnt_cons, show cnt i [] = 0 from rfl, Nat.zero_add, Int.natCast_add, Int.natCast_add, Int.add_mul,
    Int.mul_add, Int.natCast_one, Int.one_mul]
  by_cases hp : m = i
  · rw [if_pos hp, if_pos hp, Int.natCast_one, Int.mul_one]; omega
  · rw [if_neg hp, if_neg hp, Int.natCast_zero, Int.mul_zero]; omega

theorem Orbit.step {ps : List (Int × Int)} {W : Int} (hpos : ∀ p ∈ ps, 0 < p.1) (hW : 0 < W)
    {k : Nat} {l : List (Option Nat)} {bs : List Backend} (h : Orbit ps W k l bs) :
    ∃ m, stepPick bs = some m ∧ Orbit ps W (k + 1) (l ++ [some m]) (stepState bs) := by
  obtain ⟨m, b, hbm, he, hbpos, hs⟩ := smoothStep_winner_pos (h.sc.symm ▸ hW)
  have hsum := smoothStep_sums hs
  have hlt : m < ps.length := h.len ▸ (List.getElem?_eq_some_iff.mp hbm).1
  refine ⟨m, by rw [stepPick, hs]; rfl, ?_⟩
  rw [stepState, hs]
  exact {
    len := by rw [List.length_modify, List.length_map, h.len]
    pt := fun i w c hi => by
      have hw : 0 < w := hpos _ (List.mem_of_getElem? hi)
      rw [closed_snoc, List.getElem?_modify, List.getElem?_map, h.pt i w c hi, h.sc,
        Option.map_some, bump_of_eligible (eligible_mk _ hw), Option.map_eq_map, Option.map_some]
      by_cases hmi : m = i
      · rw [if_pos hmi, if_pos hmi]; rfl
      · rw [if_neg hmi, if_neg hmi, Int.sub_zero]
    lb := fun i w c hi => by
      have hw : 0 < w := hpos _ (List.mem_of_getElem? hi)
      have hlb := h.lb i w c hi
      have hcur : m = i → 0 < c + (k : Int) * w - W * cnt i l := fun hmi => by
        subst hmi
        have e : b.current = c + (k : Int) * w - W * cnt m l :=
          congrArg Backend.current (Option.some.inj (hbm.symm.trans (h.pt m w c hi)))
        exact e ▸ hbpos
      rw [closed_snoc]
      generalize c + (k : Int) * w - W * cnt i l = v at hlb hcur
      by_cases hmi : m = i
      · have := hcur hmi
        clear hcur
        rw [if_pos hmi]; omega
      · rw [if_neg hmi, Int.sub_zero]
        exact Int.le_trans hlb (Int.le_add_of_nonneg_right (Int.le_of_lt hw))
    sc := hsum.1.trans h.sw
    sw := hsum.2.trans h.sw
    range := fun x hx => by
      rcases List.mem_append.mp hx with hx | hx
      · exact h.range x hx
      · exact ⟨m, hlt, List.mem_singleton.mp hx⟩ }

theorem Orbit.run {ps : List (Int × Int)} {W : Int} (hpos : ∀ p ∈ ps, 0 < p.1) (hW : 0 < W)
    (hsc : sumCur (mkState ps) = W) (hsw : sumW (mkState ps) = W) (k : Nat) :
    Orbit ps W k (picks k (mkState ps)) (stateAfter k (mkState ps)) := by
  induction k with
  | zero =>
    have e (i : Nat) (w c : Int) : c + ((0 : Nat) : Int) * w - W * cnt i (picks 0 (mkState ps)) = c := by
      rw [picks, cnt, List.count_nil, Int.natCast_zero, Int.zero_mul, Int.mul_zero, Int.add_zero, Int.sub_zero]
    exact {
      len := List.length_map _
      pt := fun i w c hi => by rw [e, stateAfter, mkState, List.getElem?_map, hi]; rfl
      lb := fun i w c hi => by rw [e]; exact Int.min_le_left ..
      sc := hsc
      sw := hsw
      range := fun x hx => nomatch hx }
  | succ k ih =>
    obtain ⟨m, hp, hc⟩ := ih.step hpos hW
    rw [picks_succ_right, stateAfter_succ_right, hp]
    exact hc

/-- `h` is `Orbit.lb` at `c = w`, `k = W`: there `current − w = W·(w − n)` is a multiple of `W` above `−W` -/
theorem weight_le_of_lb {W w n : Int} (hW : 0 < W) (h : min w (w - W + 1) ≤ w + W * w - W * n) :
    w ≤ w + W * w - W * n := by
  refine Int.not_lt.mp fun hc => ?_
  have hn : w + 1 ≤ n := Int.lt_of_mul_lt_mul_left (a := W) (by omega) (Int.le_of_lt hW)
  have := Int.mul_le_mul_of_nonneg_left hn (Int.le_of_lt hW)
  rw [Int.mul_add, Int.mul_one] at this
  omega

/-- The first conjunct is there for the induction: with it `sumCur ≤ sumW` of the whole list gives that of the tail. -/
theorem current_eq_weight_of_le {bs : List Backend} (hle : ∀ b ∈ bs, b.weight ≤ b.current) :
    sumW bs ≤ sumCur bs ∧ (sumCur bs ≤ sumW bs → ∀ b ∈ bs, eligible b = true → b.current = b.weight) := by
  induction bs with
  | nil => exact ⟨Int.le_refl 0, fun _ _ hb => nomatch hb⟩
  | cons x xs ih =>
    obtain ⟨h1, h2⟩ := ih fun b hb => hle b (List.mem_cons_of_mem x hb)
    have hx := hle x List.mem_cons_self
    rw [sumCur, sumW]
    by_cases he : eligible x = true
    · rw [if_pos he, if_pos he]
      refine ⟨Int.add_le_add hx h1, fun hs b hb hb' => ?_⟩
      rcases List.mem_cons.mp hb with rfl | hb
      · omega
      · exact h2 (by omega) b hb hb'
    · rw [if_neg he, if_neg he, Int.zero_add, Int.zero_add]
      refine ⟨h1, fun hs b hb hb' => ?_⟩
      rcases List.mem_cons.mp hb with rfl | hb
      · exact absurd hb' he
      · exact h2 hs b hb hb'

/-- The exact shares: after `W` calls from `current = weight` no `current` is below its weight, by the lower bound;
    both sum to `W`, so `current = weight` again, which the closed form reads as `W·nᵢ = W·wᵢ`. -/
theorem Orbit.cnt_eq {ps : List (Int × Int)} {W : Int} {k : Nat} {l : List (Option Nat)} {bs : List Backend}
    (h : Orbit ps W k l bs) (hW : 0 < W) (hk : (k : Int) = W) (hc : ∀ p ∈ ps, p.2 = p.1)
    (i : Nat) (w : Int) (hw : 0 < w) (hi : ps[i]? = some (w, w)) : (cnt i l : Int) = w := by
  have pt := h.pt
  have lb := h.lb
  rw [hk] at pt lb
  have hle : ∀ b ∈ bs, b.weight ≤ b.current := fun b hb => by
    obtain ⟨j, hj, rfl⟩ := List.getElem_of_mem hb
    obtain ⟨⟨w', c'⟩, hpj⟩ : ∃ p, ps[j]? = some p := ⟨_, List.getElem?_eq_getElem (h.len ▸ hj)⟩
    obtain rfl : c' = w' := hc _ (List.mem_of_getElem? hpj)
    rw [Option.some.inj ((List.getElem?_eq_getElem hj).symm.trans (pt j _ _ hpj))]
    exact weight_le_of_lb hW (lb j _ _ hpj)
  have := (current_eq_weight_of_le hle).2 (Int.le_of_eq (h.sc.trans h.sw.symm)) _
    (List.mem_of_getElem? (pt i w w hi)) (eligible_mk _ hw)
  have : W * w = W * cnt i l := by
    change w + W * w - W * _ = w at this
    omega
  exact (Int.eq_of_mul_eq_mul_left (Int.ne_of_gt hW) this).symm

/-! ### `Init` is on the orbit (unscaled; `g` comes in through `initList_scale` and `*_scale`) -/

theorem sum_pos (ws : List Int) (hpos : ∀ w ∈ ws, 0 < w) (hne : ws ≠ []) : 0 < ws.sum := by
  induction ws with
  | nil => exact absurd rfl hne
  | cons w ws ih =>
    have hw := hpos w List.mem_cons_self
    rw [List.sum_cons]
    by_cases h : ws = []
    · rw [h]; exact Int.add_pos_of_pos_of_nonneg hw (Int.le_refl 0)
    · exact Int.add_pos hw (ih (fun x hx => hpos x (List.mem_cons_of_mem w hx)) h)

theorem initList_eq_mkState (ws : List Int) : initList 1 ws = mkState (ws.map fun w => (w, w)) := by
  rw [initList, mkState, List.map_map]
  exact List.map_congr_left fun w _ => by rw [initBackend, Int.mul_one]; rfl

theorem sums_init (ws : List Int) (hpos : ∀ w ∈ ws, 0 < w) :
    sumCur (initList 1 ws) = ws.sum ∧ sumW (initList 1 ws) = ws.sum := by
  induction ws with
  | nil => exact ⟨rfl, rfl⟩
  | cons w ws ih =>
    have ih' := ih fun x hx => hpos x (List.mem_cons_of_mem w hx)
    have he : eligible (initBackend 1 w) = true := by
      rw [initBackend, Int.mul_one]; exact eligible_mk w (hpos w List.mem_cons_self)
    rw [initList, List.map_cons, sumCur, sumW, if_pos he, if_pos he, List.sum_cons, ← initList, ih'.1, ih'.2,
      initBackend, Int.mul_one]
    exact ⟨rfl, rfl⟩

theorem orbit_init (ws : List Int) (hpos : ∀ w ∈ ws, 0 < w) (hne : ws ≠ []) (k : Nat) :
    Orbit (ws.map fun w => (w, w)) ws.sum k (picks k (initList 1 ws)) (stateAfter k (initList 1 ws)) := by
  rw [initList_eq_mkState]
  refine Orbit.run (fun p hp => ?_) (sum_pos ws hpos hne) ?_ ?_ k
  · obtain ⟨w, hw, rfl⟩ := List.mem_map.mp hp
    exact hpos w hw
  · rw [← initList_eq_mkState]; exact (sums_init ws hpos).1
  · rw [← initList_eq_mkState]; exact (sums_init ws hpos).2

def scaleB (g : Int) (b : Backend) : Backend := ⟨g * b.weight, g * b.current, b.avail⟩
def scaleL (g : Int) (bs : List Backend) : List Backend := bs.map (scaleB g)
def scaleA (g : Int) (a : Acc) : Acc := ⟨a.best, g * a.max, g * a.total⟩

theorem mul_nonpos_iff_of_pos {g : Int} (x : Int) (hg : 0 < g) : g * x ≤ 0 ↔ x ≤ 0 := by
  have := Int.mul_le_mul_left (b := x) (c := 0) hg
  rwa [Int.mul_zero] at this

theorem eligible_scaleB {g : Int} (hg : 0 < g) (b : Backend) : eligible (scaleB g b) = eligible b := by
  unfold eligible scaleB
  rw [decide_eq_decide.mpr (mul_nonpos_iff_of_pos b.weight hg)]

theorem bump_scaleB {g : Int} (hg : 0 < g) (b : Backend) : bump (scaleB g b) = scaleB g (bump b) := by
  unfold bump
  rw [eligible_scaleB hg]
  split
  · exact congrArg (Backend.mk _ · _) (Int.mul_add ..).symm
  · rfl

theorem see_scale {g : Int} (hg : 0 < g) (a : Acc) (i : Nat) (b : Backend) :
    (scaleA g a).see i (scaleB g b) = scaleA g (a.see i b) := by
  have hcmp : decide ((scaleB g b).current > (scaleA g a).max) = decide (b.current > a.max) :=
    decide_eq_decide.mpr (Int.mul_lt_mul_left hg)
  unfold Acc.see
  rw [eligible_scaleB hg, hcmp, show (scaleA g a).best = a.best from rfl]
  by_cases he : eligible b = true
  · rw [if_pos he, if_pos he]
    by_cases hc : (a.best.isNone || decide (b.current > a.max)) = true
    · rw [if_pos hc, if_pos hc]
      exact congrArg (Acc.mk _ _) (Int.mul_add ..).symm
    · rw [if_neg hc, if_neg hc]
      exact congrArg (Acc.mk _ _) (Int.mul_add ..).symm
  · rw [if_neg he, if_neg he]

theorem scan_scale {g : Int} (hg : 0 < g) (bs : List Backend) (i : Nat) (a : Acc) :
    scan (scaleL g bs) i (scaleA g a) = (scaleL g (scan bs i a).1, scaleA g (scan bs i a).2) := by
  induction bs generalizing i a with
  | nil => rfl
  | cons b bs ih =>
    rw [scaleL, List.map_cons, scan_cons, see_scale hg, ← scaleL, ih, scan_cons, bump_scaleB hg]
    rfl

theorem smoothStep_scale {g : Int} (hg : 0 < g) (bs : List Backend) :
    smoothStep (scaleL g bs) = (smoothStep bs).map (fun r => (r.1, scaleL g r.2)) := by
  have hsc := scan_scale hg bs 0 Acc.init
  rw [show scaleA g Acc.init = Acc.init by rw [scaleA, Acc.init, Int.mul_zero]] at hsc
  unfold smoothStep
  dsimp only
  rw [hsc]
  dsimp only [scaleA]
  cases (scan bs 0 Acc.init).2.best with
  | none => rfl
  | some m =>
    exact congrArg (fun l => some (m, l))
      (map_modify_comm (scaleB g) (subTotal (g * _)) (subTotal _)
        (fun x => congrArg (Backend.mk _ · _) (Int.mul_sub ..).symm) _ m)

theorem stepPick_scale {g : Int} (hg : 0 < g) (bs : List Backend) :
    stepPick (scaleL g bs) = stepPick bs := by
  unfold stepPick; rw [smoothStep_scale hg]; cases smoothStep bs <;> rfl

theorem stepState_scale {g : Int} (hg : 0 < g) (bs : List Backend) :
    stepState (scaleL g bs) = scaleL g (stepState bs) := by
  unfold stepState; rw [smoothStep_scale hg]; cases smoothStep bs <;> rfl

theorem picks_scale {g : Int} (hg : 0 < g) (k : Nat) (bs : List Backend) :
    picks k (scaleL g bs) = picks k bs := by
  induction k generalizing bs with
  | zero => rfl
  | succ k ih => rw [picks, picks, stepPick_scale hg, stepState_scale hg, ih]

theorem stateAfter_scale {g : Int} (hg : 0 < g) (k : Nat) (bs : List Backend) :
    stateAfter k (scaleL g bs) = scaleL g (stateAfter k bs) := by
  induction k generalizing bs with
  | zero => rfl
  | succ k ih => rw [stateAfter, stateAfter, stepState_scale hg, ih]

theorem initList_scale (g : Int) (ws : List Int) : initList g ws = scaleL g (initList 1 ws) := by
  rw [initList, initList, scaleL, List.map_map]
  exact List.map_congr_left fun w _ => by
    simp only [Function.comp, initBackend, scaleB, Int.mul_one, Int.mul_comm]

/-- index in the full list of the `q`-th `true` of an eligibility pattern -/
def embedP : List Bool → Nat → Nat
  | [], _ => 0
  | true :: _, 0 => 0
  | true :: p, q + 1 => 1 + embedP p q
  | false :: p, q => 1 + embedP p q

def pattern (bs : List Backend) : List Bool := bs.map eligible

def elig (bs : List Backend) : List Backend := bs.filter eligible

theorem elig_cons_pos {b : Backend} (h : eligible b = true) (bs : List Backend) :
    elig (b :: bs) = b :: elig bs := List.filter_cons_of_pos h

theorem elig_cons_neg {b : Backend} (h : ¬ eligible b = true) (bs : List Backend) :
    elig (b :: bs) = elig bs := List.filter_cons_of_neg h

theorem pattern_cons (b : Backend) (bs : List Backend) : pattern (b :: bs) = eligible b :: pattern bs := rfl

def Acc.mapBest (φ : Nat → Nat) (a : Acc) : Acc := { a with best := a.best.map φ }

theorem see_mapBest (φ : Nat → Nat) (a : Acc) (r : Nat) (b : Backend) :
    (a.mapBest φ).see (φ r) b = (a.see r b).mapBest φ := by
  have hn : (a.mapBest φ).best.isNone = a.best.isNone := Option.isNone_map
  unfold Acc.see
  rw [hn, show (a.mapBest φ).max = a.max from rfl]
  by_cases he : eligible b = true
  · rw [if_pos he, if_pos he]
    by_cases hc : (a.best.isNone || decide (b.current > a.max)) = true
    · rw [if_pos hc, if_pos hc]; rfl
    · rw [if_neg hc, if_neg hc]; rfl
  · rw [if_neg he, if_neg he]

/-- the loop on the full list is the loop on the eligible sub-list with the indices renamed by any `φ` that sends
    the positions `r, r+1, …` to those of the eligible members -/
theorem scan_filter (φ : Nat → Nat) (bs : List Backend) (i r : Nat) (a : Acc)
    (hφ : ∀ q, φ (r + q) = i + embedP (pattern bs) q) :
    (scan bs i (a.mapBest φ)).2 = (scan (elig bs) r a).2.mapBest φ := by
  induction bs generalizing i r a with
  | nil => rfl
  | cons b bs ih =>
    rw [scan_cons_snd, pattern_cons] at *
    by_cases h : eligible b = true
    · rw [h] at hφ
      obtain rfl : φ r = i := hφ 0
      rw [elig_cons_pos h, scan_cons_snd, see_mapBest]
      exact ih (φ r + 1) (r + 1) _ fun q => by
        rw [Nat.add_right_comm]; exact (hφ (q + 1)).trans (by rw [embedP, Nat.add_assoc])
    · rw [elig_cons_neg h, Acc.see, if_neg h]
      rw [Bool.eq_false_iff.mpr h] at hφ
      exact ih (i + 1) r a fun q => by rw [hφ q, embedP, Nat.add_assoc]

theorem elig_map {f : Backend → Backend} (hf : ∀ b, eligible (f b) = eligible b) (bs : List Backend) :
    elig (bs.map f) = (elig bs).map f := by
  unfold elig
  rw [List.filter_map]
  exact congrArg _ (List.filter_congr fun b _ => hf b)

theorem pattern_map {f : Backend → Backend} (hf : ∀ b, eligible (f b) = eligible b) (bs : List Backend) :
    pattern (bs.map f) = pattern bs := by
  unfold pattern
  rw [List.map_map]
  exact List.map_congr_left fun b _ => hf b

theorem sumCur_elig (bs : List Backend) : sumCur (elig bs) = sumCur bs := by
  induction bs with
  | nil => rfl
  | cons b bs ih =>
    by_cases h : eligible b = true
    · rw [elig_cons_pos h, sumCur, sumCur, ih]
    · rw [elig_cons_neg h, sumCur, if_neg h, ih, Int.zero_add]

theorem elig_modify_embed (t : Int) (l : List Backend) (q : Nat) :
    elig (l.modify (embedP (pattern l) q) (subTotal t)) = (elig l).modify q (subTotal t) := by
  induction l generalizing q with
  | nil => rw [List.modify_nil]; exact (List.modify_nil ..).symm
  | cons x xs ih =>
    rw [pattern_cons]
    by_cases h : eligible x = true
    · rw [h, elig_cons_pos h]
      cases q with
      | zero => exact elig_cons_pos (b := subTotal t x) h _
      | succ q => rw [embedP, Nat.add_comm, List.modify_succ_cons, List.modify_succ_cons, elig_cons_pos h, ih]
    · rw [elig_cons_neg h, ← ih q, Bool.eq_false_iff.mpr h, embedP, Nat.add_comm, List.modify_succ_cons,
        elig_cons_neg h]

theorem pattern_stepState (bs : List Backend) : pattern (stepState bs) = pattern bs := by
  -- eligibility is a function of weight and availability, which a call keeps
  have h (l : List Backend) : pattern l =
      (l.map fun b => (b.weight, b.avail)).map fun p => !(!p.2 || decide (p.1 ≤ 0)) := by
    rw [List.map_map]; rfl
  rw [h, h, stepState_weight_avail]

theorem step_filter (bs : List Backend) :
    stepPick bs = (stepPick (elig bs)).map (embedP (pattern bs)) ∧
    elig (stepState bs) = stepState (elig bs) := by
  have hp : stepPick bs = (stepPick (elig bs)).map (embedP (pattern bs)) := by
    rw [stepPick_eq, stepPick_eq]
    exact congrArg Acc.best
      (scan_filter (embedP (pattern bs)) bs 0 0 Acc.init fun q => by rw [Nat.zero_add, Nat.zero_add])
  refine ⟨hp, ?_⟩
  rw [stepState_eq, stepState_eq, hp]
  cases stepPick (elig bs) with
  | none => rfl
  | some q =>
    show elig ((bs.map bump).modify _ _) = ((elig bs).map bump).modify q _
    rw [← pattern_map eligible_bump, elig_modify_embed, elig_map eligible_bump, sumCur_elig]

theorem picks_filter (k : Nat) (bs : List Backend) :
    picks k bs = (picks k (elig bs)).map (Option.map (embedP (pattern bs))) := by
  induction k generalizing bs with
  | zero => rfl
  | succ k ih =>
    rw [picks, picks, List.map_cons, ih (stepState bs), (step_filter bs).1, (step_filter bs).2, pattern_stepState]

theorem window_filter (start len : Nat) (bs : List Backend) :
    window start len bs = (window start len (elig bs)).map (Option.map (embedP (pattern bs))) := by
  rw [window, window, picks_filter, List.map_drop]

theorem embedP_lt (p : List Bool) (q : Nat) (hq : q < (p.filter id).length) :
    embedP p q < p.length ∧ p[embedP p q]? = some true := by
  induction p generalizing q with
  | nil => cases hq
  | cons x xs ih =>
    cases x with
    | true =>
      cases q with
      | zero => exact ⟨Nat.zero_lt_succ _, rfl⟩
      | succ q =>
        have := ih q (Nat.lt_of_succ_lt_succ hq)
        rw [embedP, Nat.add_comm, List.getElem?_cons_succ]
        exact ⟨Nat.succ_lt_succ this.1, this.2⟩
    | false =>
      have := ih q hq
      rw [embedP, Nat.add_comm, List.getElem?_cons_succ]
      exact ⟨Nat.succ_lt_succ this.1, this.2⟩

theorem embedP_inj (p : List Bool) (q q' : Nat) (hq : q < (p.filter id).length)
    (hq' : q' < (p.filter id).length) (h : embedP p q = embedP p q') : q = q' := by
  induction p generalizing q q' with
  | nil => cases hq
  | cons x xs ih =>
    cases x with
    | false => exact ih q q' hq hq' (Nat.add_left_cancel h)
    | true =>
      cases q with
      | zero =>
        cases q' with
        | zero => rfl
        | succ q' => rw [embedP, embedP] at h; omega
      | succ q =>
        cases q' with
        | zero => rw [embedP, embedP] at h; omega
        | succ q' =>
          exact congrArg (· + 1)
            (ih q q' (Nat.lt_of_succ_lt_succ hq) (Nat.lt_of_succ_lt_succ hq') (Nat.add_left_cancel h))

theorem cnt_map_embed (p : List Bool) (l : List (Option Nat))
    (hl : ∀ x ∈ l, ∃ j, j < (p.filter id).length ∧ x = some j) (i : Nat) (hi : i < (p.filter id).length) :
    cnt (embedP p i) (l.map (Option.map (embedP p))) = cnt i l := by
  rw [cnt, cnt, List.count_eq_countP, List.countP_map]
  refine List.countP_congr fun x hx => ?_
  obtain ⟨j, hj, rfl⟩ := hl x hx
  simp only [Function.comp, Option.map_some, beq_iff_eq, Option.some.injEq]
  exact ⟨embedP_inj p j i hj hi, congrArg _⟩

theorem length_filter_pattern (bs : List Backend) : ((pattern bs).filter id).length = (elig bs).length := by
  rw [pattern, elig, List.filter_map, List.length_map]
  rfl

theorem ssBackends_ssPut (l : List SS) (bs : List Backend) (h : bs.length = l.length) :
    ssBackends (ssPut l bs) = bs := by
  rw [ssBackends, ssPut, List.map_zipWith]
  exact (List.map_zipWith (f := Prod.snd) (g := Prod.mk)).symm.trans (List.map_snd_zip (Nat.le_of_eq h))

theorem ssPut_mem_flags {l : List SS} {bs : List Backend} {s : SS} (hs : s ∈ ssPut l bs) :
    ∃ s0 ∈ l, s.inSS = s0.inSS ∧ s.restarted = s0.restarted := by
  rw [ssPut, ← List.map_uncurry_zip_eq_zipWith] at hs
  obtain ⟨⟨s0, b⟩, hz, rfl⟩ := List.mem_map.mp hs
  exact ⟨s0, (List.of_mem_zip hz).1, rfl, rfl⟩

theorem nsPerSec_pos : 0 < nsPerSec := by decide

/-- the `let w` of `updateSlowStart` -/
def rampWeight (el : Int) (s : SS) : Int :=
  if s.ssTime ≠ 0 then (s.final * el).tdiv (s.ssTime * nsPerSec) else s.final

theorem updateSlowStart_ramping {s : SS} (h : s.inSS = true) (el : Int) :
    updateSlowStart el s =
      if rampWeight el s ≥ s.final then { s with b := { s.b with weight := s.final }, inSS := false }
      else { s with b := { s.b with weight := rampWeight el s } } := by
  rw [updateSlowStart, if_pos h]; rfl

theorem updateSlowStart_settled {s : SS} (h : s.inSS = false) (el : Int) : updateSlowStart el s = s := by
  rw [updateSlowStart, if_neg (ne_true_of_eq_false h)]

theorem updateSlowStart_done {el : Int} {s : SS} (hin : s.inSS = true) (hf : 0 ≤ s.final)
    (hT : 0 < s.ssTime) (hel : s.ssTime * nsPerSec ≤ el) :
    updateSlowStart el s = { s with b := { s.b with weight := s.final }, inSS := false } := by
  have hD : 0 < s.ssTime * nsPerSec := Int.mul_pos hT nsPerSec_pos
  have hnum : 0 ≤ s.final * el := Int.mul_nonneg hf (Int.le_trans (Int.le_of_lt hD) hel)
  have hle : s.final ≤ rampWeight el s := by
    rw [rampWeight, if_pos (Int.ne_of_gt hT), Int.tdiv_eq_ediv_of_nonneg hnum]
    exact Int.le_ediv_of_mul_le hD (Int.mul_le_mul_of_nonneg_left hel hf)
  rw [updateSlowStart_ramping hin, if_pos hle]

/-- what UpdateWeight does to a backend whose weight is unchanged -/
def normB (b : Backend) : Backend := if b.weight ≤ 0 then { b with current := 0 } else b

theorem eligible_normB (b : Backend) : eligible (normB b) = eligible b := by
  unfold normB; split <;> rfl

theorem normB_of_eligible (b : Backend) (h : eligible b = true) : normB b = b := by
  have : ¬ b.weight ≤ 0 := by simp [eligible] at h; omega
  exact if_neg this

theorem picks_map_normB (k : Nat) (bs : List Backend) : picks k (bs.map normB) = picks k bs := by
  have he : (elig bs).map normB = elig bs :=
    (List.map_congr_left fun b hb => normB_of_eligible b (List.mem_filter.mp hb).2).trans (List.map_id _)
  rw [picks_filter k (bs.map normB), picks_filter k bs, elig_map eligible_normB, he, pattern_map eligible_normB]

theorem updateWeight_same (g w : Int) (hg : 0 < g) (b : Backend) (hb : b.weight = w * g) :
    updateWeight g w b = normB b := by
  have hiff : w * g ≤ 0 ↔ w ≤ 0 := Int.mul_comm g w ▸ mul_nonpos_iff_of_pos w hg
  unfold updateWeight normB
  rw [hb]
  by_cases hw : w ≤ 0
  · rw [if_pos hw, if_pos (hiff.mpr hw), ← hb]
  · rw [if_neg hw, if_neg (mt hiff.mp hw), ← hb]

end BfeVerif.C01
