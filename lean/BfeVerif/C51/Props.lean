import BfeVerif.C51.Proofs
/-!
  C51 — access-control modules admit exactly the valid requests.

  Every theorem is about the model in `Model.lean` (the handlers as coded) for ARBITRARY crypto parameters
  (`b64dec`, `verifyPw`, `verifyJws`, `encode`, `atoi`, `now`), arbitrary rule tables and arbitrary headers.
  "the rule that decides" is `firstMatch rules = some r`, characterised by `C51_deciding_rule`.
-/
namespace BfeVerif.C51

/-- the deciding rule is the first one whose condition matches the request -/
theorem C51_deciding_rule {α : Type} (rules : List (Bool × α)) (r : α) :
    firstMatch rules = some r ↔
      ∃ pre post, rules = pre ++ (true, r) :: post ∧ ∀ e ∈ pre, e.1 = false := by
  simp only [firstMatch_eq_lookup, List.lookup_eq_some_iff, Bool.true_bne, Bool.not_eq_true']

/-! ## mod_auth_basic -/

/-- what checkAuthCredentials accepts, exactly (the code as it is) -/
theorem C51_basic_check_iff {H : Type} (b64dec : Bytes → Option Bytes) (verifyPw : Bytes → H → Bool)
    (auth : Bytes) (r : BasicRule H) :
    checkBasic b64dec verifyPw auth r = true ↔ BasicValid b64dec verifyPw r.users auth := by
  unfold checkBasic BasicValid
  constructor
  · intro h
    split at h
    · cases h
    · rename_i user pw hp
      split at h
      · cases h
      · rename_i hh hl
        obtain ⟨pfx, cred, h1, h2, h3, h4⟩ := (parseBasicAuth_iff b64dec auth user pw).mp hp
        exact ⟨pfx, cred, user, pw, hh, h1, h2, h3, h4, (lookupLast_iff _ _ _).mp hl, h⟩
  · rintro ⟨pfx, cred, user, pw, hh, h1, h2, h3, h4, h5, h6⟩
    simp only [(parseBasicAuth_iff b64dec auth user pw).mpr ⟨pfx, cred, h1, h2, h3, h4⟩,
      (lookupLast_iff _ _ _).mpr h5, h6]

/-- **Basic**: the request is forwarded iff every deciding rule (there is at most one) finds RFC 7617
    credentials whose password verifies against the stored hash of that user. -/
theorem C51_forward_iff_basic {H : Type} (b64dec : Bytes → Option Bytes) (verifyPw : Bytes → H → Bool)
    (tbl : Option (List (Bool × BasicRule H))) (auth : Bytes) :
    basicHandler b64dec verifyPw tbl auth = .goOn ↔
      ∀ rules, tbl = some rules → ∀ r, firstMatch rules = some r →
        BasicValid b64dec verifyPw r.users auth :=
  ruleWalk_goOn_iff _ _ (fun _ => Outcome.noConfusion) (C51_basic_check_iff b64dec verifyPw auth) tbl

/-- Otherwise the answer is `401` with `WWW-Authenticate: Basic realm="<realm of the deciding rule>"`. -/
theorem C51_reject_basic {H : Type} (b64dec : Bytes → Option Bytes) (verifyPw : Bytes → H → Bool)
    (rules : List (Bool × BasicRule H)) (r : BasicRule H) (auth : Bytes)
    (hr : firstMatch rules = some r) (hv : ¬ BasicValid b64dec verifyPw r.users auth) :
    basicHandler b64dec verifyPw (some rules) auth = .resp 401 (challenge "Basic" r.realm) :=
  ruleWalk_reject _ _ _ _ hr (mt (C51_basic_check_iff b64dec verifyPw auth r).mp hv)

/-! ## mod_auth_jwt -/

/-- what validateToken/getToken accept, exactly (the code as it is) -/
theorem C51_jwt_check_iff {K T : Type} [DecidableEq T] (verifyJws : K → T → Bool) (claimsOf : T → Claims)
    (now : Int) (hdr : List (HSym T)) (r : JwtRule K) :
    checkJwt verifyJws claimsOf now hdr r = true ↔
      ∃ t, hdr = bearerSyms ++ [.ch 32, .tok t] ∧ (∃ k ∈ r.keys, verifyJws k t = true) ∧
        libClaimsValid now (claimsOf t) = true := by
  unfold checkJwt
  constructor
  · intro h
    -- no `Bearer <part>` / `part`; then under key `k`: `part` is not one token / is the token `t`
    split at h
    · cases h
    · rename_i part hg
      obtain ⟨k, hk, hkt⟩ := List.any_eq_true.mp h
      split at hkt
      · cases hkt
      · rename_i t ha
        cases (asToken_iff part t).mp ha
        simp only [Bool.true_and, Bool.and_eq_true] at hkt
        exact ⟨t, ((getToken_iff hdr _).mp hg).1, ⟨k, hk, hkt.1.1⟩, hkt.2⟩
  · rintro ⟨t, hh, ⟨k, hk, hv⟩, hc⟩
    rw [(getToken_iff hdr [.tok t]).mpr ⟨hh, fun y hy => by cases List.mem_singleton.mp hy; rfl⟩]
    exact List.any_eq_true.mpr ⟨k, hk, by simp [asToken, hv, hc]⟩

/-- the full-strength statement of the property for mod_auth_jwt (FALSE for the code as it is, see the
    two witnesses below): forwarded iff `Authorization: Bearer <JWS>` verifies under a configured key used
    with that key's algorithm and the RFC 7519 time claims hold. -/
def C51_forward_iff_jwt_full {K T A : Type} [DecidableEq T] [DecidableEq A] (verifyJws : K → T → Bool)
    (claimsOf : T → Claims) (keyAlg : K → Option A) (tokAlg : T → A) (now : Int)
    (tbl : Option (List (Bool × JwtRule K))) (hdr : List (HSym T)) : Prop :=
  jwtHandler verifyJws claimsOf now tbl hdr = .goOn ↔
    ∀ rules, tbl = some rules → ∀ r, firstMatch rules = some r →
      JwtValid verifyJws claimsOf keyAlg tokAlg now r.keys hdr

/-- **JWT (partial)**: the full statement holds whenever no key of the deciding rule declares an algorithm
    different from the presented token's, and the token's time claims are absent or non-zero numbers. -/
theorem C51_forward_iff_jwt_partial {K T A : Type} [DecidableEq T] [DecidableEq A]
    (verifyJws : K → T → Bool) (claimsOf : T → Claims) (keyAlg : K → Option A) (tokAlg : T → A) (now : Int)
    (tbl : Option (List (Bool × JwtRule K))) (hdr : List (HSym T))
    (hyp : ∀ rules, tbl = some rules → ∀ r, firstMatch rules = some r →
      ∀ t, hdr = bearerSyms ++ [.ch 32, .tok t] →
        (∀ k ∈ r.keys, algAgrees (keyAlg k) (tokAlg t) = true) ∧ claimsPlain (claimsOf t) = true) :
    C51_forward_iff_jwt_full verifyJws claimsOf keyAlg tokAlg now tbl hdr := by
  unfold C51_forward_iff_jwt_full jwtHandler JwtValid
  rw [ruleWalk_goOn_iff _ _ (fun _ => Outcome.noConfusion) (C51_jwt_check_iff verifyJws claimsOf now hdr)]
  -- down `∀ rules, _ → ∀ r, _ → ∃ t, hdr = .. ∧ _` to the deciding rule's token `t`, where `hyp` applies
  refine forall_congr' fun rules => imp_congr_right fun ht => forall_congr' fun r => imp_congr_right fun hr =>
    exists_congr fun t => and_congr_right fun hh => ?_
  obtain ⟨hal, hpl⟩ := hyp rules ht r hr t hh
  -- time claims: library = spec on plain claims; key: `JwtValid`'s extra conjunct `algAgrees` is `hal`
  rw [libClaimsValid_eq_timeOK now _ hpl]
  exact and_congr_left' (exists_congr fun k => and_congr_right fun hk => (and_iff_left (hal k hk)).symm)

/-- A request the code does not accept receives `401` with `WWW-Authenticate: Bearer realm="…"`. -/
theorem C51_reject_jwt {K T : Type} [DecidableEq T] (verifyJws : K → T → Bool) (claimsOf : T → Claims)
    (now : Int) (rules : List (Bool × JwtRule K)) (r : JwtRule K) (hdr : List (HSym T))
    (hr : firstMatch rules = some r) (hv : checkJwt verifyJws claimsOf now hdr r = false) :
    jwtHandler verifyJws claimsOf now (some rules) hdr = .resp 401 (challenge "Bearer" r.realm) :=
  ruleWalk_reject _ _ _ _ hr (ne_true_of_eq_false hv)

/-- whatever the parameters: a header that is not exactly `Bearer <one token>` is never forwarded by a
    deciding rule, and neither is a token no configured key verifies (alg=none, HS/RS confusion and
    tampering are `verifyJws k t = false` for every configured key under the library contract). -/
theorem C51_jwt_needs_signature {K T : Type} [DecidableEq T] (verifyJws : K → T → Bool) (claimsOf : T → Claims)
    (now : Int) (rules : List (Bool × JwtRule K)) (r : JwtRule K) (hdr : List (HSym T))
    (hr : firstMatch rules = some r)
    (hfw : jwtHandler verifyJws claimsOf now (some rules) hdr = .goOn) :
    ∃ t, hdr = bearerSyms ++ [.ch 32, .tok t] ∧ ∃ k ∈ r.keys, verifyJws k t = true := by
  have ⟨t, hh, hk, _⟩ := (ruleWalk_goOn_iff _ _ (fun _ => Outcome.noConfusion)
    (C51_jwt_check_iff verifyJws claimsOf now hdr) _).mp hfw rules rfl r hr
  exact ⟨t, hh, hk⟩

/-- **witness 1** (`jwt-key-alg-ignored`): a key declared for algorithm 256, a token with algorithm 384 that
    the library verifies with that key (same secret, same family): forwarded, although not `JwtValid`. -/
theorem C51_witness_jwt_key_alg :
    ¬ C51_forward_iff_jwt_full (K := Nat) (T := Nat) (A := Nat)
        (fun _ _ => true) (fun _ => ⟨.absent, .absent, .absent⟩) (fun _ => some 256) (fun _ => 384) 1000
        (some [(true, ⟨[], [0]⟩)]) (bearerSyms ++ [.ch 32, .tok 7]) := by
  unfold C51_forward_iff_jwt_full
  intro h
  obtain ⟨t, _, ⟨k, _, _, hal⟩, _⟩ := h.mp (by decide) _ rfl _ rfl
  simp [algAgrees] at hal

/-- **witness 2** (`jwt-time-claim-ignored`): `exp` = 0 (1970) at time 1000, validly signed: forwarded. -/
theorem C51_witness_jwt_time_claim :
    ¬ C51_forward_iff_jwt_full (K := Nat) (T := Nat) (A := Nat)
        (fun _ _ => true) (fun _ => ⟨.num 0, .absent, .absent⟩) (fun _ => none) (fun _ => 256) 1000
        (some [(true, ⟨[], [0]⟩)]) (bearerSyms ++ [.ch 32, .tok 7]) := by
  unfold C51_forward_iff_jwt_full
  intro h
  obtain ⟨t, _, _, htime⟩ := h.mp (by decide) _ rfl _ rfl
  simp [timeOK, specClaimOK] at htime

/-- the executable oracle of the driver is the specification -/
theorem C51_jwt_oracle_sound {K T A : Type} [DecidableEq T] [DecidableEq A] (verifyJws : K → T → Bool)
    (claimsOf : T → Claims) (keyAlg : K → Option A) (tokAlg : T → A) (now : Int) (keys : List K)
    (hdr : List (HSym T)) :
    jwtValidB verifyJws claimsOf keyAlg tokAlg now keys hdr = true ↔
      JwtValid verifyJws claimsOf keyAlg tokAlg now keys hdr := by
  unfold jwtValidB JwtValid
  constructor
  · intro h
    split at h
    · rename_i t hd
      simp only [Bool.and_eq_true, decide_eq_true_eq, List.any_eq_true] at h
      obtain ⟨⟨ht, k, hk, hkv⟩, htime⟩ := h
      refine ⟨t, ?_, ⟨k, hk, hkv.1, hkv.2⟩, htime⟩
      rw [← List.take_append_drop 7 hdr, ht, hd, List.append_assoc]
      rfl
    · cases h
  · rintro ⟨t, rfl, ⟨k, hk, hv, hal⟩, htime⟩
    show (decide (_ = _) && List.any keys _ && _) = true
    simp only [Bool.and_eq_true, decide_eq_true_eq, List.any_eq_true]
    exact ⟨⟨rfl, k, hk, hv, hal⟩, htime⟩

/-! ## mod_secure_link -/

/-- **secure link**: forwarded iff the deciding rule's link is valid: not expired (when an expiry key is
    configured: value present, a decimal number, `now ≤ expires`) and the checksum value is present and equals
    `encode` of the concatenated node values. -/
theorem C51_forward_iff_securelink {S : Type} [DecidableEq S] (o : StrOps S) (encode : S → S)
    (atoi : S → Option Int) (now : Int) (tbl : Option (List (Bool × SlRule))) (q : SlReq S) :
    slHandler o encode atoi now tbl q = .goOn ↔
      ∀ rules, tbl = some rules → ∀ r, firstMatch rules = some r → LinkValid o encode atoi now q r :=
  ruleWalk_goOn_iff _ _ (fun _ => Outcome.noConfusion) (slCheck_iff o encode atoi now q) tbl

/-- An invalid link is answered `403`. -/
theorem C51_reject_securelink {S : Type} [DecidableEq S] (o : StrOps S) (encode : S → S)
    (atoi : S → Option Int) (now : Int) (rules : List (Bool × SlRule)) (r : SlRule) (q : SlReq S)
    (hr : firstMatch rules = some r) (hv : ¬ LinkValid o encode atoi now q r) :
    slHandler o encode atoi now (some rules) q = .resp 403 [] :=
  ruleWalk_reject _ _ _ _ hr (mt (slCheck_iff o encode atoi now q r).mp hv)

/-! ## mod_block -/

/-- **block, connections**: a connection is closed at accept iff its address lies in a configured range. -/
theorem C51_block_accept (ranges : List (Nat × Nat)) (ip : Nat) :
    (blockAccept ranges ip = .close ↔ ∃ r ∈ ranges, r.1 ≤ ip ∧ ip ≤ r.2) ∧
    (blockAccept ranges ip = .close ∨ blockAccept ranges ip = .goOn) := by
  have h : (ranges.any fun r => decide (r.1 ≤ ip ∧ ip ≤ r.2)) = true ↔ ∃ r ∈ ranges, r.1 ≤ ip ∧ ip ≤ r.2 := by
    simp
  unfold blockAccept
  rw [← h]
  split
  · exact ⟨iff_of_true rfl ‹_›, .inl rfl⟩
  · exact ⟨iff_of_false nofun ‹_›, .inr rfl⟩

/-- **block, requests**: the connection is closed iff, in the list "global rules, then the product's rules",
    the first rule whose range contains the client address and whose command is ALLOW or CLOSE says CLOSE;
    in every other case the request goes on. -/
theorem C51_block (g p : Option (List BlockRule)) (ip : Nat) :
    (blockRequest g p ip = .close ↔ Blocked (g.getD [] ++ p.getD []) ip) ∧
    (blockRequest g p ip = .close ∨ blockRequest g p ip = .goOn) := by
  rw [blockRequest_eq]
  exact rulesProcess_fst ip _

/-! ## non-vacuity: concrete objects meet the specifications / hypotheses -/

/-- `Basic YTpi` = base64("a:b"), user a stored with hash 1, verify = (pw = "b" ∧ hash = 1) -/
example : BasicValid (H := Nat) b64StdDecode (fun pw h => pw == [98] && h == 1) [([97], 1)]
    [66, 97, 115, 105, 99, 32, 89, 84, 112, 105] :=
  ⟨[66, 97, 115, 105, 99, 32], [89, 84, 112, 105], [97], [98], 1, by decide +kernel, by decide +kernel, by decide +kernel, by decide +kernel,
    ⟨[], [], rfl, by simp⟩, by decide +kernel⟩

example : basicHandler (H := Nat) b64StdDecode (fun pw h => pw == [98] && h == 1)
    (some [(false, ⟨[], []⟩), (true, ⟨[82], [([97], 1)]⟩)]) [66, 97, 115, 105, 99, 32, 89, 84, 112, 105] = .goOn := by
  decide +kernel

example : basicHandler (H := Nat) b64StdDecode (fun pw h => pw == [98] && h == 1)
    (some [(true, ⟨[82], [([97], 1)]⟩)]) [66, 97, 115, 105, 99, 32, 89, 84, 112, 106] ≠ .goOn := by
  decide +kernel

/-- the hypothesis of the partial JWT theorem is satisfiable with a forwarded and with a rejected request -/
example : JwtValid (K := Nat) (T := Nat) (A := Nat) (fun k t => k == t) (fun _ => ⟨.num 2000, .num 500, .absent⟩)
    (fun _ => some 256) (fun _ => 256) 1000 [3, 7] (bearerSyms ++ [.ch 32, .tok 7]) :=
  ⟨7, rfl, ⟨7, by simp, by decide +kernel, by decide +kernel⟩, by decide +kernel⟩

example : jwtHandler (K := Nat) (T := Nat) (fun k t => k == t) (fun _ => ⟨.num 2000, .num 500, .absent⟩) 1000
    (some [(true, ⟨[], [3, 7]⟩)]) (bearerSyms ++ [.ch 32, .tok 7]) = .goOn := by decide +kernel

example : jwtHandler (K := Nat) (T := Nat) (fun k t => k == t) (fun _ => ⟨.num 999, .absent, .absent⟩) 1000
    (some [(true, ⟨[], [3, 7]⟩)]) (bearerSyms ++ [.ch 32, .tok 7]) ≠ .goOn := by decide +kernel

example : claimsPlain ⟨.num 2000, .num 500, .absent⟩ = true := by decide +kernel

example : Blocked [⟨0, 5, cmdAllow⟩, ⟨10, 20, [1]⟩, ⟨10, 20, cmdClose⟩] 15 :=
  (rulesProcess_fst 15 _).1.mp (by decide +kernel)

example : blockRequest (some [⟨10, 20, cmdAllow⟩]) (some [⟨10, 20, cmdClose⟩]) 15 = .goOn := by decide +kernel
example : blockRequest none (some [⟨10, 20, cmdClose⟩]) 15 = .close := by decide +kernel

/-- secure link over plain byte strings with a toy `encode` -/
example : LinkValid (S := Bytes) ⟨[], (· ++ ·), id, List.isEmpty⟩ (fun s => 1 :: s) (fun _ => some 2000) 1000
    { query := [([101], [50]), ([109], [1, 115, 50])], header := fun _ => [], host := [], uri := [], remoteAddr := [] }
    { ck := [109], ek := [101], nodes := [.label [115], .query [101]] } :=
  ⟨fun _ => ⟨2000, by decide +kernel, rfl, by decide +kernel⟩, by decide +kernel, by decide +kernel⟩

/-! ## the loaders -/

/-- **readUserFile**: the file is accepted iff every relevant line (non-empty after trimming blanks, no `#`
    anywhere) has 2 or 3 `:`-separated parts, and then the entries are exactly the (space-trimmed) first two
    fields of the relevant lines in file order (the map keeps the last entry of a user: `lookupLast`). -/
theorem C51_load_userfile_iff (lines : List Bytes) (ents : List (Bytes × Bytes)) :
    loadUserLines lines = some ents ↔
      (∀ l ∈ lines, userLineRelevant l = true →
        (userLineParts l).length = 2 ∨ (userLineParts l).length = 3) ∧
      ents = (lines.filter userLineRelevant).map userLineEntry := by
  rw [loadUserLines_eq, Option.ite_none_right_eq_some, Option.some.injEq, eq_comm (a := ents)]

/-- **NewRule** (mod_secure_link): accepted iff Cond is present and builds, ChecksumKey is not the empty string,
    ExpressionNodes is present and every node type is (case-insensitively) a supported one; then the checksum
    key defaults to "md5" and the expiry key to "". -/
theorem C51_load_securelink_iff (rf : SlRuleFile) (r : SlRule) :
    newRule rf = some r ↔
      rf.cond = some true ∧ rf.ck ≠ some [] ∧
      ∃ nfs ns, rf.nodes = some nfs ∧ (∀ n ∈ nfs, nodeTypeOK n.ty = true) ∧ newNodes nfs = some ns ∧
        r = { ck := rf.ck.getD md5Key, ek := rf.ek.getD [], nodes := ns } := by
  constructor
  · intro h
    unfold newRule at h
    -- Cond absent / false / true; ChecksumKey "" / else; ExpressionNodes absent / `nfs`; `newNodes` fails / `ns`
    split at h
    · cases h
    · cases h
    · rename_i hc
      split at h
      · cases h
      · rename_i hck
        split at h
        · cases h
        · rename_i nfs hn
          split at h
          · cases h
          · rename_i ns hns
            cases h
            exact ⟨hc, hck, nfs, ns, hn, (newNodes_isSome_iff nfs).mp (by rw [hns]; rfl), hns, rfl⟩
  · rintro ⟨hc, hck, nfs, ns, hn, _, hns, rfl⟩
    simp only [newRule, hc, hn, hns, if_neg hck]

/-- **ProductRuleConfLoad** (mod_block), for one product: accepted iff Version is present and every rule has a
    condition that builds, a name, an action whose command is CLOSE or ALLOW with an empty (non-nil) parameter
    list, and the names are pairwise distinct. -/
theorem C51_load_block_iff (hasVersion : Bool) (rs : List BlockRuleFile) (n : Nat) :
    blockConfLoad hasVersion (some rs) = some n ↔
      hasVersion = true ∧ (∀ r ∈ rs, blockRuleFileOK r = true) ∧
      namesDistinct (rs.map (·.name)) = true ∧ n = rs.length := by
  unfold blockConfLoad
  cases hasVersion with
  | false => simp
  | true =>
    -- fold the right side into the loader's test `rs.all blockRuleFileOK && namesDistinct ..`
    simp only [Bool.not_true, Bool.false_eq_true, if_false, true_and, ← List.all_eq_true, ← and_assoc,
      ← Bool.and_eq_true]
    split <;> simp [*, eq_comm]

/-- the loader models are total: for every file content / decoded structure the decision is "error" or
    "accepted with this table" (there is no third outcome; a PANIC of the real loader is FAIL:loader-panic
    in the oracle - crash freedom of the Go code itself is exercised, not proved).  Each holds of any `Option`-valued
    function: the three only name the oracle class. -/
theorem C51_load_no_crash_userfile (content : Bytes) :
    readUserFile content = none ∨ ∃ ents, readUserFile content = some ents :=
  Option.eq_none_or_eq_some _

theorem C51_load_no_crash_securelink (v : Bool) (cfg : Option (List (Option SlRuleFile))) :
    newData v cfg = none ∨ ∃ rs, newData v cfg = some rs :=
  Option.eq_none_or_eq_some _

theorem C51_load_no_crash_block (v : Bool) (cfg : Option (List BlockRuleFile)) :
    blockConfLoad v cfg = none ∨ ∃ n, blockConfLoad v cfg = some n :=
  Option.eq_none_or_eq_some _

/-! non-vacuity: the documented examples are accepted -/

/-- docs/en_us/modules/mod_auth_basic: comment line, apr1 line, 3-field SHA line (shortened hashes) -/
example : readUserFile [35, 32, 99, 10, 117, 49, 58, 36, 97, 112, 114, 49, 36, 120, 10, 32, 117, 50, 32, 58, 32, 123, 83, 72, 65, 125, 121, 61, 32, 58, 110, 10] =
    some [([117, 49], [36, 97, 112, 114, 49, 36, 120]), ([117, 50], [123, 83, 72, 65, 125, 121, 61])] := by decide +kernel

/-- docs/en_us/modules/mod_secure_link: the documented rule -/
example : (newRule ⟨some true, some [115, 105, 103, 110], some [116, 105, 109, 101],
      some [⟨tyQuery, [116, 105, 109, 101]⟩, ⟨[85, 82, 73], []⟩, ⟨tyRemoteAddr, []⟩, ⟨tyLabel, [32, 115]⟩]⟩).map
      (fun r => (r.ck, r.ek, r.nodes)) =
    some ([115, 105, 103, 110], [116, 105, 109, 101],
      [.query [116, 105, 109, 101], .uri, .remoteAddr, .label [32, 115]]) := by decide +kernel

example : (newRule ⟨some true, some [], none, some []⟩).isSome = false := by decide +kernel
example : (newRule ⟨some true, none, none, some []⟩).map (·.ck) = some md5Key := by decide +kernel

/-- docs/en_us/modules/mod_block: the documented example rule -/
example : blockConfLoad true (some [⟨some true, some [101], some (some cmdClose, some 0)⟩]) = some 1 := by decide +kernel
example : blockConfLoad true (some [⟨some true, some [101], some (some [68], some 0)⟩]) = none := by decide +kernel

/-! ## the challenge header -/

/-- the challenge is the RFC 7235 form `scheme realm=<quoted-string>` whenever the realm has no `"` and `\\`. -/
theorem C51_challenge_partial (scheme : String) (realm : Bytes) (h : realmClean realm = true) :
    challenge scheme realm = challengeSpec scheme realm := by
  unfold challenge challengeSpec
  rw [quoteEsc_of_clean realm h]

/-- **witness** (`realm-unescaped`): realm `"` gives `Basic realm="""` instead of `Basic realm="\\""`. -/
theorem C51_witness_realm_quote : challenge "Basic" [34] ≠ challengeSpec "Basic" [34] := by
  unfold challenge challengeSpec
  intro h
  have h1 := List.append_cancel_right h
  have h2 := List.append_cancel_left h1
  simp [quoteEsc] at h2

example : realmClean [82, 101] = true := by decide +kernel

/-! ## reloads and request histories -/

/-- **reload**: after any history of reloads the table is the LAST conf, so every handler result (any function
    `handle` of the table) is the one the last conf alone gives. -/
theorem C51_reload_last_conf {C R : Type} (handle : Option C → R) (cs : List C) (c : C) :
    tableAfter (cs ++ [c]) = some c ∧ handle (tableAfter (cs ++ [c])) = handle (tableAfter [c]) := by
  have h : tableAfter (cs ++ [c]) = some c := by
    unfold tableAfter
    rw [List.foldl_append]
    rfl
  exact ⟨h, by rw [h]; rfl⟩

example : tableAfter [1, 2, 3] = some 3 := by decide +kernel

theorem confAfter_append {C Q : Type} (cur : Option C) (a b : List (Step C Q)) :
    confAfter cur (a ++ b) = confAfter (confAfter cur a) b := by
  fun_induction confAfter cur a <;> simp only [List.cons_append, List.nil_append, confAfter, *]

theorem histAnswers_append {C Q R : Type} (handle : Option C → Q → R) (cur : Option C) (a b : List (Step C Q)) :
    histAnswers handle cur (a ++ b) = histAnswers handle cur a ++ histAnswers handle (confAfter cur a) b := by
  fun_induction confAfter cur a <;> simp only [List.cons_append, List.nil_append, histAnswers, *]

/-- **a rejected reload changes nothing**: dropping it from a history leaves the conf in force and every
    answer unchanged. -/
theorem C51_rejected_reload_changes_nothing {C Q R : Type} (handle : Option C → Q → R) (cur : Option C)
    (a b : List (Step C Q)) :
    confAfter cur (a ++ .load none :: b) = confAfter cur (a ++ b) ∧
    histAnswers handle cur (a ++ .load none :: b) = histAnswers handle cur (a ++ b) := by
  constructor
  · rw [confAfter_append, confAfter_append]; rfl
  · rw [histAnswers_append, histAnswers_append]; rfl

/-- **no cross-request state**: the answer to a request is the handler applied to the last accepted conf before
    it; earlier requests (of any number, with any credentials) do not matter.  (True of every `handle`, since
    `histAnswers` hands it the conf in force and the request only: the theorem fixes the reading of a history that the
    driver's `hs` oracle follows with a fold of its own, `histStep`; it says nothing of the Go handlers.) -/
theorem C51_no_cross_request_state {C Q R : Type} (handle : Option C → Q → R) (cur : Option C)
    (hist : List (Step C Q)) (q : Q) :
    histAnswers handle cur (hist ++ [.req q]) =
        histAnswers handle cur hist ++ [handle (confAfter cur hist) q] ∧
    confAfter cur hist = confAfter cur (hist.filter fun s => !s.isReq) := by
  constructor
  · rw [histAnswers_append]; rfl
  · fun_induction confAfter cur hist <;> simp [confAfter, Step.isReq, *]

example : histAnswers (C := Nat) (Q := Nat) (fun c q => (c, q)) none
    [.req 1, .load (some 7), .req 2, .load none, .req 3, .load (some 8), .req 4] =
    [(none, 1), (some 7, 2), (some 7, 3), (some 8, 4)] := by decide +kernel

end BfeVerif.C51
