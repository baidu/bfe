import BfeVerif.C51.Model
/-! C51 — the handlers' loops are core functions in disguise (`List.lookup`, `List.find?`, `List.splitOnP`): each gets
    an equation saying so, and its "first … such that" characterisation then comes from core's
    `List.lookup_eq_some_iff` / `List.find?_eq_some_iff_append`. -/
namespace BfeVerif.C51

theorem firstMatch_eq_lookup {α : Type} (rules : List (Bool × α)) : firstMatch rules = rules.lookup true := by
  induction rules with
  | nil => rfl
  | cons x xs ih =>
    obtain ⟨m, a⟩ := x
    cases m
    · exact ih
    · rfl

theorem ruleWalk_goOn_iff {α : Type} (check : α → Bool) (reject : α → Outcome)
    (hrej : ∀ r, reject r ≠ .goOn) {Valid : α → Prop} (hv : ∀ r, check r = true ↔ Valid r)
    (tbl : Option (List (Bool × α))) :
    ruleWalk check reject tbl = .goOn ↔
      ∀ rules, tbl = some rules → ∀ r, firstMatch rules = some r → Valid r := by
  cases tbl with
  | none => simp [ruleWalk]
  | some rules =>
    simp only [ruleWalk, Option.some.injEq, forall_eq', ← hv]
    cases firstMatch rules with
    | none => simp
    | some r => by_cases hc : check r = true <;> simp [hc, hrej]

theorem ruleWalk_reject {α : Type} (check : α → Bool) (reject : α → Outcome)
    (rules : List (Bool × α)) (r : α) (hfm : firstMatch rules = some r) (hc : ¬ check r = true) :
    ruleWalk check reject (some rules) = reject r := by
  simp [ruleWalk, hfm, hc]

theorem splitColon_append (u p : Bytes) (hn : (58 : UInt8) ∉ u) : splitColon (u ++ 58 :: p) = some (u, p) := by
  induction u with
  | nil => rfl
  | cons c u ih =>
    have ⟨hc, hu⟩ := not_or.mp (mt List.mem_cons.mpr hn)
    rw [List.cons_append, splitColon, if_neg (Ne.symm hc), ih hu]

theorem splitColon_iff (cs u p : Bytes) :
    splitColon cs = some (u, p) ↔ cs = u ++ 58 :: p ∧ (58 : UInt8) ∉ u := by
  refine ⟨fun h => ?_, fun ⟨hl, hn⟩ => hl ▸ splitColon_append u p hn⟩
  induction cs generalizing u with
  | nil => cases h
  | cons c rest ih =>
    rw [splitColon] at h
    split at h
    · cases h
      exact ⟨by simp [*], List.not_mem_nil⟩
    · rename_i hc
      split at h
      · cases h
      · rename_i u' p' hs
        cases h
        have ⟨hl, hn⟩ := ih u' hs
        exact ⟨by rw [hl]; rfl, fun hm => (List.mem_cons.mp hm).elim (fun e => hc e.symm) hn⟩

theorem parseBasicAuth_iff (b64dec : Bytes → Option Bytes) (auth user pw : Bytes) :
    parseBasicAuth b64dec auth = some (user, pw) ↔
      ∃ pfx cred, auth = pfx ++ cred ∧ pfx.map lowerB = basicPrefix ∧
        b64dec cred = some (user ++ 58 :: pw) ∧ (58 : UInt8) ∉ user := by
  unfold parseBasicAuth
  constructor
  · intro h
    split at h
    · cases h
    · rename_i hpre
      split at h
      · cases h
      · rename_i cs hd
        obtain ⟨rfl, hn⟩ := (splitColon_iff cs user pw).mp h
        exact ⟨auth.take 6, auth.drop 6, (List.take_append_drop 6 auth).symm,
          Decidable.not_not.mp (not_or.mp hpre).2, hd, hn⟩
  · rintro ⟨pfx, cred, rfl, hp, hdec, hn⟩
    have hlen : pfx.length = 6 := by simpa [basicPrefix] using congrArg List.length hp
    rw [List.take_left' hlen, List.drop_left' hlen, List.length_append, hlen, hdec, if_neg]
    · exact splitColon_append user pw hn
    · exact not_or.mpr ⟨by omega, not_not_intro hp⟩

theorem lookupLast_eq_lookup {H : Type} (users : List (Bytes × H)) (user : Bytes) :
    lookupLast users user = users.reverse.lookup user := by
  -- `List.findSomeRev?` recurses exactly as `lookupLast` does
  rw [List.lookup_eq_findSome?, ← List.findSomeRev?_eq_findSome?_reverse]
  induction users with
  | nil => rfl
  | cons e rest ih =>
    rw [lookupLast, ih, List.findSomeRev?]
    cases List.findSomeRev? _ rest
    · simp only [beq_iff_eq, @eq_comm _ user]
    · rfl

theorem lookupLast_iff {H : Type} (users : List (Bytes × H)) (user : Bytes) (h : H) :
    lookupLast users user = some h ↔ StoredFor users user h := by
  rw [lookupLast_eq_lookup, List.lookup_eq_some_iff]
  simp only [bne_iff_ne, ne_eq, @eq_comm _ user, List.reverse_eq_append_iff, List.reverse_cons, List.append_assoc,
    List.singleton_append]
  -- what precedes the hit in `users.reverse` FOLLOWS it in `users`: hence `post, pre`
  constructor
  · rintro ⟨post, pre, hl, hp⟩
    exact ⟨_, _, hl, fun e he => hp e (List.mem_reverse.mp he)⟩
  · rintro ⟨pre, post, hl, hp⟩
    exact ⟨post.reverse, pre.reverse, by rwa [List.reverse_reverse, List.reverse_reverse],
      fun e he => hp e (List.mem_reverse.mp he)⟩

theorem splitOn_eq_splitOnP {α : Type} (p : α → Bool) (l : List α) : splitOn p l = l.splitOnP p := by
  induction l with
  | nil => rfl
  | cons x xs ih =>
    rw [splitOn, ih, List.splitOnP_cons_eq_if_modifyHead]
    cases h : xs.splitOnP p with
    | nil => exact absurd h (List.splitOnP_ne_nil p xs)
    | cons => rfl

theorem exists_first_sep {α : Type} (p : α → Bool) (l : List α) :
    (∀ y ∈ l, p y = false) ∨ ∃ a x rest, l = a ++ x :: rest ∧ p x = true ∧ ∀ y ∈ a, p y = false := by
  cases h : l.find? p with
  | none => exact .inl fun y hy => Bool.eq_false_iff.mpr (List.find?_eq_none.mp h y hy)
  | some x =>
    obtain ⟨hx, a, rest, hl, ha⟩ := List.find?_eq_some_iff_append.mp h
    exact .inr ⟨a, x, rest, hl, hx, fun y hy => by simpa using ha y hy⟩

/-- the converse of core's `splitOnP_eq_singleton` and `splitOnP_append_cons_of_forall_mem` taken together -/
theorem splitOnP_eq_cons {α : Type} (p : α → Bool) (l a : List α) (ps : List (List α)) :
    l.splitOnP p = a :: ps ↔ (∀ y ∈ a, p y = false) ∧
      (l = a ∧ ps = [] ∨ ∃ x rest, l = a ++ x :: rest ∧ p x = true ∧ rest.splitOnP p = ps) := by
  constructor
  · intro h
    rcases exists_first_sep p l with hl | ⟨a', x, rest, rfl, hx, ha'⟩
    · rw [List.splitOnP_eq_singleton hl] at h
      cases h
      exact ⟨hl, .inl ⟨rfl, rfl⟩⟩
    · rw [List.splitOnP_append_cons_of_forall_mem ha' x hx] at h
      cases h
      exact ⟨ha', .inr ⟨x, rest, rfl, hx, rfl⟩⟩
  · rintro ⟨ha, ⟨rfl, rfl⟩ | ⟨x, rest, rfl, hx, rfl⟩⟩
    · exact List.splitOnP_eq_singleton ha
    · exact List.splitOnP_append_cons_of_forall_mem ha x hx _

theorem isSp_true {T : Type} (x : HSym T) : isSp x = true ↔ x = .ch 32 := by
  cases x <;> simp [isSp]

theorem bearer_noSp {T : Type} : ∀ y ∈ (bearerSyms : List (HSym T)), isSp y = false := by
  intro y hy
  simp only [bearerSyms, List.mem_cons, List.not_mem_nil, or_false] at hy
  rcases hy with rfl | rfl | rfl | rfl | rfl | rfl <;> rfl

theorem getToken_iff {T : Type} [DecidableEq T] (hdr part : List (HSym T)) :
    getToken hdr = some part ↔
      hdr = bearerSyms ++ .ch 32 :: part ∧ ∀ y ∈ part, isSp y = false := by
  unfold getToken
  by_cases h0 : hdr = []
  · subst h0
    simp [bearerSyms]
  · rw [if_neg h0, splitOn_eq_splitOnP]
    constructor
    · intro h
      -- two space-separated parts `a`, `b` (`a` is `Bearer` or not) / any other number
      split at h
      · rename_i a b hs
        split at h
        · rename_i hab
          cases h
          -- `[a, b]`: `a` ends at a first space `x`, and the rest `b` has no further one
          obtain ⟨_, ⟨_, h1⟩ | ⟨x, rest, hl, hx, hr⟩⟩ := (splitOnP_eq_cons ..).mp hs
          · cases h1
          · obtain ⟨hb, ⟨rfl, _⟩ | ⟨_, _, _, _, h2⟩⟩ := (splitOnP_eq_cons ..).mp hr
            · exact ⟨by rw [hl, (isSp_true x).mp hx, hab], hb⟩
            · exact absurd h2 (List.splitOnP_ne_nil _ _)
        · cases h
      · cases h
    · rintro ⟨hl, hb⟩
      rw [hl, List.splitOnP_append_cons_of_forall_mem bearer_noSp _ rfl, List.splitOnP_eq_singleton hb]
      exact if_pos rfl

theorem asToken_iff {T : Type} (part : List (HSym T)) (t : T) :
    asToken part = some t ↔ part = [.tok t] := by
  constructor
  · intro h
    unfold asToken at h
    split at h
    · cases h
      rfl
    · cases h
  · rintro rfl
    rfl

theorem libClaimsValid_eq_timeOK (now : Int) (c : Claims) (h : claimsPlain c = true) :
    libClaimsValid now c = timeOK now c := by
  unfold claimsPlain at h
  simp only [Bool.and_eq_true] at h
  obtain ⟨⟨he, hi⟩, hn⟩ := h
  have key : ∀ (cmp : Int → Bool) (cl : Claim), claimPlain cl = true → libClaimOK cmp cl = specClaimOK cmp cl := by
    intro cmp cl hcl
    cases cl with
    | absent => rfl
    | num v =>
      simp only [claimPlain, bne_iff_ne, ne_eq] at hcl
      simp [libClaimOK, specClaimOK, hcl]
    | other => simp [claimPlain] at hcl
  unfold libClaimsValid timeOK
  rw [key _ _ he, key _ _ hi, key _ _ hn]

theorem slCheck_iff {S : Type} [DecidableEq S] (o : StrOps S) (encode : S → S) (atoi : S → Option Int)
    (now : Int) (q : SlReq S) (r : SlRule) :
    slCheck o encode atoi now q r = true ↔ LinkValid o encode atoi now q r := by
  unfold slCheck LinkValid
  rw [Bool.and_eq_true]
  refine and_congr ?_ ?_
  · -- expiry: no key configured / value empty / `atoi` fails or succeeds
    by_cases hek : r.ek = []
    · simp [hek]
    · cases he : o.isEmpty (getFirst o.empty q.query r.ek)
      · cases ha : atoi (getFirst o.empty q.query r.ek) <;> simp [hek, he, ha]
      · simp [hek, he]
  · cases he : o.isEmpty (getFirst o.empty q.query r.ck)
    · simp only [he, Bool.false_eq_true, if_false, decide_eq_true_eq, true_and]
      -- code: `expected = got`, `LinkValid`: `got = expected`
      exact eq_comm
    · simp [he]

theorem cmdAllow_ne_cmdClose : cmdAllow ≠ cmdClose := by decide

theorem rulesProcess_eq (ip : Nat) (rules : List BlockRule) :
    rulesProcess ip rules =
      match rules.find? (·.decisive ip) with
      | some r => (if r.cmd = cmdClose then .close else .goOn, true)
      | none => (.goOn, false) := by
  induction rules with
  | nil => rfl
  | cons r rest ih =>
    rw [rulesProcess, List.find?_cons, BlockRule.decisive, ih]
    by_cases hh : r.hit ip = true
    · by_cases ha : r.cmd = cmdAllow
      · simp [hh, ha, cmdAllow_ne_cmdClose]
      · by_cases hc : r.cmd = cmdClose <;> simp [hh, ha, hc, cmdAllow_ne_cmdClose.symm]
    · simp [hh]

theorem rulesProcess_append (ip : Nat) (a b : List BlockRule) :
    rulesProcess ip (a ++ b) =
      if (rulesProcess ip a).2 = true then rulesProcess ip a else rulesProcess ip b := by
  rw [rulesProcess_eq, rulesProcess_eq ip a, rulesProcess_eq ip b, List.find?_append]
  cases a.find? (·.decisive ip) <;> rfl

theorem blocked_iff_find (ip : Nat) (rules : List BlockRule) :
    Blocked rules ip ↔ ∃ r, rules.find? (·.decisive ip) = some r ∧ r.cmd = cmdClose := by
  unfold Blocked
  simp only [List.find?_eq_some_iff_append, Bool.not_eq_true']
  constructor
  · rintro ⟨pre, r, post, hl, hh, hc, hp⟩
    exact ⟨r, ⟨by simp [BlockRule.decisive, hh, hc], pre, post, hl, hp⟩, hc⟩
  · rintro ⟨r, ⟨hd, pre, post, hl, hp⟩, hc⟩
    exact ⟨pre, r, post, hl, (Bool.and_eq_true_iff.mp hd).1, hc, hp⟩

theorem rulesProcess_fst (ip : Nat) (rules : List BlockRule) :
    ((rulesProcess ip rules).1 = .close ↔ Blocked rules ip) ∧
    ((rulesProcess ip rules).1 = .close ∨ (rulesProcess ip rules).1 = .goOn) := by
  rw [rulesProcess_eq, blocked_iff_find]
  cases rules.find? (·.decisive ip) with
  | none => simp
  | some r => by_cases hc : r.cmd = cmdClose <;> simp [hc]

theorem blockRequest_eq (g p : Option (List BlockRule)) (ip : Nat) :
    blockRequest g p ip = (rulesProcess ip (g.getD [] ++ p.getD [])).1 := by
  unfold blockRequest
  rw [rulesProcess_append]
  cases g with
  | none => cases p <;> rfl
  | some gr =>
    simp only [Option.getD_some]
    cases rulesProcess ip gr with
    | mk ret m => cases m <;> cases p <;> rfl

theorem isSome_ite_some {α : Type} {c : Prop} [Decidable c] (a : α) (x : Option α) :
    (if c then some a else x).isSome = (decide c || x.isSome) := by
  split <;> simp [*]

theorem newNode_isSome_iff (nf : SlNodeFile) : (newNode nf).isSome = true ↔ nodeTypeOK nf.ty = true := by
  unfold newNode nodeTypeOK
  simp only [isSome_ite_some, Option.isSome_none, Bool.or_false, Bool.or_eq_true, decide_eq_true_eq, beq_iff_eq, or_assoc]

theorem newNodes_isSome_iff (nfs : List SlNodeFile) :
    (newNodes nfs).isSome = true ↔ ∀ n ∈ nfs, nodeTypeOK n.ty = true := by
  induction nfs with
  | nil => simp [newNodes]
  | cons nf rest ih =>
    rw [List.forall_mem_cons, ← ih, ← newNode_isSome_iff, newNodes]
    cases newNode nf <;> cases newNodes rest <;> simp

theorem loadUserLines_eq (lines : List Bytes) :
    loadUserLines lines =
      if ∀ l ∈ lines, userLineRelevant l = true → (userLineParts l).length = 2 ∨ (userLineParts l).length = 3
      then some ((lines.filter userLineRelevant).map userLineEntry) else none := by
  induction lines with
  | nil => rfl
  | cons raw rest ih =>
    rw [loadUserLines, ih, List.filter_cons]
    simp only [List.forall_mem_cons]
    by_cases hrel : userLineRelevant raw = true
    · by_cases hparts : (userLineParts raw).length = 2 ∨ (userLineParts raw).length = 3
      · have hcond : ((userLineParts raw).length != 2 && (userLineParts raw).length != 3) = false := by
          rcases hparts with h | h <;> simp [h]
        by_cases hall : ∀ l ∈ rest, userLineRelevant l = true →
            (userLineParts l).length = 2 ∨ (userLineParts l).length = 3
        · simp [hrel, hparts, hcond, if_pos hall]
        · simp [hrel, hparts, hcond, hall]
      · have hcond : ((userLineParts raw).length != 2 && (userLineParts raw).length != 3) = true := by
          simpa [not_or] using hparts
        simp [hrel, hparts, hcond]
    · simp [hrel]

theorem quoteEsc_of_clean (realm : Bytes) (h : realmClean realm = true) : quoteEsc realm = realm := by
  induction realm with
  | nil => rfl
  | cons c rest ih =>
    simp only [realmClean, List.all_cons, Bool.and_eq_true, bne_iff_ne, ne_eq] at h
    rw [quoteEsc, if_neg (not_or.mpr h.1), ih h.2]

end BfeVerif.C51
