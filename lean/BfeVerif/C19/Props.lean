import BfeVerif.C19.Proofs
/-!
  C19 — IP dictionaries report exact membership.
  The model mirrors the code after fixes/C19-nil-marker.md (deleted slots of `mergeItems` are `(nil, nil)`).

  `search singles (sortTable sort1 sort2 table) ip` is the model of
  `InsertPair*; InsertSingle*; Sort(); IPTable.Search(ip)`; `sort1`/`sort2` are the two `sort.Sort` calls.
  Table values are IP *codes* (`0` = nil, `encIP v = v + 1` = the 16-byte IP with value `v`), see `Model.lean`.
-/
namespace BfeVerif.C19

/-- every loaded pair was accepted by `checkIPPair` (raw 16-byte values, start ≤ end) -/
def Valid (ranges : List Item) : Prop := ∀ r ∈ ranges, r.1 ≤ r.2

/-- what `InsertPair` stores for an accepted pair -/
def encRange (r : Item) : Item := (encIP r.1, encIP r.2)

instance (l : List Item) : Decidable (Valid l) := by unfold Valid; infer_instance

/-- **C19**: for every admissible behaviour of the two `sort.Sort` calls and every list of accepted ranges (overlapping,
    nested, chained, duplicate, starting at `::` or equal to `0.0.0.0–0.0.0.0` included), `Search` answers true
    exactly when the probe is a loaded single address or lies in a loaded range, bounds included. -/
theorem C19_exact (sort1 sort2 : List Item → List Item) (h1 : IsSort sort1) (h2 : IsSort sort2)
    (ranges : List Item) (singles : List Nat) (ip : Nat) (hv : Valid ranges) :
    search (singles.map encIP) (sortTable sort1 sort2 (ranges.map encRange)) (encIP ip) = true ↔
      ip ∈ singles ∨ InUnion ranges ip := by
  have hg : ∀ a ∈ ranges.map encRange, Good a := fun a ha => by
    obtain ⟨r, hr, rfl⟩ := List.mem_map.mp ha
    exact ⟨Nat.succ_pos _, Nat.succ_le_succ (hv r hr)⟩
  refine (search_iff (h1 _) (h2 _) hg _ _).trans (or_congr ⟨fun h => ?_, List.mem_map_of_mem⟩ ⟨?_, ?_⟩)
  · obtain ⟨v, hv', e⟩ := List.mem_map.mp h
    exact Nat.succ.inj e ▸ hv'
  · rintro ⟨a, ha, h⟩
    obtain ⟨r, hr, rfl⟩ := List.mem_map.mp ha
    exact ⟨r, hr, Nat.le_of_succ_le_succ h.1, Nat.le_of_succ_le_succ h.2⟩
  · rintro ⟨r, hr, h⟩
    exact ⟨encRange r, List.mem_map_of_mem hr, Nat.succ_le_succ h.1, Nat.succ_le_succ h.2⟩

/-- the same on the stored codes, in the form the driver's oracle uses -/
theorem C19_search_eq_spec (sort1 sort2 : List Item → List Item) (h1 : IsSort sort1) (h2 : IsSort sort2)
    (stored : List Item) (singles : List Nat) (ip : Nat) (hv : ∀ r ∈ stored, 0 < r.1 ∧ r.1 ≤ r.2) :
    search singles (sortTable sort1 sort2 stored) ip = specSearch singles stored ip :=
  Bool.eq_iff_iff.mpr ((search_iff (h1 stored) (h2 _) hv singles ip).trans (specSearch_iff singles stored ip).symm)

/-- `InsertPair` stores only such entries -/
theorem C19_insertPair_stored (s e : Option Nat) (r : Item) (h : insertPair s e = some r) : 0 < r.1 ∧ r.1 ≤ r.2 := by
  unfold insertPair at h
  split at h
  · split at h
    · exact nomatch h
    · split at h
      · exact nomatch h
      · obtain rfl := Option.some.inj h
        exact ⟨Nat.succ_pos _, Nat.succ_le_succ (Nat.le_of_not_lt ‹_›)⟩
  · exact nomatch h

/-- What `Sort()` leaves: no deleted slot survives the reslice and no real entry is cut; descending starts, pairwise
    disjoint, the same union. -/
theorem C19_table_invariants (sort1 sort2 : List Item → List Item) (h1 : IsSort sort1) (h2 : IsSort sort2)
    (stored : List Item) (hv : ∀ r ∈ stored, 0 < r.1 ∧ r.1 ≤ r.2) :
    (∀ a ∈ sortTable sort1 sort2 stored, 0 < a.1 ∧ a.1 ≤ a.2) ∧
    (sortTable sort1 sort2 stored).Pairwise (fun a b => b.1 ≤ a.1 ∧ (b.2 < a.1 ∨ a.2 < b.1)) ∧
    ∀ x, (∃ a ∈ sortTable sort1 sort2 stored, a.1 ≤ x ∧ x ≤ a.2) ↔ InUnion stored x := by
  obtain ⟨t1, t2⟩ := table_spec (h1 stored) (h2 _) hv
  exact ⟨t1.good, (t1.starts.and t1.sep).imp fun h => ⟨Nat.le_of_lt h.1, Or.inl h.2⟩, t2⟩

/-- **`Sort()` is idempotent**, whatever admissible behaviour the two further `sort.Sort` calls have. -/
theorem C19_sort_idempotent (sort1 sort2 sort3 sort4 : List Item → List Item) (h1 : IsSort sort1) (h2 : IsSort sort2)
    (h3 : IsSort sort3) (h4 : IsSort sort4) (stored : List Item) (hv : ∀ r ∈ stored, 0 < r.1 ∧ r.1 ≤ r.2) :
    sortTable sort3 sort4 (sortTable sort1 sort2 stored) = sortTable sort1 sort2 stored := by
  exact sortTable_of_strict (h3 _) (h4 _) (table_spec (h1 stored) (h2 _) hv).1

/-- **`Update` replaces**: after any history of `Update` calls (nil tables, equal or empty version strings included)
    the table in service is the `IPItems` of the last call. -/
theorem C19_update_replaces (t0 : IPTableM) (hist : List (Option IPItemsM)) (x : Option IPItemsM) :
    t0.updates (hist ++ [x]) = x := by
  rw [updates_eq, List.getLast?_concat]; rfl

/-- Consequently `Search` and `Version` after `…; Update(X)` are those of `X`, independent of everything before. -/
theorem C19_update_forgets (t0 t1 : IPTableM) (h0 h1 : List (Option IPItemsM)) (x : Option IPItemsM) (ip : Option Nat) :
    (t0.updates (h0 ++ [x])).search ip = (t1.updates (h1 ++ [x])).search ip ∧
    (t0.updates (h0 ++ [x])).version = (t1.updates (h1 ++ [x])).version := by
  rw [C19_update_replaces, C19_update_replaces]; exact ⟨rfl, rfl⟩

/-- **Exact membership after an update history**: `C19_exact` holds of the table installed last. -/
theorem C19_update_exact (sort1 sort2 : List Item → List Item) (h1 : IsSort sort1) (h2 : IsSort sort2)
    (t0 : IPTableM) (hist : List (Option IPItemsM)) (ranges : List Item) (singles : List Nat) (ver : String)
    (ip : Nat) (hv : Valid ranges) :
    (t0.updates (hist ++ [some ⟨singles.map encIP, sortTable sort1 sort2 (ranges.map encRange), ver⟩])).search
        (some (encIP ip)) = true ↔ ip ∈ singles ∨ InUnion ranges ip := by
  rw [C19_update_replaces]
  exact C19_exact sort1 sort2 h1 h2 ranges singles ip hv

/-- after `Update(nil)` nothing is reported and the version is empty; an address without a 16-byte form is never reported -/
theorem C19_update_nil (t0 : IPTableM) (hist : List (Option IPItemsM)) (ip : Option Nat) :
    (t0.updates (hist ++ [none])).search ip = false ∧ (t0.updates (hist ++ [none])).version = "" ∧
    ∀ t : IPTableM, t.search none = false := by
  rw [C19_update_replaces]
  refine ⟨rfl, rfl, fun t => ?_⟩
  cases t <;> rfl

/-- **Swap while searching**: `Search` reads `t.ipItems` once (under the lock) and answers from that snapshot, so with
    updates that only ever install `a` or `b` every answer is `a`'s or `b`'s, never a mixture. -/
theorem C19_swap_answers (a b : Option IPItemsM) (t0 : IPTableM) (ht : t0 = a ∨ t0 = b)
    (hist : List (Option IPItemsM)) (hh : ∀ x ∈ hist, x = a ∨ x = b) (ip : Option Nat) :
    (t0.updates hist).search ip = IPTableM.search a ip ∨ (t0.updates hist).search ip = IPTableM.search b ip := by
  have key : t0.updates hist = a ∨ t0.updates hist = b := by
    rw [updates_eq]
    cases h : hist.getLast? with
    | none => exact ht
    | some x => exact hh x (List.mem_of_getLast? h)
  rcases key with e | e <;> rw [e]
  · exact Or.inl rfl
  · exact Or.inr rfl

/-- the reload gate of `txt_load.CheckAndLoad`: a file without version is always reloaded -/
theorem C19_reload_gate (cur new : String) : needLoad cur new = false ↔ (new = cur ∧ new ≠ "") := by
  unfold needLoad
  simp

/-- The list-traversal `mergeItems` used above computes what the in-place array loops of `mergeItems`/`checkMerge`
    compute (`mergeItemsA`: `for i`, `for j`, `for k` with `items[i] = …` updates): the theorems here are about those. -/
theorem C19_merge_array_eq (a : List Item) : mergeItemsA a = mergeItems a :=
  outerA_eq a.length [] a

/-- `sort.Search` (binary search) returns the first index at which a monotone predicate holds. -/
theorem C19_goSearch_first (f : Nat → Bool) (n : Nat) (hmono : ∀ i j, i ≤ j → j < n → f i = true → f j = true) :
    goSearch n f ≤ n ∧ (∀ k, k < goSearch n f → f k = false) ∧ (goSearch n f < n → f (goSearch n f) = true) :=
  goSearch_spec f n hmono

/-- Go's insertion sort with the non-strict `Less` (what `sort.Sort` runs for n ≤ 12) is an admissible sort:
    the hypotheses `IsSort` of the theorems above are satisfiable. -/
theorem C19_goSort_admissible : IsSort goSort := fun l => by
  have := foldl_insDesc l [] List.Pairwise.nil
  rwa [List.append_nil] at this

/-! The former witnesses (inputs on which the unfixed `Sort()` lost entries), with Go's own tie order. -/

/-- former `zero-start` witness `{::–::5, ::–::a}`: the table is now `[::–::a]` and `::5` is found
    (before the fix the table was just the `::/::` marker). -/
theorem C19_former_witness_zero_start :
    sortTable goSort goSort ([(0, 5), (0, 10)].map encRange) = [encRange (0, 10)] ∧
    search [] (sortTable goSort goSort ([(0, 5), (0, 10)].map encRange)) (encIP 5) = true := by decide +kernel

/-- former `v4zero-end` witness `{0.0.0.0–0.0.0.0, ::1–2001::}`: merged into one entry, `0.0.0.1` is found. -/
theorem C19_former_witness_v4zero_end :
    sortTable goSort goSort ([(v4zero, v4zero), (1, 0x20010000000000000000000000000000)].map encRange) =
      [encRange (1, 0x20010000000000000000000000000000)] ∧
    search [] (sortTable goSort goSort ([(v4zero, v4zero), (1, 0x20010000000000000000000000000000)].map encRange))
      (encIP (v4zero + 1)) = true := by decide +kernel

/-- former IPv4-only witness `{0.0.0.0–0.0.0.1, 0.0.0.0–0.0.0.0, 0.0.0.1–0.0.0.1}` -/
theorem C19_former_witness_v4zero_end_ipv4 :
    sortTable goSort goSort ([(v4zero, v4zero + 1), (v4zero, v4zero), (v4zero + 1, v4zero + 1)].map encRange) =
      [encRange (v4zero, v4zero + 1)] ∧
    search [] (sortTable goSort goSort ([(v4zero, v4zero + 1), (v4zero, v4zero), (v4zero + 1, v4zero + 1)].map encRange))
      (encIP (v4zero + 1)) = true := by decide +kernel

/-! Non-vacuity: after two `Update`s the second table answers, not the first; nested, chained, duplicate, touching
    ranges and a range `::–::` satisfy the hypothesis, and the answer on them is the non-trivial one (several input
    ranges collapse into one entry, `::–::` is kept). -/
example : (IPTableM.updates none [some ⟨[], [(1, 2)], "1"⟩, some ⟨[], [(5, 6)], "1"⟩]).search (some 5) = true ∧
    (IPTableM.updates none [some ⟨[], [(1, 2)], "1"⟩, some ⟨[], [(5, 6)], "1"⟩]).search (some 1) = false := by decide +kernel
example : Valid [(10, 20), (15, 30), (12, 13), (30, 31), (40, 41), (10, 20), (0, 0)] := by decide +kernel
example : sortTable goSort goSort ([(10, 20), (15, 30), (12, 13), (30, 31), (40, 41), (10, 20), (0, 0)].map encRange) =
    [encRange (40, 41), encRange (10, 31), encRange (0, 0)] := by decide +kernel

end BfeVerif.C19
