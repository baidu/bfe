import BfeVerif.C45.HelloRt
/-! C45 — round trips stated more generally than the property theorems: with what comes back where that is not the message
    (certificateVerify, nextProto, certificateStatus), under the weaker `CertsFit` (certificate), part by part
    (certificateRequest). -/
namespace BfeVerif.C45

/-- without `has` the two algorithm bytes are not on the wire and read as 0 -/
theorem umCertificateVerify_rt (has : Bool) (hash sig : UInt8) (s : Bytes) (h : s.length < 65536) :
    umCertificateVerify has (mCertificateVerify has hash sig s)
      = .ok (if has then hash else 0, if has then sig else 0, s) := by
  unfold mCertificateVerify len3 len2
  cases has
  · simp only [Bool.false_eq_true, if_false, List.cons_append, List.nil_append, Nat.add_zero]
    rw [umCertificateVerify, require_ge_pos (by simp)]
    simp only [idx_cons_zero, idx_cons_succ, tail_cons_succ, tail_zero, ok_bind, Bool.false_eq_true, if_false,
      u24_bytes _ (show 2 + s.length < 16777216 by omega), u16_bytes _ h]
    rw [require_pos (by simp; omega), require_ge_pos (by simp), require_pos (by simp)]
    rfl
  · simp only [if_true, List.cons_append, List.nil_append]
    rw [umCertificateVerify, require_ge_pos (by simp)]
    simp only [idx_cons_zero, idx_cons_succ, tail_cons_succ, tail_zero, ok_bind, if_true,
      u24_bytes _ (show 2 + s.length + 2 < 16777216 by omega), u16_bytes _ h]
    rw [require_pos (by simp; omega), require_ge_pos (by simp), require_pos (by simp)]
    rfl

theorem readCAs_flat : ∀ (l : List Bytes) (fuel : Nat), (l.all fun c => decide (c.length < 65536)) = true →
    (flatCAs l).length < fuel → readCAs fuel (flatCAs l) = .ok l
  | [], fuel + 1, _, _ => by rw [readCAs, if_neg (show ¬ (flatCAs []).length > 0 from Nat.lt_irrefl 0)]
  | c :: l, fuel + 1, hok, hf => by
    obtain ⟨hc, hl⟩ : c.length < 65536 ∧ (l.all fun c => decide (c.length < 65536)) = true := by simpa using hok
    simp only [flatCAs, len2, List.cons_append, List.nil_append] at hf ⊢
    rw [readCAs, if_pos (by simp), require_ge_pos (by simp)]
    simp only [idx_cons_zero, idx_cons_succ, tail_cons_succ, tail_zero, ok_bind, u16_bytes _ hc]
    rw [require_ge_pos (by simp), sub_prefix, ok_bind, tail_prefix, ok_bind,
      readCAs_flat l fuel hl (by simp only [List.length_cons, List.length_append] at hf; omega)]
    rfl

theorem crHead_rt (types rest : Bytes) (l2 l1 l0 : UInt8)
    (hu : u24 l2 l1 l0 = (byte0 types.length :: (types ++ rest)).length)
    (h0 : 0 < types.length) (h255 : types.length ≤ 255) (hr : 0 < rest.length) :
    crHead (13 :: l2 :: l1 :: l0 :: byte0 types.length :: (types ++ rest)) = .ok (types, rest) := by
  rw [crHead, require_ge_pos (by simp only [List.length_cons]; omega)]
  simp only [idx_cons_zero, idx_cons_succ, ok_bind, hu]
  rw [require_pos (by simp)]
  simp only [tail_cons_succ, tail_zero, ok_bind, byte0_toNat_le _ h255]
  rw [require_pos (by simp only [List.length_append, Bool.not_eq_true', Bool.or_eq_false_iff, beq_eq_false_iff_ne,
    decide_eq_false_iff_not]; omega), sub_prefix, ok_bind, tail_prefix]
  rfl

theorem crSigs_rt (has : Bool) (sh : List U16) (rest : Bytes) (hhas : has = true ∨ sh = [])
    (hn : 2 * sh.length < 65536) :
    crSigs has ((if has = true then len2 (2 * sh.length) ++ flatPairs sh else []) ++ rest) = .ok (sh, rest) := by
  cases has
  · rw [hhas.resolve_left Bool.false_ne_true]; rfl
  · simp only [if_true, len2, List.cons_append, List.nil_append]
    rw [crSigs, if_pos rfl, require_ge_pos (by simp)]
    simp only [idx_cons_zero, idx_cons_succ, tail_cons_succ, tail_zero, ok_bind, u16_bytes _ hn]
    rw [require_pos (by simp), require_ge_pos (by simp [flatPairs_length]), Nat.mul_div_cancel_left _ (by omega : 0 < 2),
      readPairs_flat, ok_bind, tail_drop (flatPairs_length sh)]
    rfl

theorem crCAs_rt (cas : List Bytes) (hok : (cas.all fun c => decide (c.length < 65536)) = true)
    (hn : (flatCAs cas).length < 65536) :
    crCAs (len2 (flatCAs cas).length ++ flatCAs cas) = .ok cas := by
  simp only [len2, List.cons_append, List.nil_append]
  rw [crCAs, require_ge_pos (by simp)]
  simp only [idx_cons_zero, idx_cons_succ, tail_cons_succ, tail_zero, ok_bind, u16_bytes _ hn]
  rw [require_ge_pos (Nat.le_refl _), sub_length, ok_bind, tail_length, ok_bind,
    readCAs_flat cas _ hok (Nat.lt_succ_self _), ok_bind]
  rfl

/-- 1 ≤ length < 2^24 for every certificate: the test the driver makes (spelt out in its `mKind`) before it expects the
    list back -/
def certsOK (cs : List Bytes) : Bool := cs.all fun c => decide (0 < c.length) && decide (c.length < 16777216)

theorem certBody_cons (c : Bytes) (cs : List Bytes) :
    certBody (c :: cs) = byte2 c.length :: byte1 c.length :: byte0 c.length :: (c ++ certBody cs) := rfl

/-- What the round trip needs: the counting loop asks for `len(d) >= 4` at every turn, which only an empty LAST
    certificate fails. -/
structure CertsFit (cs : List Bytes) : Prop where
  lt : ∀ c ∈ cs, c.length < 16777216
  last : ∀ c ∈ cs.getLast?, 0 < c.length

theorem CertsFit.of_cons {c : Bytes} {cs : List Bytes} (h : CertsFit (c :: cs)) :
    c.length < 16777216 ∧ 0 < c.length + (certBody cs).length ∧ CertsFit cs := by
  refine ⟨h.lt c List.mem_cons_self, ?_, fun x hx => h.lt x (List.mem_cons_of_mem _ hx), ?_⟩
  · cases cs with
    | nil => exact h.last c rfl
    | cons c' cs => simp only [certBody_cons, List.length_cons]; omega
  · cases cs with
    | nil => nofun
    | cons c' cs => exact h.last

theorem certsOK_fit {cs : List Bytes} (h : certsOK cs = true) : CertsFit cs := by
  have h : ∀ c ∈ cs, 0 < c.length ∧ c.length < 16777216 := by simpa [certsOK] using h
  exact ⟨fun c hc => (h c hc).2, fun c hc => (h c (List.mem_of_getLast? hc)).1⟩

theorem countCerts_cons (fuel : Nat) {a b c : UInt8} {cert : Bytes} (rest : Bytes) (cl n : Nat)
    (hu : u24 a b c = cert.length) (hc : 0 < cert.length + rest.length) (hcl : 0 < cl) :
    countCerts (fuel + 1) (a :: b :: c :: (cert ++ rest)) cl n
      = countCerts fuel rest (cl - (3 + cert.length)) (n + 1) := by
  have hlen : (a :: b :: c :: (cert ++ rest)).length = 3 + cert.length + rest.length := by
    simp only [List.length_cons, List.length_append]; omega
  rw [countCerts, if_pos hcl, require_ge_pos (by omega)]
  simp only [idx_cons_zero, idx_cons_succ, ok_bind, hu]
  rw [require_ge_pos (by omega)]
  simp only [Nat.add_comm 3, tail_cons_succ, tail_prefix, ok_bind]

theorem sliceCerts_cons (k : Nat) {a b c : UInt8} {cert : Bytes} (rest : Bytes) (hu : u24 a b c = cert.length) :
    sliceCerts (k + 1) (a :: b :: c :: (cert ++ rest)) = (sliceCerts k rest >>= fun r => pure (cert :: r)) := by
  simp only [sliceCerts, idx_cons_zero, idx_cons_succ, ok_bind, hu, Nat.add_comm 3, sub_cons_succ, tail_cons_succ,
    sub_prefix, tail_prefix]

theorem countCerts_body : ∀ (cs : List Bytes) (fuel n : Nat), CertsFit cs → (certBody cs).length < fuel →
    countCerts fuel (certBody cs) (certBody cs).length n = .ok (n + cs.length)
  | [], fuel + 1, n, _, _ => by rw [countCerts, if_neg (show ¬ (certBody []).length > 0 from Nat.lt_irrefl 0)]; rfl
  | c :: cs, fuel + 1, n, hok, hf => by
    obtain ⟨hc, h0, hcs⟩ := hok.of_cons
    have hlen : (certBody (c :: cs)).length = 3 + c.length + (certBody cs).length := by
      simp only [certBody_cons, List.length_cons, List.length_append]; omega
    rw [hlen, certBody_cons, countCerts_cons fuel _ _ n (u24_bytes _ hc) h0 (by omega),
      show 3 + c.length + (certBody cs).length - (3 + c.length) = (certBody cs).length by omega,
      countCerts_body cs fuel (n + 1) hcs (by omega), List.length_cons, Nat.add_right_comm, Nat.add_assoc]

theorem sliceCerts_body : ∀ cs : List Bytes, (∀ c ∈ cs, c.length < 16777216) →
    sliceCerts cs.length (certBody cs) = .ok cs
  | [], _ => rfl
  | c :: cs, hok => by
    rw [certBody_cons, List.length_cons, sliceCerts_cons _ _ (u24_bytes _ (hok c List.mem_cons_self)),
      sliceCerts_body cs fun x hx => hok x (List.mem_cons_of_mem _ hx)]
    rfl

theorem umCertificate_rt (cs : List Bytes) (hok : CertsFit cs) (hl : (certBody cs).length + 3 < 16777216) :
    umCertificate (mCertificate cs) = .ok cs := by
  unfold mCertificate len3
  simp only [List.cons_append, List.nil_append]
  generalize byte2 (3 + (certBody cs).length) = a2; generalize byte1 (3 + (certBody cs).length) = a1
  generalize byte0 (3 + (certBody cs).length) = a0
  rw [umCertificate, require_ge_pos (by simp only [List.length_cons]; omega)]
  simp only [idx_cons_zero, idx_cons_succ, tail_cons_succ, tail_zero, ok_bind,
    u24_bytes _ (show (certBody cs).length < 16777216 by omega)]
  rw [require_pos (by simp), countCerts_body cs _ 0 hok (Nat.lt_succ_self _), ok_bind,
    Nat.zero_add, sliceCerts_body cs hok.lt]

/-- marshal writes at most 255 bytes of the name -/
theorem umNextProto_rt (p : Bytes) : umNextProto (mNextProto p) = .ok (p.take 255) := by
  unfold mNextProto len3
  have hl : (if p.length > 255 then 255 else p.length) = (p.take 255).length := by
    rw [List.length_take]; split <;> omega
  have hq : p.take (p.take 255).length = p.take 255 := by
    rw [List.length_take]; exact List.take_eq_take_min.symm
  have hp : (p.take 255).length ≤ 255 := by rw [List.length_take]; omega
  simp only [hl, hq, List.cons_append, List.nil_append, List.append_assoc]
  generalize p.take 255 = q at hp ⊢
  -- marshal pads to a multiple of 32: `hpad` gives `pad ≤ 32`; the parser ignores the three length bytes
  generalize hpad : 32 - (q.length + 2) % 32 = pad
  generalize byte2 (q.length + pad + 2) = l2
  generalize byte1 (q.length + pad + 2) = l1
  generalize byte0 (q.length + pad + 2) = l0
  rw [umNextProto, require_ge_pos (by simp only [List.length_cons]; omega)]
  simp only [tail_cons_succ, tail_zero, idx_cons_zero, ok_bind, byte0_toNat_le _ hp]
  rw [require_ge_pos (by simp), sub_prefix, ok_bind, tail_prefix, ok_bind, require_ge_pos (by simp)]
  simp only [idx_cons_zero, tail_cons_succ, tail_zero, ok_bind, byte0_toNat_le _ (show pad ≤ 255 by omega)]
  rw [require_pos (by simp)]
  rfl

/-- a status type other than 1 (OCSP) carries no response on the wire -/
theorem umCertificateStatus_rt (t : UInt8) (r : Bytes) (h : t = 1 → r.length + 4 < 16777216) :
    umCertificateStatus (mCertificateStatus t r) = .ok (t, if t = 1 then r else []) := by
  rw [umCertificateStatus, mCertificateStatus]
  by_cases ht : t = 1
  · subst ht
    rw [if_pos rfl, len3, len3, require_ge_pos (by simp)]
    simp only [List.cons_append, List.nil_append, idx_cons_zero, idx_cons_succ, ok_bind, if_true, tail_cons_succ,
      tail_zero, u24_bytes _ (show r.length < 16777216 by have := h rfl; omega)]
    rw [require_ge_pos (by simp), require_pos (by simp; omega)]
    rfl
  · rw [if_neg ht, require_ge_pos (by simp)]
    simp only [idx_cons_zero, idx_cons_succ, ok_bind, if_neg ht]
    rfl

end BfeVerif.C45
