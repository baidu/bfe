import BfeVerif.C45.HelloRt
/-! C45 — round trip of clientHello: suites and compression methods, then one `Runs` lemma per extension. -/
namespace BfeVerif.C45

/-- the bookkeeping before the switch: `chExt e d l s` is `chSwitch e d l (addId e s)` by definition -/
def addId (e : U16) (s : ClientHello) : ClientHello := { s with extensionIds := s.extensionIds ++ [e] }

theorem pairsBody_length (cs : List U16) : (len2 (2 * cs.length) ++ flatPairs cs).length = 2 * cs.length + 2 := by
  rw [List.length_append, flatPairs_length, Nat.add_comm]; rfl

/-- supported_curves and signature_algorithms are read by the same steps; their parsers differ in the checks `g₁`, `g₂` only -/
theorem pairsExt_rt {β : Type} (cs : List U16) (rest : Bytes) (hn : 2 * cs.length < 65536)
    {g₁ : Bool} {g₂ : UInt8 → UInt8 → Bool} (k : List U16 → β) (h₁ : g₁ = true)
    (h₂ : ∀ a b, u16 a b = 2 * cs.length → g₂ a b = true) :
    (do require g₁
        let a ← idx (len2 (2 * cs.length) ++ flatPairs cs ++ rest) 0
        let b ← idx (len2 (2 * cs.length) ++ flatPairs cs ++ rest) 1
        require (g₂ a b)
        let d ← tail (len2 (2 * cs.length) ++ flatPairs cs ++ rest) 2
        let l ← readPairs (u16 a b / 2) d
        pure (k l)) = .ok (k cs) := by
  rw [require_pos h₁]
  simp only [len2, List.cons_append, List.nil_append, idx_cons_zero, idx_cons_succ, tail_cons_succ, tail_zero, ok_bind]
  rw [require_pos (h₂ _ _ (u16_bytes _ hn)), u16_bytes _ hn, Nat.mul_div_cancel_left _ (by omega : 0 < 2), readPairs_flat]
  rfl

theorem chBody_rt (suites : List U16) (comp rest : Bytes) (hs : 2 * suites.length < 65536) (hc : comp.length ≤ 255) :
    chBody (len2 (2 * suites.length) ++ flatPairs suites ++ byte0 comp.length :: comp ++ rest)
      = .ok (suites, comp, rest) := by
  simp only [len2, List.cons_append, List.nil_append, List.append_assoc]
  have hlen : (byte1 (2 * suites.length) :: byte0 (2 * suites.length) ::
      (flatPairs suites ++ byte0 comp.length :: (comp ++ rest))).length
        = 2 + 2 * suites.length + (1 + comp.length + rest.length) := by
    simp only [List.length_cons, List.length_append, flatPairs_length]; omega
  rw [chBody, require_ge_pos (by omega)]
  simp only [idx_cons_zero, idx_cons_succ, ok_bind, u16_bytes _ hs]
  rw [require_pos (by simp only [Bool.not_eq_true', Bool.or_eq_false_iff, beq_eq_false_iff_ne, decide_eq_false_iff_not]; omega),
    readSuites_eq, Nat.mul_div_cancel_left _ (by omega : 0 < 2)]
  simp only [Nat.mul_zero, List.drop_succ_cons, List.drop_zero, readPairs_flat, ok_bind, Nat.add_comm 2,
    tail_cons_succ, tail_drop (flatPairs_length suites)]
  rw [require_ge_pos (by simp), idx_cons_zero, ok_bind, byte0_toNat_le _ hc,
    require_ge_pos (by simp only [List.length_cons, List.length_append]; omega)]
  simp only [Nat.add_comm 1, sub_cons_succ, tail_cons_succ, sub_prefix, tail_prefix, ok_bind]
  rfl

/-- `secureRenegotiation` comes from the SCSV suite alone: the renegotiation_info extension that marshal writes (0xff01)
    is not the one unmarshal tests (0xff02) -/
def chParsedBack (m : ClientHello) : ClientHello :=
  { m with secureRenegotiation := hasScsv m.cipherSuites, padding := false, extensionIds := chIds m }

/-! As for serverHello, with the id appended; composed along `chExts`, the last state is `chParsedBack m` by `rfl`. -/

section chRuns
variable (s : ClientHello)

theorem chRuns_npn (b : Bool) (h0 : s.nextProtoNeg = false) :
    Runs chExt (if b = true then encExt (0x33, 0x74) [] else []) s
      { s with nextProtoNeg := b, extensionIds := s.extensionIds ++ if b = true then [(0x33, 0x74)] else [] } :=
  runs_flag (fun b => { s with nextProtoNeg := b, extensionIds := s.extensionIds ++ if b = true then [(0x33, 0x74)] else [] })
    b (by decide) (fun rest => by simp [chExt, chSwitch, chNPN, require_bind])
    (by simp only [Bool.false_eq_true, if_false, List.append_nil]; rw [← h0])

theorem chRuns_sni (name : Bytes) (hn : name.length + 5 < 65536) (h0 : s.serverName = []) :
    Runs chExt (if name.length > 0 then
        encExt (0, 0) (len2 (name.length + 3) ++ [0] ++ len2 name.length ++ name) else []) s
      { s with serverName := name, extensionIds := s.extensionIds ++ if name.length > 0 then [(0, 0)] else [] } := by
  have hl : (len2 (name.length + 3) ++ [0] ++ len2 name.length ++ name).length = name.length + 5 := by
    simp only [len2, List.length_append, List.length_cons, List.length_nil]; omega
  refine runs_opt (s₁ := { addId (0, 0) s with serverName := name }) (by omega) (fun _ rest => ?_) ?_
  · show chSNI _ _ (addId (0, 0) s) = _
    rw [hl, chSNI, require_ge_pos (by omega)]
    simp only [len2, List.cons_append, List.nil_append, idx_cons_zero, idx_cons_succ, tail_cons_succ,
      tail_zero, ok_bind, u16_bytes _ (show name.length + 3 < 65536 by omega)]
    rw [sniLoop, require_ge_pos (by simp only [List.length_cons]; omega)]
    simp only [idx_cons_zero, idx_cons_succ, tail_cons_succ, tail_zero, ok_bind,
      u16_bytes _ (show name.length < 65536 by omega)]
    rw [require_ge_pos (by simp), if_true, sub_prefix]
    rfl
  · cases name
    · show s = { s with serverName := [], extensionIds := s.extensionIds ++ [] }
      rw [List.append_nil, ← h0]
    · rfl

theorem chRuns_ocsp (b : Bool) (h0 : s.ocspStapling = false) :
    Runs chExt (if b = true then encExt (0, 5) [1, 0, 0, 0, 0] else []) s
      { s with ocspStapling := b, extensionIds := s.extensionIds ++ if b = true then [(0, 5)] else [] } :=
  runs_flag (fun b => { s with ocspStapling := b, extensionIds := s.extensionIds ++ if b = true then [(0, 5)] else [] })
    b (by decide) (fun rest => by simp [chExt, chSwitch, chOCSP])
    (by simp only [Bool.false_eq_true, if_false, List.append_nil]; rw [← h0])

theorem chRuns_curves (cs : List U16) (hn : 2 + 2 * cs.length < 65536) (h0 : s.supportedCurves = []) :
    Runs chExt (if cs.length > 0 then encExt (0, 10) (len2 (2 * cs.length) ++ flatPairs cs) else []) s
      { s with supportedCurves := cs, extensionIds := s.extensionIds ++ if cs.length > 0 then [(0, 10)] else [] } := by
  refine runs_opt (s₁ := { addId (0, 10) s with supportedCurves := cs }) (by rw [pairsBody_length]; omega)
    (fun _ rest => ?_) ?_
  · exact pairsExt_rt cs rest (by omega) _ (by rw [pairsBody_length]; simp) fun a b h => by
      rw [pairsBody_length, h]; simp
  · cases cs
    · show s = { s with supportedCurves := [], extensionIds := s.extensionIds ++ [] }
      rw [List.append_nil, ← h0]
    · rfl

theorem chRuns_points (ps : Bytes) (hn : ps.length ≤ 255) (h0 : s.supportedPoints = []) :
    Runs chExt (if ps.length > 0 then encExt (0, 11) (byte0 ps.length :: ps) else []) s
      { s with supportedPoints := ps, extensionIds := s.extensionIds ++ if ps.length > 0 then [(0, 11)] else [] } := by
  refine runs_opt (s₁ := { addId (0, 11) s with supportedPoints := ps }) (by rw [List.length_cons]; omega)
    (fun _ rest => ?_) ?_
  · show chPoints _ _ (addId (0, 11) s) = _
    rw [chPoints, require_ge_pos (by simp)]
    simp only [List.cons_append, List.length_cons, idx_cons_zero, tail_cons_succ, tail_zero, ok_bind,
      byte0_toNat_le _ hn]
    rw [require_pos (by simp), List.take_left, List.length_append, Nat.sub_eq_zero_of_le (Nat.le_add_right _ _)]
    simp [addId]
  · cases ps
    · show s = { s with supportedPoints := [], extensionIds := s.extensionIds ++ [] }
      rw [List.append_nil, ← h0]
    · rfl

theorem chRuns_ticket (b : Bool) (t : Bytes) (hn : t.length < 65536) (hb : b = true ∨ t = [])
    (h0 : s.ticketSupported = false) (h1 : s.sessionTicket = []) :
    Runs chExt (if b = true then encExt (0, 35) t else []) s
      { s with ticketSupported := b, sessionTicket := t,
               extensionIds := s.extensionIds ++ if b = true then [(0, 35)] else [] } := by
  refine runs_opt (s₁ := { addId (0, 35) s with ticketSupported := true, sessionTicket := t }) hn
    (fun _ rest => ?_) ?_
  · simp [chExt, chSwitch, chTicket, addId]
  · cases b
    · rw [hb.resolve_left Bool.false_ne_true]
      show s = { s with ticketSupported := false, sessionTicket := [], extensionIds := s.extensionIds ++ [] }
      rw [List.append_nil, ← h0, ← h1]
    · rfl

theorem chRuns_sigs (cs : List U16) (hn : 2 + 2 * cs.length < 65536) (h0 : s.signatureAndHashes = []) :
    Runs chExt (if cs.length > 0 then encExt (0, 13) (len2 (2 * cs.length) ++ flatPairs cs) else []) s
      { s with signatureAndHashes := cs, extensionIds := s.extensionIds ++ if cs.length > 0 then [(0, 13)] else [] } := by
  refine runs_opt (s₁ := { addId (0, 13) s with signatureAndHashes := cs }) (by rw [pairsBody_length]; omega)
    (fun _ rest => ?_) ?_
  · exact pairsExt_rt cs rest (by omega) _ (by rw [pairsBody_length]; simp) fun a b h => by
      rw [pairsBody_length, h]; simp
  · cases cs
    · show s = { s with signatureAndHashes := [], extensionIds := s.extensionIds ++ [] }
      rw [List.append_nil, ← h0]
    · rfl

/-- the switch does not know 0xff01: only the id is recorded -/
theorem chRuns_reneg (b : Bool) :
    Runs chExt (if b = true then encExt (0xff, 0x01) [0] else []) s
      { s with extensionIds := s.extensionIds ++ if b = true then [(0xff, 0x01)] else [] } :=
  runs_flag (fun b => { s with extensionIds := s.extensionIds ++ if b = true then [(0xff, 0x01)] else [] }) b (by decide) (fun rest => by simp [chExt, chSwitch])
    (by simp only [Bool.false_eq_true, if_false, List.append_nil])

theorem chRuns_alpn (ps : List Bytes) (hok : strsOK ps = true) (hn : (flatStrings ps).length + 2 < 65536)
    (h0 : s.alpnProtocols = []) :
    Runs chExt (if ps.length > 0 then encExt (0, 16) (len2 (flatStrings ps).length ++ flatStrings ps) else []) s
      { s with alpnProtocols := ps, extensionIds := s.extensionIds ++ if ps.length > 0 then [(0, 16)] else [] } := by
  have hl : (len2 (flatStrings ps).length ++ flatStrings ps).length = (flatStrings ps).length + 2 := by
    simp only [len2, List.length_append, List.length_cons, List.length_nil]; omega
  refine runs_opt (s₁ := { addId (0, 16) s with alpnProtocols := ps }) (by omega) (fun _ rest => ?_) ?_
  · show chALPN _ _ (addId (0, 16) s) = _
    rw [hl, chALPN, require_ge_pos (by omega)]
    simp only [len2, List.cons_append, List.nil_append, idx_cons_zero, idx_cons_succ, sub_cons_succ, sub_prefix, ok_bind,
      u16_bytes _ (show (flatStrings ps).length < 65536 by omega)]
    rw [require_pos (by simp), readStrings_flat ps _ hok (Nat.lt_succ_self _)]
    show Res.ok { addId (0, 16) s with alpnProtocols := s.alpnProtocols ++ ps } = _
    rw [h0]; rfl
  · cases ps
    · show s = { s with alpnProtocols := [], extensionIds := s.extensionIds ++ [] }
      rw [List.append_nil, ← h0]
    · rfl

end chRuns

end BfeVerif.C45
