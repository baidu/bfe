import BfeVerif.C45.Proofs
import BfeVerif.C45.HelloRtCH
import BfeVerif.C45.MoreRt
import BfeVerif.C45.Chunking
/-!
  C45 — TLS handshake messages round-trip and parse safely.

  `C45_total_<msg>` : for EVERY byte string, the model of `unmarshal` never takes an out-of-range
                      slice access (`Res.crash` = Go's index-out-of-range panic).
  `C45_rt_<msg>`    : `unmarshal (marshal m) = ok m` for every message whose lengths fit the wire format and whose
                      fields that the wire form does not carry are at their defaults (clientHello: `chParsedBack m`).
-/
namespace BfeVerif.C45

theorem C45_total_finished (d : Bytes) : umFinished d ≠ .crash := by
  unfold umFinished
  exact require_ge_then fun h4 => tail_ne_crash h4

theorem C45_total_serverKeyExchange (d : Bytes) : umServerKeyExchange d ≠ .crash := by
  unfold umServerKeyExchange
  exact require_ge_then fun h4 => tail_ne_crash h4

theorem C45_total_clientKeyExchange (d : Bytes) : umClientKeyExchange d ≠ .crash := by
  unfold umClientKeyExchange
  exact require_ge_then fun h4 => idx_then (by omega) fun a => idx_then (by omega) fun b =>
    idx_then (by omega) fun c => require_then fun _ => tail_ne_crash h4

theorem C45_total_serverHelloDone (d : Bytes) : umServerHelloDone d ≠ .crash :=
  require_ne_crash _

theorem C45_total_certificateStatus (d : Bytes) : umCertificateStatus d ≠ .crash := by
  unfold umCertificateStatus
  refine require_ge_then fun h5 => idx_then (by omega) fun t => ?_
  split
  · exact require_ge_then fun h8 => idx_then (by omega) fun a => idx_then (by omega) fun b =>
      idx_then (by omega) fun c => require_then fun _ => tail_then (by omega) fun r _ => ok_ne_crash _
  · exact ok_ne_crash _

theorem C45_total_newSessionTicket (d : Bytes) : umNewSessionTicket d ≠ .crash := by
  unfold umNewSessionTicket
  exact require_ge_then fun h10 => idx_then (by omega) fun a => idx_then (by omega) fun b =>
    idx_then (by omega) fun c => require_then fun _ => idx_then (by omega) fun h => idx_then (by omega) fun l =>
    require_then fun _ => tail_ne_crash (by omega)

/-- certificate: the second loop re-reads the lengths without checks; it is safe because the first
    loop validated exactly those accesses (`countCerts_then`). -/
theorem C45_total_certificate (d : Bytes) : umCertificate d ≠ .crash := by
  unfold umCertificate
  exact require_ge_then fun h7 => idx_then (by omega) fun a => idx_then (by omega) fun b =>
    idx_then (by omega) fun c => require_then fun _ => tail_then (by omega) fun body _ =>
    countCerts_then _ _ _ _ _ fun m _ hs => hs

/-- clientHello (all extensions bfe handles: server_name, NPN, status_request, supported_curves, ec_point_formats,
    session_ticket, signature_algorithms, 0xff02, ALPN, padding; unknown ones skipped): no byte string makes
    unmarshal index out of range — including the server_name loop, which walks `data[2:]` beyond the extension. -/
theorem C45_total_clientHello (d : Bytes) : umClientHello d ≠ .crash :=
  bind_ne_crash (helloFixed_total _) fun _ => bind_ne_crash (chBody_total _) fun _ =>
    extBlock_total _ (fun e _ _ _ hl => chSwitch_total hl e _) _ _

theorem C45_total_serverHello (d : Bytes) : umServerHello d ≠ .crash :=
  bind_ne_crash (helloFixed_total _) fun _ => bind_ne_crash (shBody_total _) fun _ =>
    extBlock_total _ (fun e _ _ m hl => shExt_total hl e m) _ _

theorem C45_total_certificateRequest (has : Bool) (d : Bytes) : umCertReq has d ≠ .crash :=
  bind_ne_crash (crHead_total _) fun _ => bind_ne_crash (crSigs_total _ _) fun _ =>
    bind_ne_crash (crCAs_total _) fun _ => ok_ne_crash _

theorem C45_total_nextProto (d : Bytes) : umNextProto d ≠ .crash := by
  unfold umNextProto
  exact require_ge_then fun h5 => tail_then (by omega) fun d4 _ => idx_then (by omega) fun pl =>
    tail_then (by omega) fun d5 _ => require_ge_then fun hl => sub_then (Nat.zero_le _) hl fun proto _ =>
    tail_then hl fun d6 _ => require_ge_then fun h1 => idx_then (by omega) fun padl =>
    tail_then (by omega) fun d7 _ => require_then fun _ => ok_ne_crash _

theorem C45_total_certificateVerify (has : Bool) (d : Bytes) : umCertificateVerify has d ≠ .crash := by
  unfold umCertificateVerify
  refine require_ge_then fun h6 => idx_then (by omega) fun a => idx_then (by omega) fun b =>
    idx_then (by omega) fun c => require_then fun _ => tail_then (by omega) fun d4 _ => ?_
  split
  · exact idx_then (by omega) fun h => idx_then (by omega) fun g => tail_then (by omega) fun d6 _ =>
      require_ge_then fun h2 => idx_then (by omega) fun x => idx_then (by omega) fun y =>
      tail_then (by omega) fun s _ => require_then fun _ => ok_ne_crash _
  · exact require_ge_then fun h2 => idx_then (by omega) fun x => idx_then (by omega) fun y =>
      tail_then (by omega) fun s _ => require_then fun _ => ok_ne_crash _

/-- `Conn.readHandshake` reassembles a message from handshake records; as long as
    no record trips one of readRecord's size rules (≤ 2^14 bytes each, and < 0x3000 while the version is not yet
    known), the bytes it hands to `unmarshal` (or the error: EOF before the message is complete, internal_error for
    a length above 65536) are a function of the concatenated bytes alone — any cutting of the message into records,
    including empty records and cuts inside the 4-byte header, gives the same result. -/
theorem C45_readHandshake_chunking (haveVers : Bool) (records : List Bytes) (hok : recordsOK haveVers records = true) :
    readHandshakeBytes haveVers records = hsSpec records.flatten := by
  have h := readHandshakeStep_spec haveVers records [] hok
  unfold readHandshakeBytes
  cases hr : readHandshakeStep haveVers records [] with
  | error e => rw [hr] at h; exact h.symm
  | ok r => rw [hr] at h; exact h.1.symm

/-- serverHello: every message within the wire limits (`ServerHello.wf`) parses back to itself. -/
theorem C45_rt_serverHello (m : ServerHello) (hwf : m.wf = true) : umServerHello (mServerHello m) = .ok m := by
  -- clauses of `ServerHello.wf` in order: 32-byte random, session id ≤ 32, no NPN names without the flag, names of 1..255
  -- bytes, their size, ALPN name ≤ 255, extensions < 64 KiB
  simp only [ServerHello.wf, Bool.and_eq_true, decide_eq_true_eq, beq_iff_eq, Bool.or_eq_true,
    List.isEmpty_iff] at hwf
  obtain ⟨⟨⟨⟨⟨⟨hr, hs⟩, hnp⟩, hok⟩, hpl⟩, hal⟩, hel⟩ := hwf
  rw [umServerHello, mServerHello, helloFixed_rt _ _ _ _ _ hr hs (by simp), ok_bind, shBody_rt, ok_bind]
  dsimp only
  refine extBlock_extTail hel ?_
  rw [shExts]
  exact runs_append (runs_append (runs_append (runs_append (shRuns_npn _ _ _ hok hpl hnp rfl rfl)
    (shRuns_ocsp _ _ rfl)) (shRuns_ticket _ _ rfl)) (shRuns_reneg _ _ rfl)) (shRuns_alpn _ _ hal rfl)

/-- clientHello, exact: what comes back is the message with the two parse-only fields filled in
    (`extensionIds` in wire order, `padding = false`) and `secureRenegotiation` = "the SCSV suite 0x00ff is listed". -/
theorem C45_rt_clientHello_exact (m : ClientHello) (hwf : m.wf = true) :
    umClientHello (mClientHello m) = .ok (chParsedBack m) := by
  -- clauses of `ClientHello.wf` in order: random, session id, suites, compression, SNI, curves, points, ticket flag,
  -- ticket size, signature algorithms, ALPN names, ALPN size, extensions, SCSV (not needed)
  simp only [ClientHello.wf, Bool.and_eq_true, decide_eq_true_eq, beq_iff_eq, Bool.or_eq_true,
    List.isEmpty_iff] at hwf
  obtain ⟨⟨⟨⟨⟨⟨⟨⟨⟨⟨⟨⟨⟨hr, hs⟩, hsu⟩, hcm⟩, hsn⟩, hcu⟩, hpt⟩, htk⟩, htl⟩, hsg⟩, hok⟩, hal⟩, hel⟩, _⟩ := hwf
  rw [umClientHello, mClientHello, helloFixed_rt _ _ _ _ _ hr hs (by simp [len2]; omega), ok_bind,
    chBody_rt _ _ _ hsu hcm, ok_bind]
  dsimp only
  refine extBlock_extTail hel ?_
  rw [chExts]
  exact runs_append (runs_append (runs_append (runs_append (runs_append (runs_append (runs_append
    (runs_append (chRuns_npn _ _ rfl) (chRuns_sni _ _ hsn rfl)) (chRuns_ocsp _ _ rfl))
    (chRuns_curves _ _ hcu rfl)) (chRuns_points _ _ hpt rfl)) (chRuns_ticket _ _ _ htl htk rfl rfl))
    (chRuns_sigs _ _ hsg rfl)) (chRuns_reneg _ _)) (chRuns_alpn _ _ hok hal rfl)

/-- The full-strength round trip for clientHello: every field that marshal writes is read back.
    Refuted by `C45_witness_clientHello_reneg`. -/
def ClientHelloRoundTrips : Prop :=
  ∀ m : ClientHello, m.wf = true →
    umClientHello (mClientHello m) = .ok { m with padding := false, extensionIds := chIds m }

/-- clientHello round trip for every message whose `secureRenegotiation` flag agrees with the presence of the
    SCSV suite (the only way the parser learns it). -/
theorem C45_rt_clientHello_partial (m : ClientHello) (hwf : m.wf = true)
    (hre : m.secureRenegotiation = hasScsv m.cipherSuites) :
    umClientHello (mClientHello m) = .ok { m with padding := false, extensionIds := chIds m } := by
  rw [C45_rt_clientHello_exact m hwf]
  congr 1
  obtain ⟨vers, random, sid, suites, comp, npn, sni, ocsp, curves, points, tok, ticket, sigs, reneg, alpn, pad, ids⟩ := m
  simp only at hre
  simp [chParsedBack, hre]

def renegHello : ClientHello :=
  { vers := (3, 3), random := List.replicate 32 0, cipherSuites := [(0xc0, 0x2f)], compressionMethods := [0],
    secureRenegotiation := true }

/-- A clientHello that announces secure renegotiation with the
    renegotiation_info extension (as bfe's own client does) comes back with `secureRenegotiation = false`:
    marshal writes extension 0xff01, unmarshal's switch tests `extensionRenegotiationInfo + 1` = 0xff02. -/
theorem C45_witness_clientHello_reneg : ¬ ClientHelloRoundTrips := by
  intro h
  have h1 := h renegHello (by decide)
  rw [C45_rt_clientHello_exact renegHello (by decide)] at h1
  revert h1
  decide

theorem C45_rt_finished (v : Bytes) : umFinished (mFinished v) = .ok v := by
  rw [umFinished, mFinished, require_ge_pos (by simp)]
  simp only [List.cons_append, List.nil_append, tail_cons_succ, tail_zero]

theorem C45_rt_serverKeyExchange (k : Bytes) : umServerKeyExchange (mServerKeyExchange k) = .ok k := by
  rw [umServerKeyExchange, mServerKeyExchange, len3, require_ge_pos (by simp)]
  simp only [List.cons_append, List.nil_append, tail_cons_succ, tail_zero]

theorem C45_rt_clientKeyExchange (c : Bytes) (h : c.length < 16777216) :
    umClientKeyExchange (mClientKeyExchange c) = .ok c := by
  rw [umClientKeyExchange, mClientKeyExchange, len3, require_ge_pos (by simp)]
  simp only [List.cons_append, List.nil_append, idx_cons_zero, idx_cons_succ, ok_bind, u24_bytes _ h, tail_cons_succ,
    tail_zero]
  rw [require_pos (by simp)]

theorem C45_rt_serverHelloDone : umServerHelloDone mServerHelloDone = .ok () := by decide

theorem C45_rt_certificateStatus (t : UInt8) (r : Bytes)
    (h : (t = 1 ∧ r.length + 4 < 16777216) ∨ (t ≠ 1 ∧ r = [])) :
    umCertificateStatus (mCertificateStatus t r) = .ok (t, r) := by
  rcases h with ⟨rfl, hr⟩ | ⟨ht, rfl⟩
  · exact umCertificateStatus_rt 1 r fun _ => hr
  · rw [umCertificateStatus_rt t [] fun h => absurd h ht, if_neg ht]

theorem C45_rt_newSessionTicket (t : Bytes) (h : t.length < 65536) :
    umNewSessionTicket (mNewSessionTicket t) = .ok t := by
  rw [umNewSessionTicket, mNewSessionTicket, len3, len2, require_ge_pos (by simp)]
  simp only [List.cons_append, List.nil_append, idx_cons_zero, idx_cons_succ, ok_bind, tail_cons_succ, tail_zero,
    u24_bytes _ (show 2 + 4 + t.length < 16777216 by omega), u16_bytes _ h]
  rw [require_pos (by simp; omega), require_pos (by simp)]

theorem C45_rt_certificateVerify (has : Bool) (hash sig : UInt8) (s : Bytes) (h : s.length < 65536)
    (h0 : has = false → hash = 0 ∧ sig = 0) :
    umCertificateVerify has (mCertificateVerify has hash sig s) = .ok (hash, sig, s) := by
  rw [umCertificateVerify_rt has hash sig s h]
  cases has
  · obtain ⟨rfl, rfl⟩ := h0 rfl; rfl
  · rfl

theorem C45_rt_nextProto (p : Bytes) (hp : p.length ≤ 255) : umNextProto (mNextProto p) = .ok p := by
  rw [umNextProto_rt, List.take_of_length_le hp]

/-- certificateRequest (1..255 certificate types, signature algorithms only with hasSignatureAndHash, CA names < 64 KiB) -/
theorem C45_rt_certificateRequest (has : Bool) (m : CertReq) (hwf : m.wf has = true) :
    umCertReq has (mCertReq has m) = .ok m := by
  obtain ⟨types, sh, cas⟩ := m
  simp only [CertReq.wf, Bool.and_eq_true, decide_eq_true_eq, Bool.or_eq_true, List.isEmpty_iff] at hwf
  obtain ⟨⟨⟨⟨⟨⟨h0, h255⟩, hhas⟩, hsh⟩, hok⟩, hcl⟩, hL⟩ := hwf
  simp only [mCertReq, len3, List.length_cons, List.length_append, List.append_assoc, List.cons_append,
    List.nil_append] at hL
  simp only [umCertReq, mCertReq, len3, List.append_assoc, List.cons_append, List.nil_append]
  rw [crHead_rt types _ _ _ _ (u24_bytes _ (by simp only [List.length_cons, List.length_append]; omega)) h0 h255
    (by simp only [len2, List.length_append, List.length_cons]; omega), ok_bind, crSigs_rt has sh _ hhas hsh, ok_bind, crCAs_rt cas hok hcl]
  rfl

/-- certificate lists without empty certificates (an empty LAST certificate is rejected by the parser, see below) -/
theorem C45_rt_certificate (cs : List Bytes) (hok : certsOK cs = true) (hl : (certBody cs).length + 3 < 16777216) :
    umCertificate (mCertificate cs) = .ok cs :=
  umCertificate_rt cs (certsOK_fit hok) hl

example : renegHello.wf = true := by decide +kernel
example : ({ random := List.replicate 32 7, nextProtoNeg := true, nextProtos := [[104, 50]], alpnProtocol := [104, 50] } : ServerHello).wf = true := by decide +kernel
example : ({ certificateTypes := [1, 64], signatureAndHashes := [(4, 1)], certificateAuthorities := [[1, 2, 3]] } : CertReq).wf true = true := by decide +kernel
example : umNewSessionTicket (mNewSessionTicket [1, 2, 3]) = .ok [1, 2, 3] := by decide +kernel
example : umCertificate (mCertificate [[1, 2], [3]]) = .ok [[1, 2], [3]] := by decide +kernel
example : umNextProto (mNextProto [104, 50]) = .ok [104, 50] := by decide +kernel
/-- the loop demands `len(d) >= 4` per certificate, so an empty LAST certificate is rejected -/
example : umCertificate (mCertificate [[1], []]) = .rej := by decide +kernel

end BfeVerif.C45
