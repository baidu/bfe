import BfeVerif.C45.HelloProofs
/-! C45 — round trip of serverHello, and what both hellos share: the lists, the fixed part, the extension loop. -/
namespace BfeVerif.C45

theorem readPairs_flat : ∀ (l : List U16) (rest : Bytes), readPairs l.length (flatPairs l ++ rest) = .ok l
  | [], _ => rfl
  | (a, b) :: l, rest => by
    simp only [List.length_cons, flatPairs, List.cons_append, readPairs, idx_cons_zero, idx_cons_succ, ok_bind,
      tail_cons_succ, tail_zero, readPairs_flat l rest, pure_eq]

theorem flatPairs_length : ∀ l : List U16, (flatPairs l).length = 2 * l.length
  | [] => rfl
  | (a, b) :: l => by simp only [flatPairs, List.length_cons, flatPairs_length l]; omega

theorem strsOK_cons {s : Bytes} {l : List Bytes} (h : strsOK (s :: l) = true) :
    0 < s.length ∧ s.length ≤ 255 ∧ strsOK l = true := by
  simpa [strsOK, and_assoc] using h

theorem readStrings_flat : ∀ (l : List Bytes) (fuel : Nat), strsOK l = true → (flatStrings l).length < fuel →
    readStrings fuel (flatStrings l) = .ok l
  | [], fuel + 1, _, _ => by rw [readStrings, if_pos (show (flatStrings []).length = 0 from rfl)]
  | s :: l, fuel + 1, hok, hf => by
    obtain ⟨h0, h255, hl⟩ := strsOK_cons hok
    have hf : (flatStrings l).length < fuel := by
      simp only [flatStrings, List.length_cons, List.length_append] at hf; omega
    rw [flatStrings, List.cons_append, readStrings, if_neg (by simp)]
    simp only [idx_cons_zero, tail_cons_succ, tail_zero, ok_bind, byte0_toNat_le _ h255]
    rw [require_pos (by
      simp only [List.length_append, Bool.not_eq_true', Bool.or_eq_false_iff, decide_eq_false_iff_not]; omega)]
    simp only [sub_prefix, tail_prefix, ok_bind, readStrings_flat l fuel hl hf, pure_eq]

/-- with any sufficient fuel the extension loop over `data` from state `s` ends in `r` -/
def LoopsTo {σ : Type} (h : U16 → Bytes → Nat → σ → Res σ) (data : Bytes) (s : σ) (r : Res σ) : Prop :=
  ∀ fuel, data.length < fuel → extLoop h fuel data s = r

section loop
variable {σ : Type} (h : U16 → Bytes → Nat → σ → Res σ)

theorem loopsTo_nil (s : σ) : LoopsTo h [] s (.ok s)
  | fuel + 1, _ => by rw [extLoop, if_pos (show ([] : Bytes).length = 0 from rfl)]

theorem loopsTo_ext {e : U16} {body rest : Bytes} {s s' : σ} {r : Res σ} (hb : body.length < 65536)
    (hs : h e (body ++ rest) body.length s = .ok s') (hr : LoopsTo h rest s' r) :
    LoopsTo h (encExt e body ++ rest) s r
  | fuel + 1, hf => by
    have hlen : (encExt e body ++ rest).length = 4 + body.length + rest.length := by
      simp only [encExt, len2, List.length_append, List.length_cons, List.length_nil]
    rw [extLoop, if_neg (by omega), require_ge_pos (by omega)]
    simp only [encExt, len2, List.cons_append, List.nil_append, idx_cons_zero, idx_cons_succ, tail_cons_succ,
      tail_zero, ok_bind, u16_bytes _ hb, Prod.eta]
    rw [require_ge_pos (by simp), hs, ok_bind, tail_prefix, ok_bind]
    exact hr fuel (by omega)

/-- the bytes `a` take the loop from `s` to `s'` whatever follows them (`rest`), so that blocks compose (`runs_append`) -/
def Runs (a : Bytes) (s s' : σ) : Prop :=
  ∀ (rest : Bytes) (r : Res σ), LoopsTo h rest s' r → LoopsTo h (a ++ rest) s r

variable {h}

theorem runs_append {a b : Bytes} {s s' s'' : σ} (ha : Runs h a s s') (hb : Runs h b s' s'') :
    Runs h (a ++ b) s s'' := fun rest r hr => by
  rw [List.append_assoc]; exact ha _ _ (hb _ _ hr)

/-- `hs` lets the caller name the state reached -/
theorem runs_opt {c : Prop} [Decidable c] {e : U16} {body : Bytes} {s s₁ s' : σ} (hb : body.length < 65536)
    (hh : c → ∀ rest, h e (body ++ rest) body.length s = .ok s₁) (hs : (if c then s₁ else s) = s') :
    Runs h (if c then encExt e body else []) s s' := fun rest r hr => by
  subst hs
  by_cases hc : c
  · rw [if_pos hc] at hr ⊢; exact loopsTo_ext h hb (hh hc rest) hr
  · rw [if_neg hc] at hr ⊢; exact hr

/-- a flag extension with a fixed body; `set b` is the state with the flag at `b` -/
theorem runs_flag {e : U16} {body : Bytes} {s : σ} (set : Bool → σ) (b : Bool) (hb : body.length < 65536)
    (hh : ∀ rest, h e (body ++ rest) body.length s = .ok (set true)) (h0 : set false = s) :
    Runs h (if b = true then encExt e body else []) s (set b) := by
  refine runs_opt hb (fun _ => hh) ?_
  cases b
  · exact h0.symm
  · rfl

theorem extBlock_extTail {exts : Bytes} {s s' : σ} (hl : exts.length < 65536) (hr : Runs h exts s s') :
    extBlock h (extTail exts) s = .ok s' := by
  have hr := hr [] _ (loopsTo_nil h s')
  rw [List.append_nil] at hr
  unfold extTail
  split
  · obtain rfl : exts = [] := List.eq_nil_of_length_eq_zero ‹_›
    rw [← hr 1 Nat.zero_lt_one, extLoop, extBlock]
    rfl
  · have hlen : (len2 exts.length ++ exts).length = 2 + exts.length := by
      simp only [len2, List.length_append, List.length_cons, List.length_nil]
    rw [extBlock, if_neg (by omega), require_ge_pos (by omega)]
    simp only [len2, List.cons_append, List.nil_append, idx_cons_zero, idx_cons_succ, tail_cons_succ, tail_zero,
      ok_bind, u16_bytes _ hl]
    rw [require_pos (by simp)]
    exact hr _ (Nat.lt_succ_self _)

end loop

theorem helloFixed_rt (typ : UInt8) (vers : U16) (random sid rest : Bytes)
    (hr : random.length = 32) (hs : sid.length ≤ 32) (hrest : 3 ≤ rest.length) :
    helloFixed (helloHead typ vers random sid rest) = .ok (vers, random, sid, rest) := by
  have hrnd : (random ++ List.replicate 32 0).take 32 = random := by rw [← hr, List.take_left]
  unfold helloHead len3
  simp only [hrnd, List.cons_append, List.nil_append, List.append_assoc]
  -- `len(data) < 42`: the head up to an empty session id has 39 bytes, whence `hrest`
  rw [helloFixed, require_ge_pos (by simp only [List.length_cons, List.length_append, hr]; omega)]
  -- the six head bytes are peeled one by one, `random` is stepped over by its length (`hr`)
  simp only [idx_cons_succ, idx_cons_zero, sub_cons_succ, sub_take hr, idx_skip hr, ok_bind,
    byte0_toNat_le _ (Nat.le_trans hs (by omega))]
  rw [require_pos (by
    simp only [List.length_cons, List.length_append, hr, Bool.not_eq_true', Bool.or_eq_false_iff, decide_eq_false_iff_not]
    omega)]
  simp only [Nat.add_comm 39, sub_cons_succ, tail_cons_succ, sub_skip hr, tail_skip hr, sub_prefix, tail_prefix, ok_bind]
  rfl

theorem shBody_rt (c1 c2 cm : UInt8) (rest : Bytes) : shBody (c1 :: c2 :: cm :: rest) = .ok ((c1, c2), cm, rest) := by
  rw [shBody, require_ge_pos (by simp only [List.length_cons]; omega)]
  simp only [idx_cons_zero, idx_cons_succ, tail_cons_succ, tail_zero, ok_bind, pure_eq]

/-! One lemma per optional extension, for a state `s` in which its fields are still at the default: an absent extension
    leaves the defaults, which is what the message has. -/

section shRuns
variable (s : ServerHello)

theorem shRuns_npn (b : Bool) (ps : List Bytes) (hok : strsOK ps = true) (hl : (flatStrings ps).length < 65536)
    (hb : b = true ∨ ps = []) (h0 : s.nextProtoNeg = false) (h1 : s.nextProtos = []) :
    Runs shExt (if b = true then encExt (0x33, 0x74) (flatStrings ps) else []) s
      { s with nextProtoNeg := b, nextProtos := ps } := by
  refine runs_opt (s₁ := { s with nextProtoNeg := true, nextProtos := ps }) hl (fun _ rest => ?_) ?_
  · rw [shExt, if_pos rfl, shNPN, sub_prefix, ok_bind, readStrings_flat ps _ hok (Nat.lt_succ_self _), h1]
    rfl
  · cases b
    · rw [hb.resolve_left Bool.false_ne_true]
      show s = { s with nextProtoNeg := false, nextProtos := [] }
      rw [← h0, ← h1]
    · rfl

theorem shRuns_ocsp (b : Bool) (h0 : s.ocspStapling = false) :
    Runs shExt (if b = true then encExt (0, 5) [] else []) s { s with ocspStapling := b } :=
  runs_flag (fun b => { s with ocspStapling := b }) b (by decide) (fun rest => by simp [shExt, shOCSP, require_bind])
    (by rw [← h0])

theorem shRuns_ticket (b : Bool) (h0 : s.ticketSupported = false) :
    Runs shExt (if b = true then encExt (0, 35) [] else []) s { s with ticketSupported := b } :=
  runs_flag (fun b => { s with ticketSupported := b }) b (by decide) (fun rest => by simp [shExt, shTicket, require_bind])
    (by rw [← h0])

theorem shRuns_reneg (b : Bool) (h0 : s.secureRenegotiation = false) :
    Runs shExt (if b = true then encExt (0xff, 0x01) [0] else []) s { s with secureRenegotiation := b } :=
  runs_flag (fun b => { s with secureRenegotiation := b }) b (by decide)
    (fun rest => by simp [shExt, shReneg, require_bind]) (by rw [← h0])

theorem shRuns_alpn (name : Bytes) (hn : name.length ≤ 255) (h0 : s.alpnProtocol = []) :
    Runs shExt (if name.length > 0 then
        encExt (0, 16) (len2 (name.length + 1) ++ byte0 name.length :: name) else []) s
      { s with alpnProtocol := name } := by
  have hlen : (len2 (name.length + 1) ++ byte0 name.length :: name).length = name.length + 3 := by
    simp only [len2, List.length_append, List.length_cons, List.length_nil]; omega
  refine runs_opt (s₁ := { s with alpnProtocol := name }) (by omega) (fun _ rest => ?_) ?_
  · show shALPN _ _ s = _
    rw [shALPN, sub_prefix, ok_bind, require_ge_pos (by omega), hlen]
    simp only [len2, List.cons_append, List.nil_append, idx_cons_zero, idx_cons_succ, tail_cons_succ, tail_zero,
      ok_bind, u16_bytes _ (show name.length + 1 < 65536 by omega), byte0_toNat_le _ hn, List.length_cons]
    rw [require_pos (by simp), require_pos (by simp)]
    rfl
  · cases name
    · show s = { s with alpnProtocol := [] }
      rw [← h0]
    · rfl

end shRuns

end BfeVerif.C45
