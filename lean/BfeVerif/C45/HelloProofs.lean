import BfeVerif.C45.Hello
import BfeVerif.C45.Proofs
/-! C45 — parse safety: each parser is walked once with the rules of `Proofs.lean`, the bounds coming from the
    `require`s passed on the way. -/
namespace BfeVerif.C45

theorem readPairs_total (n : Nat) (d : Bytes) (h : 2 * n ≤ d.length) : readPairs n d ≠ .crash := by
  fun_induction readPairs n d with  -- case2: the loop body
  | case1 => exact ok_ne_crash _
  | case2 n d ih =>
    exact idx_then (by omega) fun a => idx_then (by omega) fun b => tail_then (by omega) fun d' _ =>
      bind_ne_crash (ih d' (by omega)) fun r => ok_ne_crash _

theorem readSuites_eq (data : Bytes) (i n : Nat) : readSuites data i n = readPairs n (data.drop (2 + 2 * i)) := by
  fun_induction readSuites data i n with  -- case2: the loop body
  | case1 => rfl
  | case2 i n ih =>
    have e2 : 2 + 2 * i + 1 = 3 + 2 * i := by omega
    have e3 : 2 + 2 * i + 2 = 2 + 2 * (i + 1) := by omega
    rw [readPairs, ih, idx_drop, idx_drop, Nat.add_zero, e2]
    -- both sides read the same two bytes; where the second is in range, `tail _ 2` of the streaming loop cannot fail
    by_cases h : 3 + 2 * i < data.length
    · simp only [tail_bind, List.length_drop, List.drop_drop, show 2 ≤ data.length - (2 + 2 * i) by omega, if_true, e3,
        Nat.add_zero]
    · simp only [idx_bind, h, dite_false, dite_eq_ite, ite_self]

theorem readStrings_total (fuel : Nat) (d : Bytes) : readStrings fuel d ≠ .crash := by
  fun_induction readStrings fuel d with  -- case3: the loop body
  | case3 fuel d _ ih =>
    refine idx_then (by omega) fun l => tail_then (by omega) fun d1 _ => require_then fun hc => ?_
    have hl : l.toNat ≤ d1.length := by simp at hc; omega
    exact sub_then (Nat.zero_le _) hl fun s _ => tail_then hl fun d2 _ =>
      bind_ne_crash (ih d2) fun r => ok_ne_crash _
  | case1 | case2 => exact ok_ne_crash _

theorem sniLoop_total (n : Nat) (d : Bytes) : sniLoop n d ≠ .crash := by
  fun_induction sniLoop n d with  -- case2: the loop body
  | case1 => exact ok_ne_crash _
  | case2 n d ih =>
    refine require_ge_then fun h3 => idx_then (by omega) fun t => idx_then (by omega) fun a =>
      idx_then (by omega) fun b => tail_then (by omega) fun d3 _ => require_ge_then fun hl => ?_
    split
    · exact sub_then (Nat.zero_le _) hl fun name _ => ok_ne_crash _
    · exact tail_then hl fun d' _ => ih d'

theorem readCAs_total (fuel : Nat) (d : Bytes) : readCAs fuel d ≠ .crash := by
  fun_induction readCAs fuel d with  -- case2: the loop body
  | case2 fuel d _ ih =>
    exact require_ge_then fun h2 => idx_then (by omega) fun a => idx_then (by omega) fun b =>
      tail_then (by omega) fun c2 _ => require_ge_then fun hl => sub_then (Nat.zero_le _) hl fun ca _ =>
      tail_then hl fun rest _ => bind_ne_crash (ih rest) fun r => ok_ne_crash _
  | case1 | case3 => exact ok_ne_crash _

theorem extLoop_total {σ : Type} (h : U16 → Bytes → Nat → σ → Res σ)
    (hh : ∀ e data length s, length ≤ data.length → h e data length s ≠ .crash) (fuel : Nat) (data : Bytes) (s : σ) :
    extLoop h fuel data s ≠ .crash := by
  fun_induction extLoop h fuel data s with  -- case3: the loop body
  | case3 fuel d s _ ih =>
    exact require_ge_then fun h4 => idx_then (by omega) fun e1 => idx_then (by omega) fun e2 =>
      idx_then (by omega) fun l1 => idx_then (by omega) fun l2 => tail_then (by omega) fun d4 _ =>
      require_ge_then fun hl => bind_ne_crash (hh _ _ _ _ hl) fun s' => tail_then hl fun rest _ => ih s' rest
  | case1 | case2 => exact ok_ne_crash _

theorem extBlock_total {σ : Type} (h : U16 → Bytes → Nat → σ → Res σ)
    (hh : ∀ e data length s, length ≤ data.length → h e data length s ≠ .crash) (data : Bytes) (s : σ) :
    extBlock h data s ≠ .crash := by
  unfold extBlock
  split
  · exact ok_ne_crash _
  · exact require_ge_then fun h2 => idx_then (by omega) fun a => idx_then (by omega) fun b =>
      tail_then (by omega) fun d2 _ => require_then fun _ => extLoop_total h hh _ _ _

theorem chNPN_total (length : Nat) (m : ClientHello) : chNPN length m ≠ .crash :=
  require_then fun _ => ok_ne_crash _

section handlers
-- `hl` is what `extLoop` has checked before it calls a handler
variable {data : Bytes} {length : Nat} (hl : length ≤ data.length)
include hl

theorem chSNI_total (m : ClientHello) : chSNI data length m ≠ .crash := by
  unfold chSNI
  exact require_ge_then fun h2 => idx_then (by omega) fun a => idx_then (by omega) fun b =>
    tail_then (by omega) fun d _ => bind_ne_crash (sniLoop_total _ d) fun r => by
      cases r <;> exact ok_ne_crash _

theorem chOCSP_total (m : ClientHello) : chOCSP data length m ≠ .crash := by
  unfold chOCSP
  split
  · exact idx_then (by omega) fun t => ok_ne_crash _
  · exact ok_ne_crash _

theorem chCurves_total (m : ClientHello) : chCurves data length m ≠ .crash := by
  unfold chCurves
  refine require_ge_then fun h2 => idx_then (by omega) fun a => idx_then (by omega) fun b => require_then fun hc => ?_
  have hc : length = u16 a b + 2 := by simp at hc; exact hc.2
  exact tail_then (by omega) fun d _ => bind_ne_crash (readPairs_total _ d (by omega)) fun cs => ok_ne_crash _

theorem chPoints_total (m : ClientHello) : chPoints data length m ≠ .crash := by
  unfold chPoints
  exact require_ge_then fun h1 => idx_then (by omega) fun l => require_then fun _ =>
    tail_then (by omega) fun d _ => ok_ne_crash _

theorem chTicket_total (m : ClientHello) : chTicket data length m ≠ .crash := by
  unfold chTicket
  exact sub_then (Nat.zero_le _) hl fun t _ => ok_ne_crash _

theorem chSigs_total (m : ClientHello) : chSigs data length m ≠ .crash := by
  unfold chSigs
  refine require_then fun hc => ?_
  have hc : 2 ≤ length := by simp at hc; omega
  refine idx_then (by omega) fun a => idx_then (by omega) fun b => require_then fun hd => ?_
  have hd : u16 a b = length - 2 := by simpa using hd
  exact tail_then (by omega) fun d _ => bind_ne_crash (readPairs_total _ d (by omega)) fun sh => ok_ne_crash _

theorem chReneg_total (m : ClientHello) : chReneg data length m ≠ .crash := by
  unfold chReneg
  refine require_then fun hc => ?_
  have hc : length = 1 := by simpa using hc
  exact idx_then (by omega) fun z => require_then fun _ => ok_ne_crash _

theorem chALPN_total (m : ClientHello) : chALPN data length m ≠ .crash := by
  unfold chALPN
  exact require_ge_then fun h2 => idx_then (by omega) fun a => idx_then (by omega) fun b => require_then fun _ =>
    sub_then h2 hl fun d _ => bind_ne_crash (readStrings_total _ d) fun ps => ok_ne_crash _

theorem chSwitch_total (e : U16) (m : ClientHello) : chSwitch e data length m ≠ .crash := by
  unfold chSwitch  -- in the order of the switch
  exact ite_ne_crash (chSNI_total hl _) <| ite_ne_crash (chNPN_total _ _) <|
    ite_ne_crash (chOCSP_total hl _) <| ite_ne_crash (chCurves_total hl _) <| ite_ne_crash (chPoints_total hl _) <|
    ite_ne_crash (chTicket_total hl _) <| ite_ne_crash (chSigs_total hl _) <| ite_ne_crash (chReneg_total hl _) <|
    ite_ne_crash (chALPN_total hl _) <| ite_ne_crash (ok_ne_crash _) (ok_ne_crash _)

theorem shNPN_total (m : ServerHello) : shNPN data length m ≠ .crash := by
  unfold shNPN
  exact sub_then (Nat.zero_le _) hl fun d _ => bind_ne_crash (readStrings_total _ d) fun ps => ok_ne_crash _

theorem shReneg_total (m : ServerHello) : shReneg data length m ≠ .crash := by
  unfold shReneg
  refine require_then fun hc => ?_
  have hc : length = 1 := by simpa using hc
  exact idx_then (by omega) fun z => require_then fun _ => ok_ne_crash _

theorem shALPN_total (m : ServerHello) : shALPN data length m ≠ .crash := by
  unfold shALPN
  exact sub_then (Nat.zero_le _) hl fun d _ => require_ge_then fun h3 => idx_then (by omega) fun a =>
    idx_then (by omega) fun b => require_then fun _ => tail_then (by omega) fun d2 _ =>
    idx_then (by omega) fun l => require_then fun _ => tail_then (by omega) fun p _ => ok_ne_crash _

theorem shExt_total (e : U16) (m : ServerHello) : shExt e data length m ≠ .crash := by
  unfold shExt shOCSP shTicket  -- in the order of the switch
  exact ite_ne_crash (shNPN_total hl _) <| ite_ne_crash (require_then fun _ => ok_ne_crash _) <|
    ite_ne_crash (require_then fun _ => ok_ne_crash _) <| ite_ne_crash (shReneg_total hl _) <|
    ite_ne_crash (shALPN_total hl _) (ok_ne_crash _)

end handlers

theorem helloFixed_total (data : Bytes) : helloFixed data ≠ .crash := by
  unfold helloFixed
  refine require_ge_then fun h42 => idx_then (by omega) fun v1 => idx_then (by omega) fun v2 =>
    sub_then (by omega) (by omega) fun random _ => idx_then (by omega) fun sl => require_then fun hc => ?_
  have hc : 39 + sl.toNat ≤ data.length := by simp at hc; omega
  exact sub_then (by omega) hc fun sid _ => tail_then hc fun rest _ => ok_ne_crash _

theorem chBody_total (data : Bytes) : chBody data ≠ .crash := by
  unfold chBody
  refine require_ge_then fun h2 => idx_then (by omega) fun c1 => idx_then (by omega) fun c2 => require_then fun hc => ?_
  have hc : 2 + u16 c1 c2 ≤ data.length := by simp at hc; omega
  refine bind_ne_crash ?_ fun suites => tail_then hc fun d _ => require_ge_then fun h1 =>
    idx_then (by omega) fun cml => require_ge_then fun hl => sub_then (by omega) hl fun comp _ =>
    tail_then hl fun rest _ => ok_ne_crash _
  rw [readSuites_eq]
  exact readPairs_total _ _ (by rw [List.length_drop]; omega)

theorem shBody_total (data : Bytes) : shBody data ≠ .crash := by
  unfold shBody
  exact require_ge_then fun h3 => idx_then (by omega) fun c1 => idx_then (by omega) fun c2 =>
    idx_then (by omega) fun cm => tail_then (by omega) fun rest _ => ok_ne_crash _

theorem crHead_total (data : Bytes) : crHead data ≠ .crash := by
  unfold crHead
  refine require_ge_then fun h5 => idx_then (by omega) fun a => idx_then (by omega) fun b =>
    idx_then (by omega) fun c => require_then fun _ => idx_then (by omega) fun nt =>
    tail_then (by omega) fun d _ => require_then fun hc => ?_
  have hc : nt.toNat ≤ d.length := by simp at hc; omega
  exact sub_then (Nat.zero_le _) hc fun types _ => tail_then hc fun rest _ => ok_ne_crash _

theorem crSigs_total (has : Bool) (data : Bytes) : crSigs has data ≠ .crash := by
  unfold crSigs
  split
  · exact require_ge_then fun h2 => idx_then (by omega) fun x => idx_then (by omega) fun y =>
      tail_then (by omega) fun d _ => require_then fun _ => require_ge_then fun hl =>
      bind_ne_crash (readPairs_total _ d (by omega)) fun sh => tail_then (by omega) fun rest _ => ok_ne_crash _
  · exact ok_ne_crash _

theorem crCAs_total (data : Bytes) : crCAs data ≠ .crash := by
  unfold crCAs
  exact require_ge_then fun h2 => idx_then (by omega) fun x => idx_then (by omega) fun y =>
    tail_then (by omega) fun d _ => require_ge_then fun hl => sub_then (Nat.zero_le _) hl fun cas _ =>
    tail_then hl fun d' _ => bind_ne_crash (readCAs_total _ cas) fun l => require_then fun _ => ok_ne_crash _

end BfeVerif.C45
