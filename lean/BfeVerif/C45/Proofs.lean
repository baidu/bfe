import BfeVerif.C45.Model
/-! C45 — two rule sets over `Res`: the equations by which a parser is run on the bytes a marshaller wrote (round trips),
    then the rules by which it never reaches `crash` on any bytes. -/
namespace BfeVerif.C45

/- Not by `rfl`: `simp` would use it as a definitional step, which leaves no trace in the proof term, and the kernel
   then finds every step of a long chain of binds again by unfolding, very slowly.  (`rej_bind`, `crash_bind` end a
   chain: harmless.) -/
@[simp] theorem ok_bind {α β : Type} (a : α) (f : α → Res β) : (Res.ok a >>= f) = f a := by
  show Res.bind (.ok a) f = f a
  rw [Res.bind]
@[simp] theorem rej_bind {α β : Type} (f : α → Res β) : ((Res.rej : Res α) >>= f) = .rej := rfl
@[simp] theorem crash_bind {α β : Type} (f : α → Res β) : ((Res.crash : Res α) >>= f) = .crash := rfl
@[simp] theorem pure_eq {α : Type} (a : α) : (pure a : Res α) = .ok a := rfl

theorem bind_assoc {α β γ : Type} (x : Res α) (f : α → Res β) (g : β → Res γ) :
    (x >>= f >>= g) = x >>= fun a => f a >>= g := by
  cases x <;> rfl

theorem idx_eq (d : Bytes) (i : Nat) : idx d i = if h : i < d.length then .ok d[i] else .crash := rfl

theorem require_eq (c : Bool) : require c = if c then .ok () else .rej := rfl

theorem require_bind {β : Type} (c : Bool) (f : Unit → Res β) :
    (require c >>= f) = if c then f () else .rej := by
  unfold require; split <;> rfl

theorem idx_bind {β : Type} (d : Bytes) (i : Nat) (f : UInt8 → Res β) :
    (idx d i >>= f) = if h : i < d.length then f d[i] else .crash := by
  rw [idx_eq]; split <;> rfl

theorem tail_bind {β : Type} (d : Bytes) (a : Nat) (f : Bytes → Res β) :
    (tail d a >>= f) = if a ≤ d.length then f (d.drop a) else .crash := by
  unfold tail; split <;> rfl

theorem sub_bind {β : Type} (d : Bytes) (a b : Nat) (f : Bytes → Res β) :
    (sub d a b >>= f) = if a ≤ b ∧ b ≤ d.length then f ((d.take b).drop a) else .crash := by
  unfold sub; split <;> rfl

theorem byte0_toNat (n : Nat) : (byte0 n).toNat = n % 256 := by
  simp [byte0, UInt8.toNat_ofNat']

theorem byte0_toNat_le (n : Nat) (h : n ≤ 255) : (byte0 n).toNat = n := by
  rw [byte0_toNat]; omega

theorem u24_bytes (n : Nat) (h : n < 16777216) : u24 (byte2 n) (byte1 n) (byte0 n) = n := by
  simp only [u24, byte2, byte1, byte0, UInt8.toNat_ofNat']
  omega

theorem u16_bytes (n : Nat) (h : n < 65536) : u16 (byte1 n) (byte0 n) = n := by
  simp only [u16, byte1, byte0, UInt8.toNat_ofNat']
  omega

@[simp] theorem idx_cons_zero (a : UInt8) (l : Bytes) : idx (a :: l) 0 = .ok a := by
  rw [idx_eq, dif_pos (by rw [List.length_cons]; omega)]; rfl

@[simp] theorem tail_zero (l : Bytes) : tail l 0 = .ok l := by
  rw [tail, if_pos (Nat.zero_le _)]; rfl

/- `i + k` also matches a numeral: with `hk : random.length = 32`, `idx_skip hk` rewrites `idx (random ++ l) 33` to
   `idx l 1`. -/
section skip
variable {pre : Bytes} {k : Nat} (hk : pre.length = k) (l : Bytes)
include hk

theorem idx_skip (i : Nat) : idx (pre ++ l) (i + k) = idx l i := by
  subst hk
  simp only [idx_eq, List.length_append, Nat.add_comm i, Nat.add_lt_add_iff_left,
    List.getElem_append_right (Nat.le_add_right _ _), Nat.add_sub_cancel_left]

theorem tail_skip (i : Nat) : tail (pre ++ l) (i + k) = tail l i := by
  subst hk
  simp only [tail, List.length_append, Nat.add_comm i, Nat.add_le_add_iff_left, List.drop_length_add_append]

theorem sub_skip (i j : Nat) : sub (pre ++ l) (i + k) (j + k) = sub l i j := by
  subst hk
  simp only [sub, List.length_append, Nat.add_comm _ pre.length, Nat.add_le_add_iff_left,
    List.take_length_add_append, List.drop_length_add_append]

theorem sub_take : sub (pre ++ l) 0 k = .ok pre := by
  subst hk
  rw [sub, if_pos ⟨Nat.zero_le _, by simp only [List.length_append]; omega⟩, List.take_left, List.drop_zero]

theorem tail_drop : tail (pre ++ l) k = .ok l := by
  rw [← Nat.zero_add k, tail_skip hk, tail_zero]

end skip

@[simp] theorem idx_cons_succ (a : UInt8) (l : Bytes) (i : Nat) : idx (a :: l) (i + 1) = idx l i :=
  idx_skip (pre := [a]) rfl l i

@[simp] theorem tail_cons_succ (a : UInt8) (l : Bytes) (k : Nat) : tail (a :: l) (k + 1) = tail l k :=
  tail_skip (pre := [a]) rfl l k

@[simp] theorem sub_cons_succ (a : UInt8) (l : Bytes) (i j : Nat) : sub (a :: l) (i + 1) (j + 1) = sub l i j :=
  sub_skip (pre := [a]) rfl l i j

theorem idx_drop (d : Bytes) (k j : Nat) : idx (d.drop k) j = idx d (k + j) := by
  simp only [idx_eq, List.length_drop, List.getElem_drop, Nat.lt_sub_iff_add_lt']

@[simp] theorem sub_prefix (mid post : Bytes) : sub (mid ++ post) 0 mid.length = .ok mid := sub_take rfl post

@[simp] theorem tail_prefix (pre post : Bytes) : tail (pre ++ post) pre.length = .ok post := tail_drop rfl post

@[simp] theorem sub_length (d : Bytes) : sub d 0 d.length = .ok d := by
  have := sub_prefix d []
  rwa [List.append_nil] at this

@[simp] theorem tail_length (d : Bytes) : tail d d.length = .ok [] := by
  have := tail_prefix d []
  rwa [List.append_nil] at this

theorem require_pos {β : Type} {c : Bool} {f : Unit → Res β} (h : c = true) : (require c >>= f) = f () := by
  subst h; rfl

theorem require_ge_pos {β : Type} {m n : Nat} {f : Unit → Res β} (h : n ≤ m) :
    (require (!decide (m < n)) >>= f) = f () :=
  require_pos (by simpa using h)

/-! Never `crash`, one rule per checked access.  A slice enters the continuation as a fresh variable of known length,
which keeps every bound linear arithmetic over lengths. -/

theorem ok_ne_crash {α : Type} (a : α) : Res.ok a ≠ .crash := nofun

theorem bind_ne_crash {α β : Type} {x : Res α} {f : α → Res β} (hx : x ≠ .crash) (hf : ∀ a, f a ≠ .crash) :
    (x >>= f) ≠ .crash := by
  cases x with
  | ok a => exact hf a
  | rej => nofun
  | crash => exact absurd rfl hx

theorem ite_ne_crash {α : Type} {c : Prop} [Decidable c] {a b : Res α} (ha : a ≠ .crash) (hb : b ≠ .crash) :
    (if c then a else b) ≠ .crash := by
  split <;> assumption

theorem require_ne_crash (c : Bool) : require c ≠ .crash := by
  cases c <;> nofun

theorem require_then {β : Type} {c : Bool} {f : Unit → Res β} (hf : c = true → f () ≠ .crash) :
    (require c >>= f) ≠ .crash := by
  cases c
  · nofun
  · exact hf rfl

/-- Go's `if len(x) < n { return false }` -/
theorem require_ge_then {β : Type} {m n : Nat} {f : Unit → Res β} (hf : n ≤ m → f () ≠ .crash) :
    (require (!decide (m < n)) >>= f) ≠ .crash :=
  require_then fun h => hf (by simpa using h)

theorem idx_then {β : Type} {d : Bytes} {i : Nat} {f : UInt8 → Res β} (h : i < d.length) (hf : ∀ v, f v ≠ .crash) :
    (idx d i >>= f) ≠ .crash := by
  rw [idx_bind, dif_pos h]; exact hf _

theorem tail_ne_crash {d : Bytes} {a : Nat} (h : a ≤ d.length) : tail d a ≠ .crash := by
  rw [tail, if_pos h]; nofun

theorem tail_then {β : Type} {d : Bytes} {a : Nat} {f : Bytes → Res β} (h : a ≤ d.length)
    (hf : ∀ t : Bytes, t.length = d.length - a → f t ≠ .crash) : (tail d a >>= f) ≠ .crash := by
  rw [tail_bind, if_pos h]; exact hf _ List.length_drop

theorem sub_then {β : Type} {d : Bytes} {a b : Nat} {f : Bytes → Res β} (hab : a ≤ b) (hb : b ≤ d.length)
    (hf : ∀ s : Bytes, s.length = b - a → f s ≠ .crash) : (sub d a b >>= f) ≠ .crash := by
  rw [sub_bind, if_pos ⟨hab, hb⟩]
  exact hf _ (by rw [List.length_drop, List.length_take, Nat.min_eq_left hb])

/-- The counting loop as a rule: what runs after it may assume that slicing the certificates it counted stays in range
    (the second loop of `umCertificate` re-reads the lengths without checks). -/
theorem countCerts_then {β : Type} (fuel : Nat) (d : Bytes) (cl n : Nat) (k : Nat → Res β)
    (hk : ∀ m, n ≤ m → sliceCerts (m - n) d ≠ .crash → k m ≠ .crash) : (countCerts fuel d cl n >>= k) ≠ .crash := by
  fun_induction countCerts fuel d cl n with
  | case2 fuel d cl n _ ih =>  -- the loop body
    simp only [bind_assoc]  -- `k` goes to the end of the chain
    refine require_ge_then fun h4 => ?_
    have h0 : 0 < d.length := by omega
    have h1 : 1 < d.length := by omega
    have h2 : 2 < d.length := by omega
    -- not `idx_then`: the second loop reads the same three bytes
    rw [idx_bind, dif_pos h0, idx_bind, dif_pos h1, idx_bind, dif_pos h2]
    refine require_ge_then fun hl => ?_
    rw [tail_bind, if_pos hl]
    refine ih _ _ _ _ fun m hnm hs => hk m (by omega) ?_
    rw [show m - n = (m - (n + 1)) + 1 by omega, sliceCerts, idx_bind, dif_pos h0, idx_bind, dif_pos h1,
      idx_bind, dif_pos h2]
    refine sub_then (by omega) hl fun cert _ => ?_
    rw [tail_bind, if_pos hl]
    exact bind_ne_crash hs fun rest => ok_ne_crash _
  | case1 | case3 =>
    rw [ok_bind]
    exact hk _ (Nat.le_refl _) (by rw [Nat.sub_self]; exact ok_ne_crash _)

end BfeVerif.C45
