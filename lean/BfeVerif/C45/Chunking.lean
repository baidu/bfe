import BfeVerif.C45.Hello
/-! C45 — readHandshake: the result does not depend on how the message bytes are cut into records. -/
namespace BfeVerif.C45

theorem recordsOK_cons {hv : Bool} {r : Bytes} {rest : List Bytes} (h : recordsOK hv (r :: rest) = true) :
    r.length ≤ 16384 ∧ (hv = true ∨ r.length < 0x3000) ∧ recordsOK hv rest = true := by
  simpa [recordsOK, and_assoc] using h

theorem fillHand_spec (hv : Bool) (need : Nat) (rs : List Bytes) (hand : Bytes) (hok : recordsOK hv rs = true) :
    ((hand ++ rs.flatten).length < need → fillHand hv need rs hand = .error .eof) ∧
    (need ≤ (hand ++ rs.flatten).length → ∃ hand' rest, fillHand hv need rs hand = .ok (hand', rest) ∧
        hand' ++ rest.flatten = hand ++ rs.flatten ∧ need ≤ hand'.length ∧ recordsOK hv rest = true) := by
  -- case4-6: the three record-size errors, excluded by `hok`; case7: the loop body
  fun_induction fillHand hv need rs hand with
  | case1 hand h => exact ⟨fun hl => by simp at hl; omega, fun _ => ⟨hand, [], rfl, rfl, h, rfl⟩⟩
  | case2 hand h => exact ⟨fun _ => rfl, fun hl => by simp at hl; omega⟩
  | case3 r rest hand h =>
    exact ⟨fun hl => by simp only [List.length_append] at hl; omega, fun _ => ⟨hand, r :: rest, rfl, rfl, h, hok⟩⟩
  | case4 r rest hand _ h => exact absurd (recordsOK_cons hok).1 (by omega)
  | case5 r rest hand _ _ h =>
    obtain ⟨_, h2, _⟩ := recordsOK_cons hok
    cases hv <;> simp at h h2 <;> omega
  | case6 r rest hand _ _ _ h => exact absurd (recordsOK_cons hok).1 (by omega)
  | case7 r rest hand _ _ _ _ ih =>
    have := ih (recordsOK_cons hok).2.2
    rwa [show hand ++ (r :: rest).flatten = (hand ++ r) ++ rest.flatten by simp]

theorem readHandshakeStep_error {hv : Bool} {rs : List Bytes} {hand0 : Bytes} {e : HsErr}
    (h : fillHand hv 4 rs hand0 = .error e) : readHandshakeStep hv rs hand0 = .error e := by
  unfold readHandshakeStep; rw [h]

theorem readHandshakeStep_ok {hv : Bool} {rs rest : List Bytes} {hand0 hand : Bytes} {n : Nat}
    (h : fillHand hv 4 rs hand0 = .ok (hand, rest)) (hn : u24 (hand.getD 1 0) (hand.getD 2 0) (hand.getD 3 0) = n) :
    readHandshakeStep hv rs hand0 =
      if n > 65536 then .error (.alert 80)
      else match fillHand hv (4 + n) rest hand with
        | .error e => .error e
        | .ok (hand2, rest2) => .ok (hand2.take (4 + n), hand2.drop (4 + n), rest2) := by
  subst hn; unfold readHandshakeStep; rw [h]; rfl

/- For any `hand0` (what the message before left in `c.hand`) and with what this one leaves, so that the step can be
   repeated over a sequence of messages; `C45_readHandshake_chunking` needs `hand0 = []` and the first conjunct only. -/
theorem readHandshakeStep_spec (hv : Bool) (rs : List Bytes) (hand0 : Bytes) (hok : recordsOK hv rs = true) :
    match readHandshakeStep hv rs hand0 with
    | .error e => hsSpec (hand0 ++ rs.flatten) = .error e
    | .ok (msg, left, rest) =>
      hsSpec (hand0 ++ rs.flatten) = .ok msg ∧ msg ++ left ++ rest.flatten = hand0 ++ rs.flatten ∧
        recordsOK hv rest = true := by
  obtain ⟨f1, f2⟩ := fillHand_spec hv 4 rs hand0 hok
  generalize hand0 ++ rs.flatten = S at f1 f2 ⊢
  by_cases h4 : S.length < 4
  · rw [readHandshakeStep_error (f1 h4)]
    show hsSpec _ = _
    rw [hsSpec, if_pos h4]
  · obtain ⟨hand, rest, hfill, hcat, hlen, hokr⟩ := f2 (by omega)
    have hget : ∀ i, i < 4 → hand.getD i 0 = S.getD i 0 := by
      intro i hi
      rw [← hcat, List.getD_eq_getElem?_getD, List.getD_eq_getElem?_getD, List.getElem?_append_left (by omega)]
    generalize hN : u24 (S.getD 1 0) (S.getD 2 0) (S.getD 3 0) = n
    rw [readHandshakeStep_ok hfill (by rw [hget 1 (by omega), hget 2 (by omega), hget 3 (by omega), hN])]
    have hs : hsSpec S = if n > 65536 then .error (.alert 80) else
        if S.length < 4 + n then .error .eof else .ok (S.take (4 + n)) := by
      rw [hsSpec, if_neg h4, ← hN]
    rw [hs]
    by_cases hn : n > 65536
    · rw [if_pos hn, if_pos hn]
    · obtain ⟨g1, g2⟩ := fillHand_spec hv (4 + n) rest hand hokr
      rw [hcat] at g1 g2
      rw [if_neg hn, if_neg hn]
      by_cases hl : S.length < 4 + n
      · rw [g1 hl, if_pos hl]
      · obtain ⟨hand2, rest2, hfill2, hcat2, hlen2, hok2⟩ := g2 (by omega)
        rw [hfill2, if_neg hl]
        exact ⟨by rw [← hcat2, List.take_append_of_le_length hlen2], by rw [List.take_append_drop, hcat2], hok2⟩

end BfeVerif.C45
