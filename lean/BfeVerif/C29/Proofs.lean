import BfeVerif.C29.Model
import BfeVerif.C26.Proofs
/-! `Header[k]` after `Set` and after the append-or-set of `setDefaultHeader`, hence what that function leaves under the
    keys it sets; the hop-by-hop removal that follows keeps them. -/
namespace BfeVerif.C29
open BfeVerif.C25

/-- `v` is `t` or ends with `", " t`; not proved equivalent to the oracle's `endsWithElem` -/
def EndsWithElem (v t : Bytes) : Prop := v = t ∨ ∃ p, v = p ++ commaSp ++ t

theorem hvals_hset_same (h : Hdr) (k v : Bytes) : hvals (hset h k v) k = some [v] := by
  unfold hvals
  induction h with
  | nil => rw [hset, List.find?_cons, beq_self_eq_true]; rfl
  | cons kv rest ih =>
    unfold hset
    cases e : (kv.1 == k) with
    | true => rw [if_pos rfl, List.find?_cons, beq_self_eq_true]; rfl
    | false => rw [if_neg Bool.false_ne_true, List.find?_cons, e]; exact ih

theorem hvals_hset_ne {h : Hdr} {k k' v : Bytes} (hne : k ≠ k') : hvals (hset h k' v) k = hvals h k := by
  have hk : (k' == k) = false := beq_false_of_ne (Ne.symm hne)
  unfold hvals
  induction h with
  | nil => rw [hset, List.find?_cons, hk]
  | cons kv rest ih =>
    unfold hset
    cases e : (kv.1 == k') with
    | true => rw [if_pos rfl, List.find?_cons, hk, List.find?_cons, eq_of_beq e, hk]
    | false =>
      rw [if_neg Bool.false_ne_true, List.find?_cons, List.find?_cons]
      cases kv.1 == k with
      | true => rfl
      | false => exact ih

theorem hvals_appendTo_same (h : Hdr) (k v : Bytes) :
    ∃ x, hvals (appendTo h k v) k = some [x] ∧ EndsWithElem x v := by
  unfold appendTo
  cases hvals h k with
  | none => exact ⟨v, hvals_hset_same h k v, Or.inl rfl⟩
  | some prior => exact ⟨_, hvals_hset_same h k _, Or.inr ⟨joinCS prior, rfl⟩⟩

theorem hvals_appendTo_ne {h : Hdr} {k k' v : Bytes} (hne : k ≠ k') :
    hvals (appendTo h k' v) k = hvals h k := by
  unfold appendTo
  cases hvals h k' with
  | none => exact hvals_hset_ne hne
  | some prior => exact hvals_hset_ne hne

theorem resolve_snd (i : In) : (resolve i).2 = defaultHeader i (resolve i).1 := rfl

theorem defaultHeader_xff (i : In) (ca : Option (Bytes × Int)) :
    ∃ v, hvals (defaultHeader i ca) kXFF = some [v] ∧ EndsWithElem v i.peerText := by
  unfold defaultHeader
  dsimp only
  have appended : ∀ h0 : Hdr, ∃ v, hvals (appendTo (appendTo h0 kXFF i.peerText) kXFPort (toDec i.peerPort)) kXFF = some [v] ∧
      EndsWithElem v i.peerText := fun h0 => by
    rw [hvals_appendTo_ne (by decide)]; exact hvals_appendTo_same _ _ _
  rw [hvals_hset_ne (by decide)]  -- X-Bfe-Ip
  cases ca with
  | none => exact appended _
  | some c =>
    dsimp only
    rw [hvals_hset_ne (by decide), hvals_hset_ne (by decide)]  -- X-Real-Port, X-Real-Ip
    exact appended _

theorem defaultHeader_real (i : In) (ip : Bytes) (port : Int) :
    hvals (defaultHeader i (some (ip, port))) kXRealIp = some [ip] ∧
    hvals (defaultHeader i (some (ip, port))) kXRealPort = some [itoa port] := by
  unfold defaultHeader
  dsimp only
  constructor
  · rw [hvals_hset_ne (by decide), hvals_hset_ne (by decide), hvals_hset_same]  -- X-Bfe-Ip, X-Real-Port
  · rw [hvals_hset_ne (by decide), hvals_hset_same]  -- X-Bfe-Ip

theorem defaultHeader_none_realIp (i : In) : hvals (defaultHeader i none) kXRealIp = hvals i.hdr kXRealIp := by
  unfold defaultHeader
  dsimp only
  rw [hvals_hset_ne (by decide), hvals_appendTo_ne (by decide), hvals_appendTo_ne (by decide)]  -- X-Bfe-Ip, X-Forwarded-Port, -For
  split
  · rfl
  · exact hvals_appendTo_ne (by decide)  -- X-Forwarded-Host

/-- both tables are regenerated from the source -/
theorem protected_not_hop :
    ∀ k ∈ BfeVerif.Generated.C29.hopProtected, k ∉ BfeVerif.Generated.C29.hopHeaders := by decide +kernel

theorem upstream_keeps (i : In) (k : Bytes) (hk : k ∈ BfeVerif.Generated.C29.hopProtected) :
    hvals (upstream i) k = hvals (resolve i).2 k := by
  unfold upstream hvals
  rw [BfeVerif.C26.find_hopRemoveP _ (protected_not_hop k hk) hk]

end BfeVerif.C29
