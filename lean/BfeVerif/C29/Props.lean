import BfeVerif.C29.Proofs
/-!
  C29 — client address cannot be spoofed by untrusted peers.
  `resolve i` = (`req.ClientAddr` after `setClientAddr`, header map after `mod_header.setDefaultHeader`);
  `trusted i` = the peer lies in one of the configured trusted ranges.  Quantified over ALL header maps,
  trust tables, peers, hosts and over arbitrary `net.ParseIP` / `strconv.Atoi` behaviours (`i.ipd`, `i.ptd`).
-/
namespace BfeVerif.C29
open BfeVerif.C25

/-- **X-Forwarded-For always ends with the socket peer** (trusted or not, any client address). -/
theorem C29_xff_appended (i : In) :
    ∃ v, hvals (resolve i).2 kXFF = some [v] ∧ EndsWithElem v i.peerText :=
  defaultHeader_xff i (clientAddr i)

/-- **Untrusted peer**: whatever the request headers say, the client address is the socket peer,
    `X-Real-Ip` / `X-Real-Port` are overwritten with it and `X-Forwarded-For` ends with the peer IP. -/
theorem C29_untrusted (i : In) (hu : trusted i = false) :
    (resolve i).1 = some (i.peerText, (i.peerPort : Int)) ∧
    hvals (resolve i).2 kXRealIp = some [i.peerText] ∧
    hvals (resolve i).2 kXRealPort = some [toDec i.peerPort] ∧
    ∃ v, hvals (resolve i).2 kXFF = some [v] ∧ EndsWithElem v i.peerText := by
  have hca : clientAddr i = some (i.peerText, (i.peerPort : Int)) := by
    unfold clientAddr; rw [hu]; rfl
  have hitoa : itoa (i.peerPort : Int) = toDec i.peerPort := by
    unfold itoa
    rw [if_neg (by omega), Int.toNat_natCast]
  have h := defaultHeader_real i i.peerText i.peerPort
  rw [hitoa, ← hca] at h
  exact ⟨hca, h.1, h.2, C29_xff_appended i⟩

/-- **Trusted peer, documented precedence**: X-Real-Ip (port from X-Real-Port) when present and non-empty,
    else the first element of X-Forwarded-For (port: first element of X-Forwarded-Port); an address that
    does not parse gives no client address; an unparsable port gives port 0. -/
theorem C29_trusted (i : In) (ht : trusted i = true) : (resolve i).1 = trustedExpected i := by
  unfold resolve clientAddr trustedExpected candidate
  simp only [ht]
  cases h1 : (getFirst i.hdr kXRealIp).isEmpty with
  | true =>
    cases h2 : (firstSplit i.hdr kXFF).isEmpty with
    | true => simp [h2]
    | false => cases h3 : parseIP i (firstSplit i.hdr kXFF) <;> simp [h2, h3]
  | false => cases h3 : parseIP i (getFirst i.hdr kXRealIp) <;> simp [h1, h3]

/-- Trusted peer without a usable address header: `ClientAddr` stays nil and the client's X-Real-Ip
    header is left as it came (nothing is invented). -/
theorem C29_trusted_nil_untouched (i : In) (hn : (resolve i).1 = none) :
    hvals (resolve i).2 kXRealIp = hvals i.hdr kXRealIp := by
  rw [resolve_snd, hn]
  exact defaultHeader_none_realIp i

/-! ### what reaches the backend: hop-by-hop removal runs AFTER mod_header -/

/-- **Upstream headers of an untrusted peer**: also after `hopByHopHeaderRemove` — whatever the client's
    `Connection` header names (`Connection: X-Real-Ip, X-Forwarded-For` included) — the request sent upstream
    carries X-Real-Ip / X-Real-Port of the socket peer and an X-Forwarded-For ending with it.
    (Rests on fixes/C26-protected-headers.md: names in `hopByHopProtected` are exempt from Connection-token removal;
    without that, `Connection: X-Real-Ip` strips the header BFE has just set.) -/
theorem C29_untrusted_upstream (i : In) (hu : trusted i = false) :
    hvals (upstream i) kXRealIp = some [i.peerText] ∧
    hvals (upstream i) kXRealPort = some [toDec i.peerPort] ∧
    ∃ v, hvals (upstream i) kXFF = some [v] ∧ EndsWithElem v i.peerText := by
  have h := C29_untrusted i hu
  rw [upstream_keeps i kXRealIp (by decide +kernel), upstream_keeps i kXRealPort (by decide +kernel),
      upstream_keeps i kXFF (by decide +kernel)]
  exact h.2

/-- the same for every peer: none of the headers BFE sets itself can be removed by the client's Connection header -/
theorem C29_upstream_keeps_bfe_headers (i : In) :
    ∀ k ∈ BfeVerif.Generated.C29.hopProtected, hvals (upstream i) k = hvals (resolve i).2 k :=
  upstream_keeps i

/-- a failed load keeps the table, a successful one replaces it — whatever the Version strings are -/
theorem C29_reload_last_good (init : List (Bytes × Bytes)) (ls : List Load) (l : Load) :
    tableAfter init (ls ++ [l]) = if l.good then l.ranges else tableAfter init ls := by
  induction ls generalizing init with
  | nil => simp [tableAfter]
  | cons x xs ih => simp only [List.cons_append, tableAfter]; exact ih _

/-- **A peer removed by a reload is untrusted at once**: after any history of loads, a connection whose peer is
    outside the ranges of the last successful load gets the socket peer as client address and in the upstream
    headers, whatever it was before and whatever Version the files carried. -/
theorem C29_reload_untrusted (loads : List Load) (i : In)
    (hi : i.table = tableAfter [] loads) (hu : trusted i = false) :
    (resolve i).1 = some (i.peerText, (i.peerPort : Int)) ∧
    hvals (upstream i) kXRealIp = some [i.peerText] :=
  ⟨(C29_untrusted i hu).1, (C29_untrusted_upstream i hu).1⟩

/-! ### trusted-peer corner cases, stated explicitly (the peer text, IPv4 or IPv6, and the dictionaries
    `ipd`/`ptd` are arbitrary, so nothing below depends on the address family) -/

/-- **Several X-Forwarded-For lines / list elements**: with no usable X-Real-Ip, only the FIRST comma-separated
    element of the FIRST X-Forwarded-For value is consulted: the client address of a trusted peer does not
    depend on further X-Forwarded-For (or X-Forwarded-Port) lines. -/
theorem C29_trusted_first_xff_only (i : In) (ht : trusted i = true)
    (hx : getFirst i.hdr kXRealIp = []) :
    (resolve i).1 =
      (if (firstSplit i.hdr kXFF).isEmpty then none
       else (parseIP i (firstSplit i.hdr kXFF)).map fun ip => (ip, (atoi i (firstSplit i.hdr kXFPort)).getD 0)) := by
  rw [C29_trusted i ht]
  unfold trustedExpected
  simp [hx]

/-- `firstSplit` looks at the first value of the key only -/
theorem C29_firstSplit_first_only (k v : Bytes) (more : List Bytes) (rest rest' : Hdr) :
    firstSplit ((k, v :: more) :: rest) k = firstSplit ((k, [v]) :: rest') k := by
  unfold firstSplit getFirst
  simp

/-- **Ports out of range are honoured as sent**: for a trusted peer whose X-Real-Ip parses, whatever integer
    `strconv.Atoi` returns for X-Real-Port (negative, > 65535) becomes `ClientAddr.Port` and is written to
    X-Real-Port; there is no range check.  (Recorded behaviour for TRUSTED peers only: by `C29_untrusted` an
    untrusted peer cannot reach this branch.) -/
theorem C29_trusted_port_unchecked (i : In) (ht : trusted i = true) (ip : Bytes) (n : Int)
    (hx : getFirst i.hdr kXRealIp ≠ []) (hip : parseIP i (getFirst i.hdr kXRealIp) = some ip)
    (hp : atoi i (getFirst i.hdr kXRealPort) = some n) :
    (resolve i).1 = some (ip, n) ∧ hvals (resolve i).2 kXRealPort = some [itoa n] := by
  have hca : (resolve i).1 = some (ip, n) := by
    rw [C29_trusted i ht]
    unfold trustedExpected
    simp [List.isEmpty_eq_false_iff.mpr hx, hip, hp]
  refine ⟨hca, ?_⟩
  rw [resolve_snd, hca]
  exact (defaultHeader_real i ip n).2

/-- an unparsable port gives port 0, not the peer's port -/
theorem C29_trusted_bad_port_zero (i : In) (ht : trusted i = true) (ip : Bytes)
    (hx : getFirst i.hdr kXRealIp ≠ []) (hip : parseIP i (getFirst i.hdr kXRealIp) = some ip)
    (hp : atoi i (getFirst i.hdr kXRealPort) = none) :
    (resolve i).1 = some (ip, 0) := by
  rw [C29_trusted i ht]
  unfold trustedExpected
  simp [List.isEmpty_eq_false_iff.mpr hx, hip, hp]

/-! non-vacuity: an untrusted peer that sends spoofed headers, and a trusted one whose header is honoured -/
def exIn (tr : Bool) : In :=
  { table := [([10], [20])], peerIP := if tr then [15] else [30], peerText := [112], peerPort := 4242, host := [104],
    hdr := [(kXRealIp, [[49]]), (kXFF, [[50, 44, 32, 51]])], localText := [108],
    ipd := [([49], some [49]), ([50], some [50])], ptd := [([], none)] }
example : trusted (exIn false) = false := by decide +kernel
example : trusted (exIn true) = true := by decide +kernel
example : (resolve (exIn true)).1 = some ([49], 0) := by decide +kernel
example : (resolve (exIn false)).1 = some ([112], 4242) := by decide +kernel
/-- same Version, peer removed: the second file decides -/
example : tableAfter [] [⟨[118], [([10], [20])], true⟩, ⟨[118], [], true⟩, ⟨[119], [([1], [2])], false⟩] = [] := by decide +kernel
/-- an IPv6 peer (`2001:db8::1`), trusted range `2001:db8::/124`, X-Forwarded-For `2001:db8::9, 1.1.1.1` and a second line `6.6.6.6`, port 70000 -/
def exV6 : In :=
  { table := [([32,1,13,184,0,0,0,0,0,0,0,0,0,0,0,0], [32,1,13,184,0,0,0,0,0,0,0,0,0,0,0,15])],
    peerIP := [32,1,13,184,0,0,0,0,0,0,0,0,0,0,0,1], peerText := [50,48,48,49,58,100,98,56,58,58,49], peerPort := 65535, host := [],
    hdr := [(kXFF, [[50,48,48,49,58,100,98,56,58,58,57,44,32,49,46,49,46,49,46,49], [54,46,54,46,54,46,54]]), (kXFPort, [[55,48,48,48,48]])],
    localText := [108], ipd := [([50,48,48,49,58,100,98,56,58,58,57], some [50,48,48,49,58,100,98,56,58,58,57])], ptd := [([55,48,48,48,48], some 70000)] }
example : trusted exV6 = true ∧ (resolve exV6).1 = some ([50,48,48,49,58,100,98,56,58,58,57], 70000) := by decide +kernel

end BfeVerif.C29
