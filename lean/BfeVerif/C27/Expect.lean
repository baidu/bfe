import BfeVerif.C27.Model
/-! The response writer after an unanswered `Expect: 100-continue`: every handler action keeps `Unanswered`,
    which forces closeAfterReply.  Used by C28 only: its serve loop rests on `respond_close_of_unanswered`. -/
namespace BfeVerif.C27

theorem decideHeader_close_of_expecter (i : HIn) (h1 : i.rq.expecter = true)
    (h2 : i.rq.wroteContinue = false) : (decideHeader i).close = true := by
  simp only [decideHeader, h1, h2, Bool.not_false, Bool.and_self, Bool.or_true, Bool.true_or]

/-- third clause: once the head is written, `decideHeader` has set `close` and nothing resets it -/
def Unanswered (s : St) : Prop :=
  s.rq.expecter = true ∧ s.rq.wroteContinue = false ∧ (s.cwWrote = true → s.close = true)

/-- `t` agrees with `s` on the fields `Unanswered` looks at -/
def Same (s t : St) : Prop := t.rq = s.rq ∧ t.cwWrote = s.cwWrote ∧ t.close = s.close

theorem Same.unanswered {s t : St} (h : Same s t) (hs : Unanswered s) : Unanswered t := by
  obtain ⟨a, b, c⟩ := h
  unfold Unanswered at *
  rw [a, b, c]; exact hs

/-- for a `t` that differs from `s` in other fields only -/
theorem Unanswered.same {s t : St} (hs : Unanswered s) (h : Same s t := by exact ⟨rfl, rfl, rfl⟩) :
    Unanswered t :=
  h.unanswered hs

theorem applyHeader_unanswered (s : St) (n : Nat) (h : Unanswered s) :
    Unanswered (applyHeader s n) ∧ (applyHeader s n).cwWrote = true := by
  obtain ⟨h1, h2, h3⟩ := h
  unfold applyHeader
  by_cases hw : s.cwWrote = true
  · rw [if_pos hw]; exact ⟨⟨h1, h2, fun _ => h3 hw⟩, hw⟩
  · rw [if_neg hw]
    exact ⟨⟨h1, h2, fun _ => decideHeader_close_of_expecter _ h1 h2⟩, rfl⟩

theorem cwWrite_unanswered (s : St) (p : Bytes) (h : Unanswered s) : Unanswered (cwWrite s p) :=
  have := (applyHeader_unanswered s p.length h).1
  -- `iteInduction` walks one `if` of the writer without looking into its branches, which `split` would traverse
  iteInduction (fun _ => this) fun _ => this.same

theorem bufWrite_unanswered (s : St) (p : Bytes) (h : Unanswered s) : Unanswered (bufWrite s p) := by
  have hb : ∀ b, Unanswered { s with buf := b } := fun b => h.same
  refine iteInduction (fun _ => hb _) fun _ => iteInduction (fun _ => cwWrite_unanswered _ _ h) fun _ => ?_
  have h1 := cwWrite_unanswered _ (s.buf ++ p.take (bufferBeforeChunkingSize - s.buf.length)) (hb [])
  exact iteInduction (fun _ => cwWrite_unanswered _ _ h1) fun _ => h1.same

theorem bufFlush_unanswered (s : St) (h : Unanswered s) : Unanswered (bufFlush s) :=
  iteInduction (fun _ => h) fun _ => cwWrite_unanswered _ _ h.same

theorem doWriteHeader_same (s : St) (c : Nat) : Same s (doWriteHeader s c) :=
  iteInduction (fun _ => ⟨rfl, rfl, rfl⟩) fun _ => ⟨rfl, rfl, rfl⟩

theorem doHeaderOp_same (s : St) (f : Hdr → Hdr) : Same s (doHeaderOp s f) := ⟨rfl, rfl, rfl⟩

theorem doWrite_unanswered (s : St) (d : Bytes) (h : Unanswered s) : Unanswered (doWrite s d) := by
  have h1 := (doWriteHeader_same s 200).unanswered h
  unfold doWrite
  extract_lets t u
  have h2 : Unanswered u := h1.same
  have h3 : Unanswered { bufWrite u d with writeRes := u.writeRes ++ [0] } := (bufWrite_unanswered u d h2).same
  refine iteInduction (fun _ => h1.same) fun _ => iteInduction (fun _ => h1.same) fun _ => ?_
  cases u.contentLength with
  | none => exact h3
  | some cl => exact iteInduction (fun _ => h2.same) fun _ => h3

theorem doFlush_unanswered (s : St) (h : Unanswered s) : Unanswered (doFlush s) ∧ (doFlush s).cwWrote = true :=
  applyHeader_unanswered _ 0 (bufFlush_unanswered _ ((doWriteHeader_same s 200).unanswered h))

theorem step_unanswered (s : St) (a : Act) (h : Unanswered s) : Unanswered (step s a) := by
  cases a with
  | set k v | add k v => exact (doHeaderOp_same _ _).unanswered h
  | writeHeader c => exact (doWriteHeader_same _ _).unanswered h
  | write d => exact doWrite_unanswered _ _ h
  | flush => exact (doFlush_unanswered _ h).1

/-- `cw.close()` in finishRequest writes the header, which sets `close`; the later steps never reset it -/
theorem finish_close_of_unanswered (s : St) (h : Unanswered s) : (finish s).close = true := by
  -- finishRequest begins with what Flush does
  obtain ⟨⟨_, _, hc⟩, hw⟩ := doFlush_unanswered { s with handlerDone := true } h.same
  have hu := hc hw
  unfold finish
  extract_lets _ _ _ u t v
  have ht : t.close = true := iteInduction (motive := (St.close · = true)) (fun _ => hu) fun _ => hu
  have hv : v.close = true := iteInduction (motive := (St.close · = true)) (fun _ => ht) fun _ => ht
  cases v.contentLength with
  | none => exact hv
  | some cl => exact iteInduction (motive := (St.close · = true)) (fun _ => rfl) fun _ => hv

theorem respond_close_of_unanswered (rq : Req) (ka : Bool) (script : List Act)
    (h1 : rq.expecter = true) (h2 : rq.wroteContinue = false) : (respond rq ka script).close = true :=
  finish_close_of_unanswered _ <|
    List.foldlRecOn script step ⟨h1, h2, fun h => Bool.noConfusion h⟩ fun s hs a _ => step_unanswered s a hs

end BfeVerif.C27
