import BfeVerif.C27.Proofs
/-!
  C27 — HTTP/1 responses to clients are correctly framed.

  Full statement (does NOT hold for the code, see the witnesses):
    `∀ rq ka script, judge rq.isHead rq.proto11 script s.close s.writeRes (render s) = "ok"`  for `s = respond rq ka script`
  (the bytes parse as exactly one response with the handler's status, end-to-end headers and accepted
  body, nothing follows it, and a body delimited by connection close implies closeAfterReply).
-/
namespace BfeVerif.C27

/-- finishRequest: a declared Content-Length that differs from the number of body bytes the handler
    wrote (too few, or an attempt to write too many) always ends with closeAfterReply. -/
theorem C27_cl_mismatch_closes (rq : Req) (ka : Bool) (script : List Act) (cl : Nat) :
    (respond rq ka script).contentLength = some cl → (respond rq ka script).rq.isHead = false →
    (respond rq ka script).status ≠ 304 → cl ≠ (respond rq ka script).written →
    (respond rq ka script).close = true := by
  unfold respond
  exact finish_mismatch _ cl

/-- writeHeader while the handler is still running and declared no (valid) Content-Length, for a response
    that may carry a body: HTTP/1.0 gets closeAfterReply (the only delimiter left), HTTP/1.1 gets chunking. -/
theorem C27_close_if_undelimited (i : HIn) (hh : i.rq.isHead = false) (h3 : i.status ≠ 304) (h2 : i.status ≠ 204)
    (h1 : ¬ (100 ≤ i.status ∧ i.status ≤ 199))
    (hc : i.contentLength = none) (hd : i.handlerDone = false) :
    (i.rq.proto11 = false → (decideHeader i).close = true ∧ (decideHeader i).chunking = false) ∧
    (i.rq.proto11 = true → (decideHeader i).chunking = true) := by
  -- `hc`, `hd`: no Content-Length is known (`hasCL = false`), so the choice rests on status and version alone
  unfold decideHeader
  dsimp only
  constructor
  · intro hp; simp [hh, h3, hc, hd, hp]
  · intro hp; simp [hh, h3, h2, hc, hd, hp]; omega

/-- chunking is only ever chosen for an HTTP/1.1 request, never for HEAD / 204 / 304 / 1xx. -/
theorem C27_chunking_sound (i : HIn) (hc : (decideHeader i).chunking = true) :
    i.rq.proto11 = true ∧ i.rq.isHead = false ∧ i.status ≠ 204 ∧ i.status ≠ 304 ∧
    ¬ (100 ≤ i.status ∧ i.status ≤ 199) := by
  unfold decideHeader at hc
  dsimp only at hc
  simp only [Bool.and_eq_true, Bool.not_eq_true', Bool.or_eq_false_iff, bne_iff_ne, ne_eq,
    beq_eq_false_iff_ne, Bool.and_eq_false_iff, decide_eq_false_iff_not, decide_eq_true_eq] at hc
  obtain ⟨⟨⟨⟨hh, h304⟩, ⟨h204, h1xx⟩⟩, _⟩, hp⟩ := hc
  exact ⟨hp, hh, h204, h304, by omega⟩

/-- **Histories.**  statusLine()'s process-wide Status-Line cache is transparent: in every history of
    exchanges (any mix of versions and statuses, starting from an empty cache) each response is byte-for-byte
    what the exchange would produce on its own — in particular its status line carries the version of ITS
    request.  (The proof needs the cache key to separate the versions: `cacheKey_inj`.) -/
theorem C27_cache_transparent (es : List (Req × Bool × List Act)) :
    ∀ sb ∈ history [] es, sb.2 = render sb.1 := by
  intro sb hsb
  rw [history_eq es [] cacheOK_nil] at hsb
  obtain ⟨e, _, rfl⟩ := List.mem_map.mp hsb
  rfl

/-- **Non-interference of concurrent responses.**  For two responses written at the same time each
    connection's bytes are exactly the bytes of its own exchange run alone.  Trivial in the model (`pairRun`
    shares only the transparent Status-Line cache); it is the claim the correspondence run ties to the code
    with the interleaved `p` cases. -/
theorem C27_noninterference (a b : Req × Bool × List Act) :
    (pairRun a b).map Prod.snd = [render (respond a.1 a.2.1 a.2.2), render (respond b.1 b.2.1 b.2.2)] := by
  rw [pairRun, history_eq _ [] cacheOK_nil]
  rfl

/-- Backend path (ReadResponse → sendResponse): whenever the backend's body ends with an error (short of
    its Content-Length, inside a chunk) the connection to the client is closed after the reply. -/
theorem C27_backend_error_closes (rq : Req) (ka : Bool) (b : Backend)
    (h1 : b.bodyRead rq.isHead = true) (h2 : b.delivered.2 = true) : (respondBackend rq ka b).2 = true := by
  simp [respondBackend, h1, h2]

/-! ### The reference parser applied to the rendered bytes, layer by layer

  The composition `rfcResponse isHead (render s) = some ⟨…, status, lines, body = accepted writes, rest = [], complete⟩`
  is NOT proved: missing are the header-block layer (`parseHeaderLines`), the invariant "every piece is
  non-empty", and the link between `rfcFraming` of the emitted lines and the writer's chunking / contentLength
  state.  That clause is exercised by the driver on every case and by the `verdictOf … = "ok"` examples. -/

/-- line layer: a CR-free line of the rendered head comes back unchanged, and the parser continues behind its CRLF. -/
theorem C27_parses_layer_line (l t : Bytes) (h : ∀ b ∈ l, b ≠ 13) :
    takeLine (l ++ crlf ++ t) [] = some (l, t) := by
  simpa [crlf] using takeLine_append l t [] h

/-- status-line layer: for every status 100..999 and both versions the emitted status line parses back
    to exactly (version, status). -/
theorem C27_parses_layer_status (p11 : Bool) (code : Nat) (h1 : 100 ≤ code) (h2 : code ≤ 999) :
    parseStatusLine (statusLine p11 code) = some (p11, code) := by
  have d1 := digit_table (code / 100) (by omega)
  have d2 := digit_table (code / 10 % 10) (by omega)
  have d3 := digit_table (code % 10) (by omega)
  have hc : code / 100 * 100 + code / 10 % 10 * 10 + code % 10 = code := by omega
  unfold statusLine codeBytes
  rw [if_pos ⟨h1, h2⟩]
  -- only what `digit_table` says about the three digits is used
  generalize digit (code / 100) = a at d1
  generalize digit (code / 10 % 10) = b at d2
  generalize digit (code % 10) = c at d3
  cases p11 <;> simp [parseStatusLine, protoBytes, d1, d2, d3, hc]

/-- Content-Length layer: a payload of the announced length followed by `rest` is split into exactly these
    (the three expressions of `rfcResponse`'s `.length n` branch, at `n = payload.length`). -/
theorem C27_parses_layer_cl (payload rest : Bytes) :
    (payload ++ rest).take payload.length = payload ∧ (payload ++ rest).drop payload.length = rest ∧
    decide (payload.length ≤ (payload ++ rest).length) = true := by
  simp

/-- hex round trip (bfe_server's chunkWriter writes the size with `%x`): the size line reads back as the
    same number and contains no CR.  `16 ^ 64`: the model's `hexNat` writes at most 64 digits, more than a Go int has. -/
theorem C27_parses_layer_hex (n : Nat) (h : n < 16 ^ 64) :
    parseHexLine (hexNat n) = some n ∧ ∀ b ∈ hexNat n, b ≠ 13 :=
  parseHexLine_hexNat n h

/-- chunked layer: what the writer puts behind the head in chunking mode — one chunk per
    chunkWriter.Write (`pieces`), then `0\r\n\r\n` — is decoded by the RFC 7230 §4.1 reference decoder to
    exactly the concatenated payloads, marked complete, with `rest` left over (the next pipelined response).
    "Every piece is non-empty" is an invariant of the model's bufio/chunkWriter (a Write of 0 bytes never
    reaches the chunkWriter); it is assumed here, not proved about `respond`. -/
theorem C27_parses_layer_chunked (pieces : List Bytes) (rest : Bytes)
    (hne : ∀ p ∈ pieces, p ≠ []) (hl : ∀ p ∈ pieces, p.length < 16 ^ 64) :
    dechunk (pieces.length + 1) (pieces.flatMap (renderPiece true) ++ strBytes "0\r\n\r\n" ++ rest) []
      = some (pieces.flatten, rest, true) := by
  simpa using dechunk_pieces pieces rest [] (pieces.length + 1) hne hl (by omega)

/-! ### Witnesses against the full statement -/

def get11 : Req := { isHead := false, proto11 := true, conn := "", clNonZero := false, bodyLeft := 0 }

/-- what the full statement demands for 1xx / 204 / 304 / HEAD: nothing follows the head -/
abbrev NothingAfterHead (s : St) : Prop := s.pieces = [] ∧ s.terminator = false

/-- body bytes follow a 204 (the handler's Write is accepted and reaches the wire unframed) -/
theorem C27_witness_204 :
    ¬ NothingAfterHead (respond get11 true [.writeHeader 204, .write [97]]) ∧
    (respond get11 true [.writeHeader 204, .write [97]]).status = 204 := by decide +kernel

/-- a 1xx head carries no Transfer-Encoding and is never chunked (as /repo writes it since commit bb8afff,
    findings/C27.txt), so a flushed 1xx is followed by nothing; but a handler Write after WriteHeader(1xx) is
    accepted (bodyAllowed only excludes 304) and its bytes follow the 1xx head unframed -/
theorem C27_witness_1xx :
    ¬ NothingAfterHead (respond get11 true [.writeHeader 101, .write [97]]) ∧
    (respond get11 true [.writeHeader 101, .write [97]]).chunking = false ∧
    NothingAfterHead (respond get11 true [.writeHeader 101, .flush]) := by decide +kernel

/-- the verdict of the SPEC oracle on the model's own bytes -/
def verdictOf (rq : Req) (script : List Act) : String :=
  judge rq.isHead rq.proto11 script (respond rq true script).close (respond rq true script).writeRes
    (render (respond rq true script))

/-! The full statement at `ka = true`, `∀ rq script, verdictOf rq script = "ok"`, is false in five ways (one theorem per known-finding class;
    each op is replayed on the real code from corpus/C27/known.ops). -/
theorem C27_witness_204_bytes : verdictOf get11 [.writeHeader 204, .write [97]] = "FAIL:body-after-204" := by decide +kernel
theorem C27_witness_1xx_bytes : verdictOf get11 [.writeHeader 101, .write [97]] = "FAIL:body-after-1xx" := by decide +kernel
/-- a flushed 1xx (what the websocket upgrade sends) is a clean head (commit bb8afff of /repo, findings/C27.txt) -/
theorem C27_1xx_flushed_ok : verdictOf get11 [.writeHeader 101, .flush] = "ok" := by decide +kernel
/-- a handler-set `Transfer-Encoding: chunked` is emitted next to the server's own -/
theorem C27_witness_te_twice :
    verdictOf get11 [.set "Transfer-Encoding" "chunked", .writeHeader 200] = "FAIL:te-chunked-twice" := by decide +kernel
/-- an invalid Content-Length survives in the cloned header and reaches an HTTP/1.0 client -/
theorem C27_witness_bad_cl :
    verdictOf { get11 with proto11 := false } [.set "Content-Length" "abc", .writeHeader 200]
      = "FAIL:bad-content-length" := by decide +kernel
/-- 304 drops the handler's Content-Type -/
theorem C27_witness_304_ct :
    verdictOf get11 [.set "Content-Type" "text/html", .writeHeader 304] = "FAIL:hdr-dropped-304-content-type" := by decide +kernel

/-! Non-vacuity of the full statement: ordinary exchanges get verdict `ok` (chunked with two chunks,
    HTTP/1.0 keep-alive with Content-Length, HEAD, until-close on HTTP/1.0).  (The `maxRecDepth` options matter
    to `decide` without `+kernel` only.) -/
set_option maxRecDepth 16000 in
example : verdictOf get11 [.set "Content-Type" "text/html", .writeHeader 200, .write [97, 98], .flush, .write [99]] = "ok" := by decide +kernel
set_option maxRecDepth 16000 in
example : verdictOf { get11 with proto11 := false, conn := "keep-alive" } [.set "Content-Length" "2", .write [97, 98]] = "ok" := by decide +kernel
set_option maxRecDepth 16000 in
example : verdictOf { get11 with isHead := true } [.write [97, 98]] = "ok" := by decide +kernel
set_option maxRecDepth 16000 in
example : verdictOf { get11 with proto11 := false } [.flush, .write [97, 98]] = "ok" := by decide +kernel

/-! A history with a version flip at equal status (HTTP/1.0 then HTTP/1.1, both 200): verdict `ok` for both. -/
set_option maxRecDepth 16000 in
example : (history [] [({ get11 with proto11 := false }, true, []), (get11, true, [])]).map
            (fun sb => judge sb.1.rq.isHead sb.1.rq.proto11 [] sb.1.close sb.1.writeRes sb.2) = ["ok", "ok"] := by decide +kernel
/-- what the oracle says to an HTTP/1.0 status line in front of a chunked body for an HTTP/1.1 request -/
example : judge false true [] false []
    (statusLine false 200 ++ crlf ++ strBytes "Transfer-Encoding: chunked" ++ crlf ++ crlf ++ strBytes "0\r\n\r\n")
    = "FAIL:chunked-on-http10-status" := by decide +kernel
example : judge false true [] false []
    (statusLine false 200 ++ crlf ++ strBytes "Content-Length: 0" ++ crlf ++ crlf) = "FAIL:status-version-wrong" := by decide +kernel

/-! Closing (`C27_backend_error_closes`) is all that happens on a backend error: a chunked backend body cut
    off inside a chunk reaches the client as a complete, Content-Length-delimited response (finishRequest
    computes the length of what arrived), so the client cannot notice the truncation (known finding
    `backend-truncation-masked`). -/
theorem C27_witness_backend_truncation_masked :
    judgeBackend false true ⟨200, .chunked [3, 4] false true, false, false, false⟩
      (respondBackend get11 true ⟨200, .chunked [3, 4] false true, false, false, false⟩).2
      (render (respondBackend get11 true ⟨200, .chunked [3, 4] false true, false, false, false⟩).1)
    = "FAIL:backend-truncation-masked" := by decide +kernel

/-! Non-vacuity: `NothingAfterHead` holds of ordinary bodyless exchanges; a Content-Length mismatch closes
    and a match does not; an undelimited HTTP/1.0 body closes. -/
example : NothingAfterHead (respond get11 true [.writeHeader 204]) := by decide +kernel
example : NothingAfterHead (respond { get11 with isHead := true } true [.write [97, 98]]) := by decide +kernel
example : (respond get11 true [.set "Content-Length" "2", .write [97]]).close = true := by decide +kernel
example : (respond get11 true [.set "Content-Length" "1", .write [97]]).close = false := by decide +kernel
example : (decideHeader { rq := { get11 with proto11 := false }, ka := true, status := 200, header := [], contentLength := none,
                          closeIn := false, handlerDone := false, pLen := 3 }).close = true := by decide +kernel

end BfeVerif.C27
