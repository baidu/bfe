import BfeVerif.C49.Proofs
/-!
  C49 — every documented rewrite / header / redirect action with valid parameters is accepted and transforms
  the request as documented; after query-deleting actions no deleted key remains in the query string sent to the
  backend (in any encoding) and other query parameters are unchanged.
  The deletion clause holds for canonical queries only (`C49_query_del_full_false`).  The file also holds mod_header's
  value templates (`%variable`) and the reloads of the rule tables.
-/
namespace BfeVerif.C49
open BfeVerif.Generated

/-- parameter counts of the mod_rewrite actions (-1 = any number) as their descriptions imply -/
def docArity : List (String × Int) :=
  [("HOST_SET", 1), ("HOST_SET_FROM_PATH_PREFIX", 0), ("HOST_SUFFIX_REPLACE", 2), ("PATH_SET", 1), ("PATH_PREFIX_ADD", 1),
   ("PATH_PREFIX_TRIM", 1), ("QUERY_ADD", 2), ("QUERY_DEL", -1), ("QUERY_DEL_ALL_EXCEPT", -1), ("QUERY_RENAME", 2)]

/-- every action listed in docs/en_us/modules/mod_rewrite/mod_rewrite.md is allowed by mod_rewrite, has an arm in
    `ActionFileCheck` with the documented parameter count, an arm in `Action.Do`, and is modelled.
    (`HOST_SUFFIX_REPLACE`: fix `fixes/C49-host-suffix-replace.md`.) -/
theorem C49_documented_accepted :
    (∀ c ∈ C49.rewriteDocumented, C49.rewriteAllowed.contains c = true ∧ C49.basicDo.contains c = true ∧
        (Cmd.all.map Cmd.name).contains c = true ∧ (docArity.map (·.1)).contains c = true) ∧
    (∀ e ∈ docArity, C49.basicAccepted.contains e = true) := by decide +kernel

/-- the documented mod_header and mod_redirect actions all have an arm in their module's `ActionFileCheck` -/
theorem C49_documented_accepted_header_redirect :
    (∀ c ∈ C49.headerDocumented, C49.headerAccepted.contains c = true) ∧
    (∀ c ∈ C49.redirectDocumented, C49.redirectAccepted.contains c = true) := by decide +kernel

/-- `fileCheck` over the extracted table accepts a valid HOST_SUFFIX_REPLACE, the command whose arm in
    `ActionFileCheck` is the fix's (the prefix is `C49.headerPrefix`) -/
theorem C49_host_suffix_replace_accepted :
    (match fileCheck C49.basicAccepted ['X','-','B','F','E','-'] "HOST_SUFFIX_REPLACE".toList [['a'], ['b']] with
     | .ok .hostSuffixReplace _ => true | _ => false) = true := by decide +kernel

/-- Full statement (FALSE for the code as it is): for all `&`-pieces and keys, what a backend parses after the
    deletion is what it parsed before minus the deleted keys.  `L` stands for `splitC '&' raw`; not proved: that the
    raw edit `delKeysRaw` is the filter on the pieces (`delKeysSeg`: the driver's `segOK` compares the two on the
    QUERY_DEL cases whose keys hold no `&`), and that `parseQuery` of the rejoined pieces is `parseSegs` of the pieces. -/
def C49_query_del_full : Prop :=
  ∀ (L : List Str) (keys : List Str),
    parseSegs (L.filter fun s => !segHit keys s) = (parseSegs L).filter fun p => !keys.contains p.1

/-- **QUERY_DEL on canonical queries**: if every piece is `key=value` with the key written literally and the keys
    to delete are plain, the backend sees exactly the old pairs minus the deleted keys (order and duplicates of
    the others preserved). -/
theorem C49_query_del_partial (L : List Str) (keys : List Str) (hk : ∀ k ∈ keys, plainKey k = true)
    (hL : ∀ s ∈ L, canonicalSeg s = true) :
    parseSegs (L.filter fun s => !segHit keys s) = (parseSegs L).filter fun p => !keys.contains p.1 :=
  parseSegs_filter_segHit L keys (fun k h => (plainKey_sep (hk k h)).1) fun s hs => canonicalSeg_key (hL s hs)

/-- in particular no deleted key remains -/
theorem C49_query_del_partial_none_left (L : List Str) (keys : List Str) (hk : ∀ k ∈ keys, plainKey k = true)
    (hL : ∀ s ∈ L, canonicalSeg s = true) :
    ∀ p ∈ parseSegs (L.filter fun s => !segHit keys s), p.1 ∉ keys := by
  intro p hp
  rw [C49_query_del_partial L keys hk hL] at hp
  simpa using (List.mem_filter.mp hp).2

/-- witness 1: a percent-encoded key survives (`%61=1`, delete `a`) -/
theorem C49_witness_encoded_key :
    parseSegs ([['%','6','1','=','1']].filter fun s => !segHit [['a']] s) = [(['a'], ['1'])] := by decide +kernel

/-- witness 2: a key without `=` survives (`a&b=2`, delete `a`) -/
theorem C49_witness_valueless_key :
    parseSegs ([['a'], ['b','=','2']].filter fun s => !segHit [['a']] s) = [(['a'], []), (['b'], ['2'])] := by decide +kernel

theorem C49_query_del_full_false : ¬ C49_query_del_full := by
  intro h
  have := h [['%','6','1','=','1']] [['a']]
  revert this
  decide +kernel

/-- the same two witnesses on the literal raw-string edit of `ReqQueryDel` -/
theorem C49_witness_raw :
    delKeysRaw ['%','6','1','=','1'] [['a']] = ['%','6','1','=','1'] ∧
    parseQuery (delKeysRaw ['%','6','1','=','1'] [['a']]) = [(['a'], ['1'])] ∧
    delKeysRaw ['a','&','b','=','2'] [['a']] = ['a','&','b','=','2'] ∧
    delKeysRaw ['b','=','2','&','a'] [['a']] = ['b','=','2','&','a'] ∧
    delKeysRaw ['a','=','1','&','b','=','2','&','a','=','3'] [['a']] = ['b','=','2'] := by decide +kernel

/-- non-vacuity of the hypotheses of `C49_query_del_partial` -/
example : canonicalSeg ['a','=','1'] = true ∧ canonicalSeg ['b','=','%','z'] = true ∧ plainKey ['a'] = true := by decide +kernel

/-- **QUERY_DEL_ALL_EXCEPT on canonical queries**: the keys it deletes are the parsed keys not in the keep list
    (`exceptKeys`, the `req.Query` cache of a fresh request); the backend then sees exactly the old pairs whose key is
    kept — for all lists of literal-key pieces and all keep lists. -/
theorem C49_query_del_all_except_partial (L : List Str) (keep : List Str) (hL : ∀ s ∈ L, canonicalSeg s = true) :
    parseSegs (L.filter fun s => !segHit (exceptKeys L keep) s) = (parseSegs L).filter fun p => keep.contains p.1 :=
  parseSegs_filter_exceptKeys L keep fun s hs => canonicalSeg_key (hL s hs)

/-- witness: an encoded key that is not to be kept survives QUERY_DEL_ALL_EXCEPT (`%61=1&b=2`, keep `b`) -/
theorem C49_witness_del_all_except :
    parseSegs ([['%','6','1','=','1'], ['b','=','2']].filter fun s =>
      !segHit (exceptKeys [['%','6','1','=','1'], ['b','=','2']] [['b']]) s) = [(['a'], ['1']), (['b'], ['2'])] := by decide +kernel

/-- **QUERY_ADD** (all queries, also non-canonical ones): appending the piece `k=v` for plain `k`, `v` adds exactly the
    pair (k, v) at the end of what the backend parses and changes nothing else. -/
theorem C49_query_add (L : List Str) (k v : Str) (hk : plainKey k = true) (hv : plainKey v = true) :
    parseSegs (L ++ [k ++ '=' :: v]) = parseSegs L ++ [(k, v)] := by
  simp [parseSegs, List.filterMap_append, parsePair_plain k v hk hv]

/-- **Lists of deletions compose**: QUERY_DEL k1 followed by QUERY_DEL k2 removes the same pieces as one
    QUERY_DEL (k1 ++ k2) — for all piece lists (no canonicity needed). -/
theorem C49_list_del_del (L : List Str) (k1 k2 : List Str) :
    (L.filter fun s => !segHit k1 s).filter (fun s => !segHit k2 s) = L.filter fun s => !segHit (k1 ++ k2) s := by
  rw [List.filter_filter]
  exact List.filter_congr fun s _ => by simp [segHit_append, Bool.and_comm]

/-- the `req.Query` cache makes action lists differ from their parts: after `QUERY_DEL a` on `a&b=2` the raw query
    still holds the key `a`, but the cache no longer does, so a following `QUERY_RENAME a n` is a no-op
    (witness that sequential composition is NOT the composition of the single-action effects on the parsed query) -/
theorem C49_witness_list_cache :
    let r0 : Req := { host := [], path := ['/'], rawQuery := ['a','&','b','=','2'], hdr := [] }
    let r1 := doAction .queryDel [['a']] r0
    (doAction .queryRename [['a'], ['n']] r1).rawQuery = ['a','&','b','=','2'] ∧
    (parseQuery (doAction .queryRename [['a'], ['n']] r1).rawQuery).map (·.1) = [['a'], ['b']] := by decide +kernel

/-- **The tokenizer is total**: cutting a header-value template into literal / escaped / variable pieces loses and
    invents nothing (the pieces concatenate to the template) and produces no empty piece — for every template. -/
theorem C49_template_split_total (s : Str) :
    (splitTemplate s).flatten = s ∧ ∀ p ∈ splitTemplate s, p ≠ [] :=
  splitParam_total s.length s (Nat.le_refl _)

/-- **Every variable of the source table is ONE token**, alone, between literal text, before a `;`, and twice in a
    row, and alone it loads (that the keys of `mod_header.VariableHandlers` as extracted from the current source are
    variable names is checked by kernel evaluation, `headerVariables_names`; a tokenizer that stops at digits is refuted
    by the correspondence run on exactly these templates). -/
theorem C49_variables_single_token :
    ∀ v ∈ C49.headerVariables,
      splitTemplate ('%' :: v.toList) = ['%' :: v.toList] ∧
      splitTemplate (['a', '-'] ++ '%' :: v.toList ++ ['-', 'b']) = [['a', '-'], '%' :: v.toList, ['-', 'b']] ∧
      splitTemplate ('%' :: v.toList ++ ';' :: '%' :: v.toList) = ['%' :: v.toList, [';'], '%' :: v.toList] ∧
      templateLoads C49.headerVariables ('%' :: v.toList) = true := by
  intro v hv
  have hn := headerVariables_names v hv
  have alone : splitTemplate ('%' :: v.toList) = ['%' :: v.toList] := by
    simpa [splitTemplate_nil] using splitTemplate_var _ [] hn rfl
  refine ⟨alone, ?_, ?_, ?_⟩
  · -- the template bracketed token by token, so that the token lemmas rewrite it from the left
    show splitTemplate (('a' :: ['-']) ++ (('%' :: v.toList) ++ (('-' :: ['b']) ++ []))) = _
    rw [splitTemplate_lit 'a' ['-'] _ (by decide) rfl rfl, splitTemplate_var _ _ hn rfl,
      splitTemplate_lit '-' ['b'] [] (by decide) rfl rfl, splitTemplate_nil]
  · show splitTemplate (('%' :: v.toList) ++ ((';' :: []) ++ ('%' :: v.toList))) = _
    rw [splitTemplate_var _ _ hn rfl, splitTemplate_lit ';' [] _ (by decide) rfl rfl, alone]
  · simpa [templateLoads, alone, varRef_var _ hn, lower_varName _ hn] using hv

/-- every variable listed in docs/en_us/modules/mod_header/mod_header.md is in the source table, hence loads -/
theorem C49_documented_variables_accepted :
    ∀ v ∈ C49.headerVariablesDocumented, C49.headerVariables.contains v = true ∧
      templateLoads C49.headerVariables (['x', '='] ++ '%' :: v.toList ++ [';']) = true := by
  intro v hv
  -- both tables are sorted: one pass over them decides the inclusion
  have hmem : v ∈ C49.headerVariables :=
    (by decide +kernel : C49.headerVariablesDocumented.Sublist C49.headerVariables).subset hv
  have hn := headerVariables_names v hmem
  refine ⟨by simpa using hmem, ?_⟩
  show (splitTemplate (('x' :: ['=']) ++ (('%' :: v.toList) ++ ((';' :: []) ++ [])))).all _ = true
  rw [splitTemplate_lit 'x' ['='] _ (by decide) rfl rfl, splitTemplate_var _ _ hn rfl,
    splitTemplate_lit ';' [] [] (by decide) rfl rfl, splitTemplate_nil]
  simpa [varRef_var _ hn, lower_varName _ hn, show varRef ['x', '='] = none from rfl, show varRef [';'] = none from rfl]
    using hmem

/-- escapes and malformed references: `%%` is literal, a lone `%` and an unknown name are refused -/
theorem C49_template_examples :
    splitTemplate "a%%b%bfe_vip9-%".toList = ["a".toList, "%%b".toList, "%bfe_vip9".toList, "-".toList, "%".toList] ∧
    templateLoads C49.headerVariables "100%%".toList = true ∧
    templateLoads C49.headerVariables "a%".toList = false ∧
    templateLoads C49.headerVariables "%bfe_ssl_ja".toList = false ∧
    expandTemplate (fun n => if n == "bfe_vip".toList then some "9.8.7.6".toList else none) "%%x-%bfe_vip;".toList
      = "%x-9.8.7.6;".toList := by decide +kernel

/-- **Last accepted file wins**: after any history of load attempts the table is the content of the LAST accepted rule
    file (or the initial table if none was accepted) — nothing of earlier files survives, whatever their version strings.
    (The driver's `runMl` folds the `ml` histories with code of its own, not with `tableAfter`.) -/
theorem C49_reload_last_wins {α : Type} (init : Option α) (loads : List (Option α)) :
    tableAfter init loads = (match loads.reverse.findSome? id with | some c => some c | none => init) := by
  -- read backwards, the history is searched for its first accepted file
  rw [tableAfter, List.foldl_eq_foldr_reverse]
  induction loads.reverse with
  | nil => rfl
  | cons l r ih => cases l with
    | none => exact ih
    | some c => rfl

/-- a refused reload changes nothing; an accepted one replaces everything: a product that the new file does not list
    has no rules any more, a listed one has exactly the new rules -/
theorem C49_reload_replaces {α : Type} (init : Option (List (String × α))) (loads : List (Option (List (String × α))))
    (c : List (String × α)) (p : String) :
    tableAfter init (loads ++ [none]) = tableAfter init loads ∧
    tableSearch (tableAfter init (loads ++ [some c])) p = (c.find? (·.1 == p)).map (·.2) ∧
    ((c.find? (·.1 == p)).isNone → tableSearch (tableAfter init (loads ++ [some c])) p = none) := by
  have h2 : tableSearch (tableAfter init (loads ++ [some c])) p = (c.find? (·.1 == p)).map (·.2) := by
    simp [tableAfter, List.foldl_append, tableSearch]
  exact ⟨by simp [tableAfter, List.foldl_append], h2, fun h => by rw [h2, Option.isNone_iff_eq_none.mp h]; rfl⟩

theorem C49_effect_url_set (p host path q : Str) : doRedirect .urlSet p host path q = p := rfl

theorem C49_effect_url_prefix_add (p host path q : Str) :
    doRedirect .urlPrefixAdd p host path q = p ++ path ++ (if q.isEmpty then [] else '?' :: q) := by
  simp [doRedirect, requestURI]

theorem C49_effect_scheme_set (p host path q : Str) :
    doRedirect .schemeSet p host path q = p ++ [':','/','/'] ++ host ++ path ++ (if q.isEmpty then [] else '?' :: q) := by
  simp [doRedirect, requestURI]

/-- URL_FROM_QUERY: the value of the first pair with that key in what `url.ParseQuery` reads, "" if there is none -/
theorem C49_effect_url_from_query (k host path q : Str) :
    doRedirect .urlFromQuery k host path q =
      (match (parseQuery q).find? (·.1 == k) with | some (_, v) => v | none => []) := rfl

example : doRedirect .urlFromQuery ['u'] [] ['/'] ['a','=','1','&','u','=','%','2','F','x','&','u','=','y'] = ['/','x'] := by decide +kernel

/-- REQ/RSP_HEADER_SET / ADD / DEL are the header-map operations on the canonical name -/
theorem C49_effect_mod_header (k v : Str) (h : List (Str × List Str)) :
    doHeader .set [k, v] h = hdrSet h (canon k) v ∧ doHeader .add [k, v] h = hdrAdd h (canon k) v ∧
    doHeader .del [k] h = hdrDel h (canon k) := ⟨rfl, rfl, rfl⟩

theorem C49_effect_mod_header_del_gone (k : Str) (h : List (Str × List Str)) : hdrGet (hdrDel h k) k = [] := by
  have : (hdrDel h k).find? (·.1 == k) = none := by
    rw [List.find?_eq_none]
    intro e he
    simp only [hdrDel, List.mem_filter, bne_iff_ne, ne_eq] at he
    simp [he.2]
  simp [hdrGet, this]

theorem C49_effect_set_scheme (rest s : Str) :
    setScheme (sHttp ++ rest) s = s ++ [':','/','/'] ++ rest ∧ setScheme (sHttps ++ rest) s = s ++ [':','/','/'] ++ rest := by
  constructor <;> simp [setScheme, sHttp, sHttps, indexOf, List.isPrefixOf]

theorem C49_effect_set_scheme_other (uri s : Str) (h1 : sHttp.isPrefixOf uri = false) (h2 : sHttps.isPrefixOf uri = false) :
    setScheme uri s = uri := by simp [setScheme, h1, h2]

theorem C49_effect_add_query (uri k v : Str) :
    addQuery uri k v = uri ++ (if uri.contains '?' then ['&'] else ['?']) ++ k ++ '=' :: v := by
  unfold addQuery; split <;> simp

theorem C49_effect_header_del (k : Str) (r : Req) :
    (doAction .reqHeaderDel [k] r).hdr = r.hdr.filter (·.1 != canon k) ∧
    (doAction .reqHeaderDel [k] r).host = r.host ∧ (doAction .reqHeaderDel [k] r).path = r.path ∧
    (doAction .reqHeaderDel [k] r).rawQuery = r.rawQuery := ⟨rfl, rfl, rfl, rfl⟩

theorem C49_effect_header_set (k v : Str) (r : Req) :
    ∀ e ∈ (doAction .reqHeaderSet [k, v] r).hdr, e.1 = canon k → e.2 = [v] :=
  hdrSet_value r.hdr (canon k) v

theorem C49_effect_host_set (h : Str) (r : Req) :
    doAction .hostSet [h] r = { r with host := h } := rfl

/-- HOST_SUFFIX_REPLACE: a host `pre ++ old` becomes `pre ++ new` (it reads `HttpRequest.Host`) -/
theorem C49_effect_host_suffix_replace (pre o n : Str) (r : Req) (hr : r.host = pre ++ o) :
    (doAction .hostSuffixReplace [o, n] r).host = pre ++ n := by
  rw [doAction_hostSuffixReplace, hr]; exact specHostSuffixReplace_append pre o n

theorem C49_effect_host_suffix_replace_nomatch (o n : Str) (r : Req) (hr : o.isSuffixOf r.host = false) :
    doAction .hostSuffixReplace [o, n] r = r := by
  rw [doAction_hostSuffixReplace, specHostSuffixReplace, hr]; rfl

example : (doAction .hostSuffixReplace [['o','r','g'], ['c','o','m']]
            { host := ['a','.','o','r','g'], path := ['/'], rawQuery := [], hdr := [] }).host = ['a','.','c','o','m'] := by decide +kernel

/-- the driver's oracle for HOST_SUFFIX_REPLACE (`specHostSuffixReplace`) IS this statement: on `pre ++ old` it yields
    `pre ++ new` — the suffix occurrence, however often `old` occurs earlier in `pre` — and it is what `Action.Do` is
    modelled to compute -/
theorem C49_oracle_host_suffix_replace (pre o n : Str) (r : Req) :
    specHostSuffixReplace (pre ++ o) o n = pre ++ n ∧
    (doAction .hostSuffixReplace [o, n] r).host = specHostSuffixReplace r.host o n :=
  ⟨specHostSuffixReplace_append pre o n, by rw [doAction_hostSuffixReplace]⟩

/-- `www.company.com`, `.com` → `.net`: the LAST occurrence changes (not `www.netpany.com`) -/
example : specHostSuffixReplace "www.company.com".toList ".com".toList ".net".toList = "www.company.net".toList := by decide +kernel

theorem C49_effect_path_set (p : Str) (r : Req) :
    doAction .pathSet [p] r = { r with path := p } := rfl

theorem C49_effect_path_prefix_trim (p rest : Str) (r : Req) (hr : r.path = p ++ rest) :
    (doAction .pathPrefixTrim [p] r).path = ensureSlash rest := by
  rw [doAction_pathPrefixTrim, hr]; exact specPathPrefixTrim_append p rest

theorem C49_effect_path_prefix_add (p rest : Str) (r : Req) (hr : r.path = '/' :: rest) :
    (doAction .pathPrefixAdd [p] r).path = ensureSlash (p ++ rest) ∧
    ['/'].isPrefixOf (doAction .pathPrefixAdd [p] r).path = true :=
  ⟨by rw [doAction_pathPrefixAdd, hr]; rfl, ensureSlash_slash _⟩

/-- the oracles for PATH_PREFIX_TRIM / PATH_PREFIX_ADD are the modelled `Action.Do`, and on `p ++ rest` the trim
    removes the leading occurrence only -/
theorem C49_oracle_path_prefix (p rest : Str) (r : Req) :
    specPathPrefixTrim (p ++ rest) p = ensureSlash rest ∧
    (doAction .pathPrefixTrim [p] r).path = specPathPrefixTrim r.path p ∧
    (doAction .pathPrefixAdd [p] r).path = specPathPrefixAdd r.path p :=
  ⟨specPathPrefixTrim_append p rest, rfl, by rw [doAction_pathPrefixAdd]⟩

end BfeVerif.C49
