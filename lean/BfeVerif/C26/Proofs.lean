import BfeVerif.C26.Model
import BfeVerif.C25.Proofs
/-! The hop-by-hop loop (`hopStep` folded over the hop list) is a filter of the header map (`foldl_hopStep_eq`); what is
    forwarded (`mem_forwarded`, `forwarded_hop_te`) and that a protected name keeps its entry (`find_hopRemoveP`, which C29 uses)
    are read off from it. -/
namespace BfeVerif.C26
open BfeVerif.C25

theorem find_filter_key (h : Hdr) (q : Bytes × List Bytes → Bool) {k : Bytes} (hq : ∀ kv, kv.1 = k → q kv = true) :
    (h.filter q).find? (fun kv => kv.1 == k) = h.find? (fun kv => kv.1 == k) := by
  rw [List.find?_filter]
  congr; funext kv
  cases e : kv.1 == k with
  | true => rw [hq kv (eq_of_beq e)]; rfl
  | false => exact decide_eq_false fun hc => Bool.false_ne_true hc.2

theorem lookup_of_mem (h : Hdr) (k : Bytes) (vs : List Bytes) (hd : (h.map (·.1)).Nodup) (hm : (k, vs) ∈ h) :
    lookup h k = vs := by
  unfold lookup
  induction h with
  | nil => cases hm
  | cons x xs ih =>
    rw [List.map_cons, List.nodup_cons] at hd
    rcases List.mem_cons.mp hm with e | hm'
    · rw [← e, List.find?_cons, beq_self_eq_true]
    · have hne : (x.1 == k) = false :=
        beq_false_of_ne fun e => hd.1 (e ▸ List.mem_map.mpr ⟨(k, vs), hm', rfl⟩)
      rw [List.find?_cons, hne]
      exact ih hd.2 hm'

/-- the condition under which `hopStep` deletes header `k` -/
def dels (h : Hdr) (k : Bytes) : Bool := !(lookup h k).isEmpty && !(k == kTe && lookup h k == [sTrailers])

theorem hopStep_eq (h : Hdr) (k : Bytes) : hopStep h k = if dels h k then h.filter (fun kv => kv.1 != k) else h := by
  unfold hopStep dels
  dsimp only
  cases (lookup h k).isEmpty <;> cases (k == kTe && lookup h k == [sTrailers]) <;> rfl

theorem of_not_dels {h : Hdr} {k : Bytes} (hd : dels h k = false) (hne : lookup h k ≠ []) :
    k = kTe ∧ lookup h k = [sTrailers] := by
  rw [dels, List.isEmpty_eq_false_iff.mpr hne, Bool.not_false, Bool.true_and, Bool.not_eq_false', Bool.and_eq_true,
    beq_iff_eq, beq_iff_eq] at hd
  exact hd

/-- `dels` may be judged on the map the loop started from: deleting `k` leaves `Header[k']` alone for `k' ≠ k`, and after
    `k` is deleted there is nothing left to delete under `k`. -/
theorem foldl_hopStep_eq (l : List Bytes) (h : Hdr) :
    l.foldl hopStep h = h.filter fun kv => !(l.contains kv.1 && dels h kv.1) := by
  induction l generalizing h with
  | nil => exact (List.filter_eq_self.mpr fun _ _ => rfl).symm
  | cons k ks ih =>
    rw [List.foldl_cons, ih, hopStep_eq]
    cases hd : dels h k with
    | false =>
      rw [if_neg Bool.false_ne_true]
      refine List.filter_congr fun kv _ => ?_
      rw [List.contains_cons]
      cases e : (kv.1 == k) with
      | true => rw [eq_of_beq e, hd, Bool.and_false, Bool.and_false]
      | false => rfl
    | true =>
      rw [if_pos rfl, List.filter_filter]
      refine List.filter_congr fun kv _ => ?_
      rw [List.contains_cons, bne]
      cases e : (kv.1 == k) with
      | true => rw [eq_of_beq e, hd]; exact Bool.and_false _
      | false =>
        have : dels (h.filter fun kv => kv.1 != k) kv.1 = dels h kv.1 := by
          unfold dels lookup
          rw [find_filter_key h _ fun x hx => bne_iff_ne.mpr (hx ▸ ne_of_beq_false e)]
        rw [this, Bool.false_or]; exact Bool.and_true _

theorem find_foldl_hopStep (l : List Bytes) (h : Hdr) {k : Bytes} (hk : k ∉ l) :
    (l.foldl hopStep h).find? (fun kv => kv.1 == k) = h.find? (fun kv => kv.1 == k) := by
  rw [foldl_hopStep_eq]
  exact find_filter_key h _ fun kv e => by
    rw [e, Bool.eq_false_iff.mpr fun hc => hk (List.contains_iff_mem.mp hc)]; rfl

/-- the names in `prot` are exempt from removal by a Connection token (`hopByHopProtected`) -/
theorem find_hopRemoveP {hop prot : List Bytes} (h : Hdr) {k : Bytes} (hh : k ∉ hop) (hp : k ∈ prot) :
    (hopRemoveP hop prot h).find? (fun kv => kv.1 == k) = h.find? (fun kv => kv.1 == k) :=
  find_foldl_hopStep _ h fun hk => (List.mem_append.mp hk).elim hh fun h1 => by
    have hf := (List.mem_filter.mp h1).2
    rw [List.contains_iff_mem.mpr hp, Bool.not_true, Bool.and_false] at hf
    cases hf

theorem mem_forwarded {h : Hdr} {f : Bytes × Bytes} (hf : f ∈ forwarded h) :
    ∃ vs, (f.1, vs) ∈ h ∧ (∃ v ∈ vs, f.2 = sanitize v) ∧ excluded26 f.1 = false ∧
      ((hopList BfeVerif.Generated.C26.hopHeaders h).contains f.1 && dels h f.1) = false := by
  unfold forwarded outFields hopRemove at hf
  rw [foldl_hopStep_eq] at hf
  obtain ⟨kv, hkv, hin⟩ := List.mem_flatMap.mp hf
  obtain ⟨v, hv, rfl⟩ := List.mem_map.mp hin
  obtain ⟨h1, hex⟩ := List.mem_filter.mp ((mem_sortKV kv _).mp hkv)
  obtain ⟨hm, hkeep⟩ := List.mem_filter.mp h1
  exact ⟨kv.2, hm, ⟨v, hv, rfl⟩, (Bool.not_eq_true' _).mp hex, (Bool.not_eq_true' _).mp hkeep⟩

theorem forwarded_hop_te (h : Hdr) (hd : (h.map (·.1)).Nodup) :
    ∀ f ∈ forwarded h, f.1 ∈ hopList BfeVerif.Generated.C26.hopHeaders h →
      f = (kTe, sTrailers) ∧ lookup h kTe = [sTrailers] := by
  intro f hf hk
  obtain ⟨vs, hm, ⟨v, hv, hfv⟩, _, hkeep⟩ := mem_forwarded hf
  -- on the list and kept, so not deletable, though its entry `vs` is not empty
  rw [List.contains_iff_mem.mpr hk, Bool.true_and] at hkeep
  have hl := lookup_of_mem h f.1 vs hd hm
  obtain ⟨e, ht⟩ := of_not_dels hkeep (hl ▸ List.ne_nil_of_mem hv)
  rw [← hl, ht, List.mem_singleton] at hv
  exact ⟨Prod.ext e (by rw [hfv, hv]; decide), e ▸ ht⟩

theorem forwarded_ne_hop {h : Hdr} (hd : (h.map (·.1)).Nodup) {k : Bytes} (hk : k ∈ BfeVerif.Generated.C26.hopHeaders)
    (hne : k ≠ kTe) : ∀ f ∈ forwarded h, f.1 ≠ k :=
  fun f hf e => hne (e ▸ congrArg Prod.fst (forwarded_hop_te h hd f hf (List.mem_append_left _ (e ▸ hk))).1)

end BfeVerif.C26
