import BfeVerif.C26.Proofs
import BfeVerif.C25.Roundtrip
/-! Proofs about the case-insensitive oracle `violation`.  `canon` changes the case of letters only (`map_lower_canon`) and on token names
    depends on the name ignoring case only (`canon_eq_of_lower`); so on a map with distinct canonical token keys (`Canon`) a key that equals
    a canonical name ignoring case is that name (`canon_inj`), and each clause of `violation` comes down to `forwarded_hop_te`;
    then: the map the wire side builds (`wireHeader`) is `Canon`. -/
namespace BfeVerif.C26
open BfeVerif.C25

theorem lower_spec (x : UInt8) :
    (65 ≤ x.toNat ∧ x.toNat ≤ 90 ∧ (lower x).toNat = x.toNat + 32) ∨
    (¬(65 ≤ x.toNat ∧ x.toNat ≤ 90) ∧ (lower x).toNat = x.toNat) := by
  unfold lower
  simp only [Bool.and_eq_true, decide_eq_true_eq, UInt8.le_iff_toNat_le, UInt8.toNat_ofNat, Nat.reducePow, Nat.reduceMod]
  split
  next hc =>
    refine .inl ⟨hc.1, hc.2, ?_⟩
    rw [UInt8.toNat_add]
    simp only [UInt8.toNat_ofNat, Nat.reducePow, Nat.reduceMod]
    omega
  next hc => exact .inr ⟨hc, rfl⟩

theorem upper_spec (x : UInt8) :
    (97 ≤ x.toNat ∧ x.toNat ≤ 122 ∧ (upper x).toNat = x.toNat - 32) ∨
    (¬(97 ≤ x.toNat ∧ x.toNat ≤ 122) ∧ (upper x).toNat = x.toNat) := by
  unfold upper
  simp only [Bool.and_eq_true, decide_eq_true_eq, UInt8.le_iff_toNat_le, UInt8.toNat_ofNat, Nat.reducePow, Nat.reduceMod]
  split
  next hc =>
    refine .inl ⟨hc.1, hc.2, ?_⟩
    have : (32 : UInt8) ≤ x := UInt8.le_iff_toNat_le.mpr (by simp only [UInt8.toNat_ofNat, Nat.reducePow, Nat.reduceMod]; omega)
    simp only [UInt8.toNat_sub_of_le _ _ this, UInt8.toNat_ofNat, Nat.reducePow, Nat.reduceMod]
  next hc => exact .inr ⟨hc, rfl⟩

theorem isTchar_letter {x : UInt8} (h : 65 ≤ x.toNat ∧ x.toNat ≤ 90 ∨ 97 ≤ x.toNat ∧ x.toNat ≤ 122) :
    isTchar x = true := by
  unfold isTchar
  simp only [Bool.or_eq_true, Bool.and_eq_true, decide_eq_true_eq, UInt8.le_iff_toNat_le, UInt8.toNat_ofNat, Nat.reducePow, Nat.reduceMod]
  omega

theorem upper_lower (x : UInt8) : upper (lower x) = upper x := by
  rcases lower_spec x with ⟨h1, h2, h3⟩ | ⟨_, e⟩
  · apply UInt8.toNat_inj.mp
    have := upper_spec x; have := upper_spec (lower x)
    omega
  · rw [UInt8.toNat_inj.mp e]

theorem lower_upper : ∀ x : UInt8, lower (upper x) = lower x := by
  intro x
  rcases upper_spec x with ⟨h1, h2, h3⟩ | ⟨_, e⟩
  · apply UInt8.toNat_inj.mp
    have := lower_spec x; have := lower_spec (upper x)
    omega
  · rw [UInt8.toNat_inj.mp e]

theorem lower_lower (x : UInt8) : lower (lower x) = lower x := by
  apply UInt8.toNat_inj.mp
  have := lower_spec x; have := lower_spec (lower x)
  omega

/-- 45 = `'-'`, the byte `canonGo` tests -/
theorem lower_beq_dash (x : UInt8) : (lower x == 45) = (x == 45) := by
  rw [Bool.eq_iff_iff]
  simp only [beq_iff_eq, ← UInt8.toNat_inj, UInt8.toNat_ofNat, Nat.reducePow, Nat.reduceMod]
  have := lower_spec x
  omega

theorem isTchar_lower (x : UInt8) : isTchar (lower x) = isTchar x := by
  rcases lower_spec x with ⟨h1, h2, h3⟩ | ⟨_, e⟩
  · rw [isTchar_letter (.inl ⟨h1, h2⟩), isTchar_letter (.inr (by omega))]
  · rw [UInt8.toNat_inj.mp e]

theorem isSpace_of_isOWS (x : UInt8) (h : isOWS x = true) : isSpace x = true := by
  rcases isOWS_cases h with rfl | rfl <;> rfl

theorem tchar_not_space (x : UInt8) (h : isTchar x = true) : isSpace x = false := by
  have ne : ∀ c, isTchar c = false → (x == c) = false := fun c hc => beq_false_of_ne (ne_of_pred hc h)
  unfold isSpace
  rw [ne 32 (by decide), ne 9 (by decide), ne 10 (by decide), ne 11 (by decide), ne 12 (by decide), ne 13 (by decide)]
  rfl

theorem canonGo_map_lower (up : Bool) (a : Bytes) : canonGo up (a.map lower) = canonGo up a := by
  induction a generalizing up with
  | nil => rfl
  | cons x a ih => simp only [List.map_cons, canonGo, upper_lower, lower_lower, lower_beq_dash, ih]

theorem all_tchar_map_lower (a : Bytes) : (a.map lower).all isTchar = a.all isTchar := by
  rw [List.all_map]
  exact congrArg a.all (funext isTchar_lower)

theorem all_tchar_of_lower {a b : Bytes} (h : a.map lower = b.map lower) (ha : a.all isTchar = true) :
    b.all isTchar = true := by
  rw [← all_tchar_map_lower, ← h, all_tchar_map_lower]; exact ha

theorem canon_of_tchar {s : Bytes} (h : s.all isTchar = true) : canon s = canonGo true s := if_pos h

theorem map_lower_canonGo (up : Bool) (a : Bytes) : (canonGo up a).map lower = a.map lower := by
  induction a generalizing up with
  | nil => rfl
  | cons x a ih =>
    rw [canonGo, List.map_cons, List.map_cons, ih]
    cases up
    · rw [if_neg Bool.false_ne_true, lower_lower]
    · rw [if_pos rfl, lower_upper]

theorem map_lower_canon (k : Bytes) : (canon k).map lower = k.map lower := by
  unfold canon
  split
  · exact map_lower_canonGo true k
  · rfl

theorem canon_eq_of_lower {a c : Bytes} (ha : a.all isTchar = true) (h : a.map lower = c.map lower) :
    canon a = canon c := by
  rw [canon_of_tchar ha, canon_of_tchar (all_tchar_of_lower h ha), ← canonGo_map_lower true a, h, canonGo_map_lower]

theorem canon_inj (a b : Bytes) (ha : a.all isTchar = true) (hca : canon a = a) (hcb : canon b = b)
    (h : a.map lower = b.map lower) : a = b :=
  hca.symm.trans ((canon_eq_of_lower ha h).trans hcb)

theorem canon_tchar (k : Bytes) (h : k.all isTchar = true) : (canon k).all isTchar = true :=
  all_tchar_of_lower (map_lower_canon k).symm h

theorem canon_idem (k : Bytes) : canon (canon k) = canon k := by
  by_cases h : k.all isTchar = true
  · exact canon_eq_of_lower (canon_tchar k h) (map_lower_canon k)
  · have e : canon k = k := if_neg h
    rw [e, e]

theorem canon_nonempty (k : Bytes) (h : k ≠ []) : canon k ≠ [] :=
  fun e => h (List.map_eq_nil_iff.mp ((map_lower_canon k).symm.trans (congrArg (List.map lower) e)))

theorem trimSpace_eq_trimOWS (x : Bytes) (hne : trimOWS x ≠ [])
    (hcore : ∀ b ∈ trimOWS x, isSpace b = false) : trimSpace x = trimOWS x :=
  trimBy_eq_of_weaker isSpace_of_isOWS x hcore

/-- header maps as the frontends build them: distinct keys, each a token in canonical form -/
structure Canon (h : Hdr) : Prop where
  nodup : (h.map (·.1)).Nodup
  tok : ∀ kv ∈ h, kv.1.all isTchar = true
  can : ∀ kv ∈ h, canon kv.1 = kv.1

theorem Canon.of_keysCanon (h : Hdr) (hd : (h.map (·.1)).Nodup) (hk : keysCanon h = true) : Canon h := by
  have key : ∀ kv ∈ h, (isToken kv.1 && canon kv.1 == kv.1) = true := List.all_eq_true.mp hk
  simp only [Bool.and_eq_true, beq_iff_eq] at key
  exact ⟨hd, fun kv hkv => all_tchar_of_token (key kv hkv).1, fun kv hkv => (key kv hkv).2⟩

theorem Canon.key_eq {h : Hdr} (C : Canon h) {kv : Bytes × List Bytes} (hkv : kv ∈ h) {K : Bytes}
    (hKc : canon K = K) (hl : kv.1.map lower = K.map lower) : kv.1 = K :=
  canon_inj kv.1 K (C.tok kv hkv) (C.can kv hkv) hKc hl

/-- each name of `listedLower` (the list below is the one mapped there) is in canonical form, and is a hop header other
    than `Te` or is never written; `C26_table_covers` is the membership part for the exact-case statement `C26_listed` -/
theorem listed_table :
    ∀ K ∈ [kConnection, kKeepAlive, kProxyAuthenticate, kProxyAuthorization, kTrailer, kTransferEncoding, kUpgrade],
      canon K = K ∧ (K ∈ BfeVerif.Generated.C26.hopHeaders ∧ K ≠ kTe ∨ excluded26 K = true) := by
  decide +kernel

theorem clause_listed (h : Hdr) (C : Canon h) :
    ∀ f ∈ forwarded h, ¬ listedLower.contains (f.1.map lower) = true := by
  intro f hf hc
  obtain ⟨K, hK, e⟩ := List.mem_map.mp (List.contains_iff_mem.mp hc)
  obtain ⟨hKc, hK'⟩ := listed_table K hK
  obtain ⟨_, he, _, hnex, _⟩ := mem_forwarded hf
  have hfK : f.1 = K := C.key_eq he hKc e.symm
  rcases hK' with ⟨hhop, hne⟩ | hex
  · exact forwarded_ne_hop C.nodup hhop hne f hf hfK
  · rw [← hfK, hnex] at hex
    cases hex

theorem clause_te (h : Hdr) (C : Canon h) :
    ∀ f ∈ forwarded h, ¬ (f.1.map lower == kTe.map lower && f.2 != sTrailers) = true := by
  intro f hf hc
  simp only [Bool.and_eq_true, beq_iff_eq, bne_iff_ne] at hc
  obtain ⟨_, he, _⟩ := mem_forwarded hf
  have e : f.1 = kTe := C.key_eq he (by decide) hc.1
  exact hc.2 (congrArg Prod.snd
    (forwarded_hop_te h C.nodup f hf (by rw [e]; exact List.mem_append.mpr (.inl (by decide)))).1)

/-- the oracle's tokens are among the loop's names: Go's `TrimSpace` and the oracle's OWS-trimming leave the same token,
    because a token has no space byte, and `canon` of the token is the name -/
theorem mem_connNames_of_token {h : Hdr} (C : Canon h) {n : Bytes} (hn : n.all isTchar = true) (hc : canon n = n)
    (ht : n.map lower ∈ connTokens h) (ho : ownLower.contains (n.map lower) = false) : n ∈ connNames h := by
  obtain ⟨ht1, hne⟩ := List.mem_filter.mp ht
  obtain ⟨v, hv, hpiece⟩ := List.mem_flatMap.mp ht1
  obtain ⟨piece, hpm, hpe⟩ := List.mem_map.mp hpiece
  obtain ⟨kv, hkv, hvkv⟩ := List.mem_flatMap.mp hv
  obtain ⟨hkvh, hfold⟩ := List.mem_filter.mp hkv
  have hkc : kv.1 = kConnection := C.key_eq hkvh (by decide) (eq_of_beq hfold)
  have hcoreT : (trimOWS piece).all isTchar = true := all_tchar_of_lower hpe.symm hn
  have hts : trimSpace piece = trimOWS piece :=
    trimSpace_eq_trimOWS piece (fun e => by rw [← hpe, e] at hne; cases hne)
      (fun b hb => tchar_not_space b (List.all_eq_true.mp hcoreT b hb))
  refine List.mem_filter.mpr ⟨List.mem_map.mpr ⟨trimOWS piece, ?_, (canon_eq_of_lower hn hpe.symm).symm.trans hc⟩, ?_⟩
  · rw [lookup_of_mem h kConnection kv.2 C.nodup (hkc ▸ hkvh)]
    exact List.mem_flatMap.mpr ⟨v, hvkv, List.mem_map.mpr ⟨piece, hpm, hts⟩⟩
  · -- a protected name is one of BFE's own
    have hnp : BfeVerif.Generated.C26.hopProtected.contains n = false := Bool.eq_false_iff.mpr fun hp =>
      Bool.eq_false_iff.mp ho (List.contains_iff_mem.mpr
        (List.mem_map.mpr ⟨n, List.mem_append.mpr (.inr (List.contains_iff_mem.mp hp)), rfl⟩))
    rw [hnp, List.isEmpty_eq_false_iff.mpr fun e => by rw [e] at hne; cases hne]
    rfl

theorem clause_tokens (h : Hdr) (C : Canon h) :
    ∀ f ∈ forwarded h,
      ¬ ((connTokens h).filter fun t => !ownLower.contains t && t != kTe.map lower).contains (f.1.map lower) = true := by
  intro f hf hc
  obtain ⟨hct, hcond⟩ := List.mem_filter.mp (List.contains_iff_mem.mp hc)
  simp only [Bool.and_eq_true, Bool.not_eq_true', bne_iff_ne, ne_eq] at hcond
  obtain ⟨_, he, _⟩ := mem_forwarded hf
  have hin := mem_connNames_of_token C (C.tok _ he) (C.can _ he) hct hcond.1
  exact hcond.2 (congrArg (·.1.map lower) (forwarded_hop_te h C.nodup f hf (List.mem_append.mpr (.inr hin))).1)

theorem oracle_none (h : Hdr) (C : Canon h) : violation h (forwarded h) = none := by
  have f1 : ((forwarded h).map fun f => f.1.map lower).find? (fun x => listedLower.contains x) = none :=
    List.find?_eq_none.mpr (List.forall_mem_map.mpr (clause_listed h C))
  have f2 : (forwarded h).any (fun f => f.1.map lower == kTe.map lower && f.2 != sTrailers) = false :=
    List.any_eq_false.mpr (clause_te h C)
  have f3 : ((forwarded h).map fun f => f.1.map lower).any
      (fun x => ((connTokens h).filter fun t => !ownLower.contains t && t != kTe.map lower).contains x) = false :=
    List.any_eq_false.mpr (List.forall_mem_map.mpr (clause_tokens h C))
  unfold violation
  simp only [f1, f2, f3]
  rfl

theorem Canon.filter {h : Hdr} (C : Canon h) (p : Bytes × List Bytes → Bool) : Canon (h.filter p) :=
  ⟨(List.filter_sublist.map _).nodup C.nodup,
   fun kv hkv => C.tok kv (List.mem_filter.mp hkv).1,
   fun kv hkv => C.can kv (List.mem_filter.mp hkv).1⟩

theorem Canon.cons_new {h : Hdr} (C : Canon h) (k : Bytes) (vs : List Bytes) (hk : k.all isTchar = true)
    (hc : canon k = k) (hn : ∀ kv ∈ h, kv.1 ≠ k) : Canon ((k, vs) :: h) :=
  ⟨List.nodup_cons.mpr ⟨fun hm => by obtain ⟨kv, hkv, e⟩ := List.mem_map.mp hm; exact hn kv hkv e, C.nodup⟩,
   List.forall_mem_cons.mpr ⟨hk, C.tok⟩, List.forall_mem_cons.mpr ⟨hc, C.can⟩⟩

theorem Canon.perm {h h' : Hdr} (C : Canon h) (p : h.Perm h') : Canon h' :=
  ⟨(p.map _).nodup_iff.mp C.nodup, fun kv hkv => C.tok kv (p.mem_iff.mpr hkv), fun kv hkv => C.can kv (p.mem_iff.mpr hkv)⟩

theorem groupFields_canon (fs : List (Bytes × Bytes)) (ht : ∀ f ∈ fs, isToken f.1 = true) :
    Canon (groupFields fs) := by
  induction fs with
  | nil => exact ⟨List.nodup_nil, nofun, nofun⟩
  | cons f rest ih =>
    have hk := all_tchar_of_token (ht f (List.mem_cons_self ..))
    exact ((ih fun f hf => ht f (List.mem_cons_of_mem _ hf)).filter _).cons_new _ _ (canon_tchar f.1 hk) (canon_idem f.1)
      fun kv hkv => bne_iff_ne.mp (List.mem_filter.mp hkv).2

theorem wireHeader_canon (wf : List (Bytes × Bytes)) (ht : ∀ f ∈ wf, isToken f.1 = true)
    (h : Hdr) (fr : Framing) (hw : wireHeader wf = some (h, fr)) : Canon h := by
  -- `P o`: the map in the result `o`, if there is one, is canonical; shown branch by branch
  let P (o : Option (Hdr × Framing)) : Prop := ∀ h fr, o = some (h, fr) → Canon h
  have pnone : P none := fun _ _ e => nomatch e
  have psome : ∀ {x : Hdr} {fr : Framing}, Canon x → P (some (x, fr)) := fun cx _ _ e => by cases e; exact cx
  have pite : ∀ {c : Prop} [Decidable c] {a b : Option (Hdr × Framing)}, P a → P b → P (if c then a else b) := by
    intro c _ a b ha hb; split <;> assumption
  refine (?_ : P (wireHeader wf)) h fr hw
  unfold wireHeader
  extract_lets h0 h1 te cls dropTrailer
  have c0 : Canon h0 := groupFields_canon _ (fun f hf => ht f (List.mem_filter.mp hf).1)
  have c1 : Canon h1 := iteInduction (fun hc => by
      simp only [Bool.and_eq_true, Bool.not_eq_true', List.any_eq_false, beq_iff_eq] at hc
      exact (c0.cons_new kCacheControl _ (by decide) (by decide) hc.2).perm (List.perm_append_singleton ..).symm) (fun _ => c0)
  have dt : ∀ x : Hdr, Canon x → Canon (dropTrailer x) := fun x cx => iteInduction (fun _ => cx) (fun _ => Canon.filter cx _)
  clear_value h1 dropTrailer
  refine pite (pite pnone (psome (dt _ (Canon.filter c1 _)))) ?_
  cases cls with
  | nil => exact psome (dt _ c1)
  | cons c more =>
    refine pite pnone ?_
    cases decVal (trimOWS c) with
    | none => exact pnone
    | some n => exact psome (dt _ c1)

end BfeVerif.C26
