import BfeVerif.C26.Oracle
/-!
  C26 — hop-by-hop headers are not forwarded.  (Model = `hopByHopHeaderRemove` as patched by
  fixes/C26-connection-tokens.md and fixes/C26-protected-headers.md; `hopRemoveOld` is the unpatched loop.)
  Header maps are as the frontends build them: keys in canonical form (so `Header.Get/Del` of the loop
  are exact lookups), pairwise distinct.  `forwarded h` = the client fields `Request.write` emits after
  `hopByHopHeaderRemove`; tables `hopHeaders` / `reqWriteExclude` are regenerated from the source.
-/
namespace BfeVerif.C26
open BfeVerif.C25

/-- The property at full strength, as the executable oracle the driver applies to the real output:
    for every header map a frontend can build (distinct keys, each a token in canonical form), the
    case-insensitive judgement finds no listed hop-by-hop field, no TE other than `trailers`, and no field
    named by a token of the Connection header among the forwarded fields. -/
def C26_full : Prop :=
  ∀ h : Hdr, (h.map (·.1)).Nodup → keysCanon h = true → violation h (forwarded h) = none

/-- **C26, full strength (patched loop)**: the oracle itself holds — names are compared ignoring case, Connection
    tokens are taken from every value, split at commas, trimmed and lower-cased exactly as the oracle does. -/
theorem C26_full_holds : C26_full :=
  fun h hd hk => oracle_none h (Canon.of_keysCanon h hd hk)

/-- **C26 (patched loop), core statement**: a forwarded field never carries a name that is in
    `bfe_basic.HopHeaders` or that is (the canonical form of) a token of the client's `Connection`
    header — the only exception being the single field `Te: trailers`.  For every header map with
    distinct keys (a Go map), whatever the values (empty first values, several values, any case of the
    tokens, optional whitespace). -/
theorem C26_hop_and_connection_tokens (h : Hdr) (hd : (h.map (·.1)).Nodup) :
    ∀ f ∈ forwarded h, f.1 ∈ hopList BfeVerif.Generated.C26.hopHeaders h →
      f.1 = kTe ∧ lookup h kTe = [sTrailers] :=
  fun f hf hk => (forwarded_hop_te h hd f hf hk).imp (congrArg Prod.fst) id

/-- the listed names are in the regenerated table, hence covered by the theorem above -/
theorem C26_table_covers :
    kConnection ∈ BfeVerif.Generated.C26.hopHeaders ∧ kKeepAlive ∈ BfeVerif.Generated.C26.hopHeaders ∧
    kProxyAuthenticate ∈ BfeVerif.Generated.C26.hopHeaders ∧ kProxyAuthorization ∈ BfeVerif.Generated.C26.hopHeaders ∧
    kTe ∈ BfeVerif.Generated.C26.hopHeaders ∧ kTransferEncoding ∈ BfeVerif.Generated.C26.hopHeaders ∧
    kUpgrade ∈ BfeVerif.Generated.C26.hopHeaders := by decide +kernel

/-- **Listed hop-by-hop fields**: none of Connection, Keep-Alive, Proxy-Authenticate, Proxy-Authorization,
    Upgrade is forwarded, and Te only as the single field `Te: trailers`. -/
theorem C26_listed (h : Hdr) (hd : (h.map (·.1)).Nodup) :
    ∀ f ∈ forwarded h,
      f.1 ≠ kConnection ∧ f.1 ≠ kKeepAlive ∧ f.1 ≠ kProxyAuthenticate ∧ f.1 ≠ kProxyAuthorization ∧
      f.1 ≠ kUpgrade ∧ (f.1 = kTe → lookup h kTe = [sTrailers]) := by
  intro f hf
  obtain ⟨cConn, cKA, cPAe, cPAo, cTe, _, cUpg⟩ := C26_table_covers
  exact ⟨forwarded_ne_hop hd cConn (by decide) f hf, forwarded_ne_hop hd cKA (by decide) f hf,
    forwarded_ne_hop hd cPAe (by decide) f hf, forwarded_ne_hop hd cPAo (by decide) f hf,
    forwarded_ne_hop hd cUpg (by decide) f hf,
    fun e => (C26_hop_and_connection_tokens h hd f hf (List.mem_append_left _ (e ▸ cTe))).2⟩

/-- **Connection tokens**: a field the client's `Connection` header names is not forwarded (same exception). -/
theorem C26_connection_tokens (h : Hdr) (hd : (h.map (·.1)).Nodup) :
    ∀ f ∈ forwarded h, f.1 ∈ connNames h → f.1 = kTe ∧ lookup h kTe = [sTrailers] := by
  intro f hf hk
  exact C26_hop_and_connection_tokens h hd f hf (List.mem_append.mpr (Or.inr hk))

/-- **Transfer-Encoding and Trailer never come from the client** (whatever their values):
    the write exclusion table drops them. (`HopHeaders` says "Trailers", which is not the field name.) -/
theorem C26_excluded_never (h : Hdr) :
    ∀ f ∈ forwarded h, f.1 ≠ kTransferEncoding ∧ f.1 ≠ kTrailer := by
  intro f hf
  obtain ⟨_, _, _, hex, _⟩ := mem_forwarded hf
  exact ⟨(ne_of_pred hex (b := kTransferEncoding) (by decide)).symm,
    (ne_of_pred hex (b := kTrailer) (by decide)).symm⟩

/-- the removal invents no field name -/
theorem C26_only_removes (h : Hdr) : ∀ f ∈ forwarded h, ∃ vs, (f.1, vs) ∈ h := by
  intro f hf
  obtain ⟨vs, hm, _⟩ := mem_forwarded hf
  exact ⟨vs, hm⟩

/-- **C26 from the wire**: for ANY list of field lines with token names (any case, the same name on several lines,
    Connection on several lines, bodies framed by Content-Length or chunked, Trailer, Pragma), the header map the read
    path leaves (`wireHeader`, model of ReadRequest's grouping and of readTransfer's deletions) satisfies the oracle
    after `hopByHopHeaderRemove`. -/
theorem C26_wire_full (wf : List (Bytes × Bytes)) (ht : ∀ f ∈ wf, isToken f.1 = true)
    (h : Hdr) (fr : Framing) (hw : wireHeader wf = some (h, fr)) : violation h (forwarded h) = none :=
  oracle_none h (wireHeader_canon wf ht h fr hw)

/-! ### the three inputs the unpatched loop (`hopRemoveOld`) lets through (kept in corpus/C26): they violate the property
    under it and are judged clean under the patched one -/
def wConnToken : Hdr := [(kConnection, [[120, 45, 102, 111, 111]]), ([88, 45, 70, 111, 111], [[49]])]   -- Connection: x-foo / X-Foo: 1
def wEmptyFirst : Hdr := [(kConnection, [[], sClose])]                                                     -- Connection: "" , close
def wTeFirst : Hdr := [(kTe, [sTrailers, [103, 122, 105, 112]])]                                            -- Te: trailers / Te: gzip

def forwardedOld (h : Hdr) : List (Bytes × Bytes) := outFields (hopRemoveOld BfeVerif.Generated.C26.hopHeaders h)

theorem C26_old_code_witnesses :
    violation wConnToken (forwardedOld wConnToken) = some "connection-token" ∧
    violation wEmptyFirst (forwardedOld wEmptyFirst) = some "empty-first-value" ∧
    violation wTeFirst (forwardedOld wTeFirst) = some "te-trailers-first" := by decide +kernel

theorem C26_fixed_on_witnesses :
    violation wConnToken (forwarded wConnToken) = none ∧ forwarded wConnToken = [] ∧
    violation wEmptyFirst (forwarded wEmptyFirst) = none ∧
    violation wTeFirst (forwarded wTeFirst) = none := by decide +kernel

example : forwarded [(kConnection, [sClose]), (kUpgrade, [[104, 50, 99]]), ([88], [[49]])] = [([88], [49])] := by decide +kernel
example : forwarded [(kTe, [sTrailers])] = [(kTe, sTrailers)] := by decide +kernel
example : connNames wConnToken = [[88, 45, 70, 111, 111]] := by decide +kernel
example : ((wConnToken.map (·.1)).Nodup) := by decide +kernel
example : keysCanon wConnToken = true ∧ keysCanon wEmptyFirst = true ∧ keysCanon wTeFirst = true := by decide +kernel
/-- a token in another case, with whitespace, in the second Connection value -/
example : forwarded [(kConnection, [sClose, [32, 120, 45, 70, 79, 111, 9]]), ([88, 45, 70, 111, 111], [[49]]), ([65], [[50]])] = [([65], [50])] := by decide +kernel

end BfeVerif.C26
