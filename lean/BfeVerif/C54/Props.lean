import BfeVerif.C54.Proofs
/-! C54 — compressed responses decompress to the original body. -/
namespace BfeVerif.C54

variable {S : Type}

def ClosedOnce (tr : List Op) : Prop := ∃ pre, tr = pre ++ [Op.c] ∧ Op.c ∉ pre

theorem session_inv (cp : Comp S) (hp : cp.FlushProgress) (body : Bytes) (fs : Nat) (hfs : 0 < fs) :
    ∀ (ps : List Nat) (st : FSt), Inv cp body st →
      let r := session cp fs st ps
      Inv cp body r.2.2 ∧
      (cp.emit r.2.2.trace).take r.2.2.consumed = (cp.emit st.trace).take st.consumed ++ r.1.flatten ∧
      (r.2.1 = true → r.2.2.closed = true ∧ r.2.2.consumed = (cp.emit r.2.2.trace).length) := by
  intro ps st
  -- arms of `session`: no Read left | this Read returns io.EOF (stop) | it does not (go on)
  fun_induction session cp fs st ps with
  | case1 st => exact fun hi => ⟨hi, (List.append_nil _).symm, nofun⟩
  | case2 st p ps r he =>
    intro hi
    obtain ⟨hinv, hpre, heof⟩ := fread_inv cp hp body fs hfs st p hi
    refine ⟨hinv, ?_, fun _ => heof he⟩
    rw [hpre, (fread_eof cp fs st p he).2]
    rfl
  | case3 st p ps r he q ih =>
    intro hi
    obtain ⟨hinv, hpre, _⟩ := fread_inv cp hp body fs hfs st p hi
    obtain ⟨hinv', hpre', heof'⟩ := ih hinv
    refine ⟨hinv', ?_, heof'⟩
    rw [hpre', hpre, List.append_assoc]
    rfl

/-- For every source chunking, flush size > 0 and sequence of reader buffer sizes: if the reader reaches io.EOF, what
    it read is the compressor's output for "write all source bytes (in some segmentation, flushed in between), close
    once", the close being the last call — hence (compressor contract) it decompresses to the source body.
    No premature EOF: EOF comes only after that close, with an empty buffer. -/
theorem C54_stream (cp : Comp S) (dec : Bytes → Option Bytes) (hc : cp.Correct dec) (hp : cp.FlushProgress)
    (chunks : List Bytes) (fs : Nat) (hfs : 0 < fs) (ps : List Nat) :
    let r := session cp fs { src := chunks } ps
    r.2.1 = true →
      r.1.flatten = cp.emit r.2.2.trace ∧ ClosedOnce r.2.2.trace ∧ written r.2.2.trace = chunks.flatten ∧
      dec r.1.flatten = some chunks.flatten := by
  intro r heof
  have hi0 : Inv cp chunks.flatten ({ src := chunks } : FSt) :=
    ⟨rfl, fun _ => List.not_mem_nil, nofun, Nat.zero_le _⟩
  obtain ⟨hinv, hout, hE⟩ := session_inv cp hp chunks.flatten fs hfs ps { src := chunks } hi0
  obtain ⟨hcl, hcons⟩ := hE heof
  obtain ⟨hw, _, hclosed, _⟩ := hinv
  obtain ⟨hsrc, pre, htr, hpre⟩ := hclosed hcl
  have hflat : r.1.flatten = cp.emit r.2.2.trace := by
    rw [hcons, List.take_length] at hout
    exact hout.symm
  have hwr : written r.2.2.trace = chunks.flatten := by
    rw [hsrc, List.flatten_nil, List.append_nil] at hw; exact hw
  refine ⟨hflat, ⟨pre, htr, hpre⟩, hwr, ?_⟩
  rw [hflat, htr, hc pre hpre, ← hwr, htr, written_append]
  exact congrArg some (List.append_nil _).symm

/-- non-vacuity of C54_stream: `toy` satisfies both contracts, for every chunking / flush size / reader … -/
example (chunks : List Bytes) (fs : Nat) (hfs : 0 < fs) (ps : List Nat)
    (h : (session toy fs { src := chunks } ps).2.1 = true) :
    toyDec (session toy fs { src := chunks } ps).1.flatten = some chunks.flatten :=
  (C54_stream toy toyDec toy_correct toy_flushProgress chunks fs hfs ps h).2.2.2

/-- … and the EOF hypothesis is reachable: body `[7,8,9]` in chunks `[7] [] [8,9]`, flush size 2, reader
    buffers of 3 bytes — EOF at the 4th Read, output decodes to the body. -/
example : (session toy 2 { src := [[7], [], [8, 9]] } [3, 3, 3, 3, 3, 3, 3, 3]).2.1 = true ∧
    toyDec (session toy 2 { src := [[7], [], [8, 9]] } [3, 3, 3, 3, 3, 3, 3, 3]).1.flatten = some [7, 8, 9] := by
  decide +kernel

/-- A rule that `ActionFileCheck` lets through carries a flush size in [64, 4096] (in particular > 0) and a quality
    in the compressor's range; a missing Quality/FlushSize never loads. -/
theorem C54_loaded_in_range (cmd : Option Cmd) (q fs : Option Int)
    (h : actionFileCheck cmd q fs = .ok) :
    ∃ qv f, q = some qv ∧ fs = some f ∧ 64 ≤ f ∧ f ≤ 4096 ∧
      ((cmd = some .gzip ∧ -2 ≤ qv ∧ qv ≤ 9) ∨ (cmd = some .brotli ∧ 0 ≤ qv ∧ qv ≤ 11)) := by
  revert h
  -- rejections: no command | no Quality | no FlushSize | unknown command | Quality out of range | FlushSize out of range
  fun_cases actionFileCheck cmd q fs with
  | case1 | case2 | case3 | case4 | case5 | case6 => exact nofun
  | case7 c qv f hc lo hi hq hf =>
    simp only [Bool.or_eq_true, decide_eq_true_eq, not_or, Int.not_lt] at hq hf
    refine fun _ => ⟨qv, f, rfl, rfl, hf.1, hf.2, ?_⟩
    cases c with
    | gzip => exact Or.inl ⟨rfl, hq.1, hq.2⟩
    | brotli => exact Or.inr ⟨rfl, hq.1, hq.2⟩
    | other => exact absurd rfl hc

/-- Progress of the chunked copy loop: with a flush size > 0 (every loaded rule has one, `C54_loaded_in_range`)
    repeating `CopyN(writer, source, flushSize)` until a call copies nothing has copied ALL bytes of the source, for
    every chunking, within `n + 1` calls for `n` bytes. -/
theorem C54_copy_progress (fs : Nat) (hfs : 0 < fs) (n : Nat) (src : List Bytes)
    (hlen : src.flatten.length ≤ n) :
    (drain fs (n + 1) src).1 = src.flatten ∧ (drain fs (n + 1) src).2 = [] := by
  rw [drain_of_lt fs hfs (n + 1) src (Nat.lt_succ_of_le hlen)]
  exact ⟨rfl, rfl⟩

/-- … and the hypothesis is necessary: with flush size 0 the very first CopyN copies nothing from a
    non-empty source, which `Read` takes for the end of the body (the filter then closes the compressor
    and delivers a valid, EMPTY stream).  This is why a loader that lets FlushSize 0 through breaks C54. -/
theorem C54_witness_flush0 (d : Bytes) (rest : List Bytes) :
    copyN (d :: rest) 0 = ([], d :: rest) ∧
    ∀ {S : Type} (cp : Comp S) (p : Nat),
      (fread cp 0 { src := d :: rest } p).2.trace = [Op.c] ∧ (fread cp 0 { src := d :: rest } p).2.src = d :: rest := by
  refine ⟨by simp [copyN, copyLoop], ?_⟩
  intro S cp p
  simp [fread, copyN, copyLoop]

example : actionFileCheck (some .brotli) (some 4) (some 64) = .ok := by decide +kernel
example : actionFileCheck (some .brotli) (some 4) (some 0) = .err := by decide +kernel
example : actionFileCheck (some .gzip) none (some 512) = .err := by decide +kernel
example : (drain 2 6 [[7], [], [8, 9, 10], [11]]).1 = [7, 8, 9, 10, 11] := by decide +kernel

/-- Source errors are not swallowed: if the backend body's `Read` ends with a non-EOF error, no `Read` of the filter
    returns io.EOF — the reader cannot take the truncated stream for a complete one — and the compressor is not
    closed; `Inv` and `closed = false` are kept, so this holds along every read sequence. -/
theorem C54_error_not_swallowed (cp : Comp S) (hp : cp.FlushProgress) (body : Bytes) (fs : Nat) (hfs : 0 < fs)
    (st : FSt) (p : Nat) (hi : Inv cp body st) (hopen : st.closed = false) :
    (freadX cp fs true st p).1.2 ≠ RRes.eof ∧ (freadX cp fs true st p).2.closed = false ∧
    Inv cp body (freadX cp fs true st p).2 := by
  rw [freadX, Bool.true_and]
  by_cases hlt : st.src.flatten.length < fs
  · -- the error is returned: what was copied stays written, nothing else changes
    rw [if_pos (decide_eq_true hlt)]
    obtain ⟨hw, hnc, _, hle⟩ := hi
    refine ⟨nofun, hopen, ?_, fun _ => close_not_mem_append_writes _ _ (hnc hopen), ?_, ?_⟩
    · show written (st.trace ++ _) ++ _ = body
      rw [written_append, written_map_w, List.append_assoc, copyN_flatten, hw]
    · intro (h : st.closed = true)
      rw [hopen] at h; cases h
    · exact Nat.le_trans hle (emit_length_mono cp _ _)
  · -- at least `fs` bytes are left: an ordinary Read that copies something, so no close and no io.EOF
    rw [if_neg (by rw [decide_eq_true_eq]; exact hlt)]
    have hc0 : (copyN st.src fs).1.flatten.length ≠ 0 := by
      intro h0
      rw [(copyN_done st.src fs hfs h0).1] at hlt
      exact hlt hfs
    have hcl : (fread cp fs st p).2.closed = false := by
      rw [fread_closed, readClosed, if_pos hc0]; exact hopen
    refine ⟨fun heof => ?_, hcl, (fread_inv cp hp body fs hfs st p hi).1⟩
    cases he : (fread cp fs st p).1.2 with
    | true => exact hc0 (fread_eof_idle cp hp fs st p hi.2.2.2 he)
    | false => rw [he] at heof; cases heof

example : (freadX toy 4 true { src := [[1, 2]] } 8).1.2 = RRes.err := by decide +kernel
example : (freadX toy 2 true { src := [[1, 2]] } 8).1.2 = RRes.ok := by decide +kernel

/-- Reload of the rule table: the action in force is the one of the LAST accepted file; a rejected file
    changes nothing (`actionInForce none first`: what is in force when only `first` was offered). -/
theorem C54_reload_last_accepted (first second : Option (Load × Cmd × Nat)) :
    (∀ c f, second = some (.ok, c, f) → actionInForce first second = some (c, f)) ∧
    ((∀ c f, second ≠ some (.ok, c, f)) → actionInForce first second = actionInForce none first) := by
  constructor
  · intro c f h; subst h; rfl
  · intro h
    unfold actionInForce
    split
    · rename_i c f; exact absurd rfl (h c f)
    · cases first with
      | none => rfl
      | some x => rfl

/-- If the handler installs a compression filter it announces that coding in Content-Encoding and removes
    Content-Length, the response was not encoded already and Accept-Encoding has the coding as a `HasToken` token;
    otherwise both headers are untouched. -/
theorem C54_headers (i : HIn) :
    (∀ e, (handler i).enc = some e →
        (e = Cmd.gzip ∨ e = Cmd.brotli) ∧ (handler i).ce = tokOf e ∧ (handler i).hasCL = false ∧
        hasToken i.ae (tokOf e) = true ∧ (i.ce = [] ∨ i.ce = sIdentity)) ∧
    ((handler i).enc = none → (handler i).ce = i.ce ∧ (handler i).hasCL = i.hasCL) := by
  fun_cases handler i with
  | case1 | case2 | case3 | case4 | case5 | case7 | case9 =>
    -- the exits that leave the response as it is
    exact ⟨nofun, fun _ => ⟨rfl, rfl⟩⟩
  | case6 _ hce _ _ _ _ _ ht | case8 _ hce _ _ _ _ _ ht =>
    -- the gzip filter | the brotli filter is installed
    have hce' : i.ce = [] ∨ i.ce = sIdentity := by
      cases hh : i.ce with
      | nil => exact Or.inl rfl
      | cons _ _ => rw [hh] at hce; exact Or.inr (by simpa using hce)
    exact ⟨fun e he => by cases he; exact ⟨by decide, rfl, rfl, by simpa [tokOf] using ht, hce'⟩, nofun⟩

/-- Full-strength reading of "only if the request accepted that encoding" (RFC 7231 §5.3.4: the coding
    is listed with a non-zero weight).  bfe's handler does NOT satisfy it: -/
def AcceptedOnly : Prop :=
  ∀ i : HIn, ∀ e, (handler i).enc = some e → rfcAccepts i.ae (tokOf e) = true

def aeQ0 : Bytes := [103, 122, 105, 112, 32, 59, 113, 61, 48]              -- "gzip ;q=0"
def aeFoo : Bytes := [102, 111, 111, 32, 103, 122, 105, 112]              -- "foo gzip"
def aeBrGzHalf : Bytes := [98, 114, 44, 32, 103, 122, 105, 112, 59, 113, 61, 48, 46, 53]   -- "br, gzip;q=0.5"
def aeDeflGZip : Bytes := [100, 101, 102, 108, 97, 116, 101, 44, 32, 71, 90, 105, 112]     -- "deflate, GZip"

def witnessQ0 : HIn :=
  { ae := aeQ0, ce := [], hasCL := true, rules := some [{ hit := true, cmd := .gzip }] }

/-- `Accept-Encoding: gzip ;q=0` (gzip explicitly refused) is compressed with gzip: `HasToken` treats the
    space before `;` as a token boundary and never looks at the weight. -/
theorem C54_witness_q0 : ¬ AcceptedOnly := by
  intro h
  have := h witnessQ0 Cmd.gzip (by decide +kernel)
  revert this
  decide +kernel

/-- The provable part of `AcceptedOnly`: compression happens only when `HasToken` finds the coding in
    Accept-Encoding.  (How `HasToken` relates to the RFC element list is not proved; the harness compares the two and
    reports the deviation classes `q0-accepted` and `malformed-element-accepted`.) -/
theorem C54_accepted_partial (i : HIn) (e : Cmd) (h : (handler i).enc = some e) :
    hasToken i.ae (tokOf e) = true :=
  let ⟨_, _, _, ht, _⟩ := (C54_headers i).1 e h
  ht

/-- second deviation, malformed element: `foo gzip` lists no coding `gzip`, yet is compressed -/
example : (handler { witnessQ0 with ae := aeFoo }).enc = some Cmd.gzip ∧
    rfcListed aeFoo sGzip = false := by decide +kernel

/-- non-vacuity of C54_headers: a request that is compressed, one that is not -/
example : (handler { witnessQ0 with ae := aeBrGzHalf }).enc = none := by decide +kernel
example : (handler { witnessQ0 with ae := aeDeflGZip }).enc = some Cmd.gzip := by decide +kernel

end BfeVerif.C54
