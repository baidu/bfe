import BfeVerif.C54.Model
/-! C54 — `copyN` loses no byte and copies something unless the source is exhausted; one `Read` of the filter keeps the
    invariant `Inv` (`fread_inv`). -/
namespace BfeVerif.C54

variable {S : Type}

theorem emitFrom_append (cp : Comp S) (s : S) (a b : List Op) :
    cp.emitFrom s (a ++ b) = cp.emitFrom s a ++ cp.emitFrom (a.foldl (fun s o => (cp.step s o).1) s) b := by
  induction a generalizing s with
  | nil => rfl
  | cons o r ih => simp [Comp.emitFrom, ih]

theorem emit_append (cp : Comp S) (a b : List Op) :
    cp.emit (a ++ b) = cp.emit a ++ cp.emitFrom (a.foldl (fun s o => (cp.step s o).1) cp.init) b := by
  unfold Comp.emit; exact emitFrom_append cp _ a b

theorem emit_length_mono (cp : Comp S) (a b : List Op) : (cp.emit a).length ≤ (cp.emit (a ++ b)).length := by
  rw [emit_append, List.length_append]; exact Nat.le_add_right ..

theorem written_append (a b : List Op) : written (a ++ b) = written a ++ written b := by
  induction a with
  | nil => rfl
  | cons o r ih => cases o <;> simp [written, ih, List.append_assoc]

theorem written_map_w (ws : List Bytes) : written (ws.map Op.w) = ws.flatten := by
  induction ws with
  | nil => rfl
  | cons a r ih => simp [written, ih]

theorem pieces_flatten (b : Nat) (hb : 0 < b) (fuel : Nat) : ∀ d : Bytes, d.length ≤ fuel →
    (pieces b fuel d).flatten = d := by
  induction fuel with
  | zero => intro d h; obtain rfl := List.eq_nil_of_length_eq_zero (Nat.le_zero.mp h); rfl
  | succ n ih =>
    intro d h
    rw [pieces]
    cases d with
    | nil => rfl
    | cons x d' =>
      rw [if_neg (by simp), List.flatten_cons, ih _ (by rw [List.length_drop]; omega), List.take_append_drop]

/-- io.CopyN's contract: no byte is lost, and the loop stops only at the end of the source or with `rem` bytes copied -/
theorem copyLoop_spec (b : Nat) (hb : 0 < b) (src : List Bytes) (rem : Nat) :
    (copyLoop b src rem).1.flatten ++ (copyLoop b src rem).2.flatten = src.flatten ∧
    ((copyLoop b src rem).2 = [] ∨ (copyLoop b src rem).1.flatten.length = rem) := by
  -- arms of `copyLoop`: source empty | rem = 0 | chunk longer than rem (cut it) | whole chunk copied, recurse
  fun_induction copyLoop b src rem with
  | case1 => exact ⟨rfl, Or.inl rfl⟩
  | case2 => exact ⟨rfl, Or.inr rfl⟩
  | case3 d rest rem _ hgt =>
    show (pieces b rem (d.take rem)).flatten ++ (d.drop rem :: rest).flatten = _ ∧
      (_ ∨ (pieces b rem (d.take rem)).flatten.length = rem)
    rw [pieces_flatten b hb rem _ (List.length_take_le rem d), List.flatten_cons, ← List.append_assoc,
      List.take_append_drop, List.length_take]
    exact ⟨rfl, Or.inr (Nat.min_eq_left (Nat.le_of_lt hgt))⟩
  | case4 d rest rem _ hle r ih =>
    show (pieces b d.length d ++ r.1).flatten ++ _ = _ ∧ (_ ∨ (pieces b d.length d ++ r.1).flatten.length = rem)
    rw [List.flatten_append, pieces_flatten b hb _ d (Nat.le_refl _), List.append_assoc, ih.1, List.length_append]
    exact ⟨rfl, ih.2.imp_right fun (h : r.1.flatten.length = _) => by omega⟩

theorem copyBuf_pos (n : Nat) : 0 < copyBuf n := by
  fun_cases copyBuf n <;> omega

theorem copyN_flatten (src : List Bytes) (fs : Nat) :
    (copyN src fs).1.flatten ++ (copyN src fs).2.flatten = src.flatten :=
  (copyLoop_spec (copyBuf fs) (copyBuf_pos fs) src fs).1

theorem copyN_done (src : List Bytes) (fs : Nat) (hfs : 0 < fs)
    (h0 : (copyN src fs).1.flatten.length = 0) : src.flatten = [] ∧ (copyN src fs).2 = [] := by
  have hsrc : (copyN src fs).2 = [] :=
    (copyLoop_spec (copyBuf fs) (copyBuf_pos fs) src fs).2.resolve_right fun h => by rw [copyN, h] at h0; omega
  have hfl := copyN_flatten src fs
  rw [List.eq_nil_of_length_eq_zero h0, hsrc] at hfl
  exact ⟨hfl.symm, hsrc⟩

theorem drain_of_lt (fs : Nat) (hfs : 0 < fs) (k : Nat) : ∀ src : List Bytes, src.flatten.length < k →
    drain fs k src = (src.flatten, []) := by
  induction k with
  | zero => intro src h; omega
  | succ k ih =>
    intro src hlen
    have hfl := copyN_flatten src fs
    rw [drain]
    dsimp only
    by_cases h0 : (copyN src fs).1.flatten.length = 0
    · obtain ⟨h1, h2⟩ := copyN_done src fs hfs h0
      rw [if_pos h0, h1, h2]
    · have := congrArg List.length hfl
      rw [List.length_append] at this
      rw [if_neg h0, ih _ (by omega), hfl]

/-- what was written plus the unread source is the body; one close, by the last call, only when the source is empty; the
    reader is not ahead of the compressor's output -/
def Inv (cp : Comp S) (body : Bytes) (st : FSt) : Prop :=
  written st.trace ++ st.src.flatten = body ∧
  (st.closed = false → Op.c ∉ st.trace) ∧
  (st.closed = true → st.src = [] ∧ ∃ pre, st.trace = pre ++ [Op.c] ∧ Op.c ∉ pre) ∧
  st.consumed ≤ (cp.emit st.trace).length

/-- the compressor calls one `Read` makes (`fread_trace`) -/
def readOps (fs : Nat) (st : FSt) : List Op :=
  let r := copyN st.src fs
  if r.1.flatten.length ≠ 0 then r.1.map Op.w ++ [Op.f]
  else if !st.closed then r.1.map Op.w ++ [Op.c] else r.1.map Op.w

/-- whether one `Read` leaves the compressor closed (`fread_closed`) -/
def readClosed (fs : Nat) (st : FSt) : Bool :=
  if (copyN st.src fs).1.flatten.length ≠ 0 then st.closed else true

theorem fread_src (cp : Comp S) (fs : Nat) (st : FSt) (p : Nat) :
    (fread cp fs st p).2.src = (copyN st.src fs).2 := rfl

theorem fread_trace (cp : Comp S) (fs : Nat) (st : FSt) (p : Nat) :
    (fread cp fs st p).2.trace = st.trace ++ readOps fs st := rfl

theorem fread_closed (cp : Comp S) (fs : Nat) (st : FSt) (p : Nat) :
    (fread cp fs st p).2.closed = readClosed fs st := rfl

theorem fread_out (cp : Comp S) (fs : Nat) (st : FSt) (p : Nat) :
    (fread cp fs st p).1.1 = ((cp.emit (st.trace ++ readOps fs st)).drop st.consumed).take p ∧
    (fread cp fs st p).2.consumed = st.consumed + (fread cp fs st p).1.1.length :=
  ⟨rfl, rfl⟩

theorem fread_eof (cp : Comp S) (fs : Nat) (st : FSt) (p : Nat) (h : (fread cp fs st p).1.2 = true) :
    (cp.emit (st.trace ++ readOps fs st)).length ≤ st.consumed ∧ (fread cp fs st p).1.1 = [] := by
  have hd : (cp.emit (st.trace ++ readOps fs st)).drop st.consumed = [] :=
    List.isEmpty_iff.mp (Bool.and_eq_true_iff.mp h).1
  exact ⟨List.drop_eq_nil_iff.mp hd, by rw [(fread_out cp fs st p).1, hd, List.take_nil]⟩

theorem fread_consumed (cp : Comp S) (fs : Nat) (st : FSt) (p : Nat) (hle : st.consumed ≤ (cp.emit st.trace).length) :
    (fread cp fs st p).2.consumed ≤ (cp.emit (fread cp fs st p).2.trace).length ∧
    (cp.emit (fread cp fs st p).2.trace).take (fread cp fs st p).2.consumed =
      (cp.emit st.trace).take st.consumed ++ (fread cp fs st p).1.1 := by
  obtain ⟨ho1, ho2⟩ := fread_out cp fs st p
  have hpre := emit_append cp st.trace (readOps fs st)
  rw [fread_trace, ho2, ho1]
  constructor
  · have h1 : (((cp.emit (st.trace ++ readOps fs st)).drop st.consumed).take p).length ≤
        (cp.emit (st.trace ++ readOps fs st)).length - st.consumed := by
      rw [← List.length_drop]; exact List.length_take_le' _ _
    have h2 := Nat.le_trans hle (emit_length_mono cp st.trace (readOps fs st))
    omega
  · rw [List.take_add, List.length_take, ← List.take_eq_take_min]
    congr 1
    rw [hpre, List.take_append_of_le_length hle]

theorem written_readOps (fs : Nat) (st : FSt) : written (readOps fs st) = (copyN st.src fs).1.flatten := by
  have h1 : ∀ (ws : List Bytes) (o : Op), written [o] = [] → written (ws.map Op.w ++ [o]) = ws.flatten :=
    fun ws o ho => by rw [written_append, written_map_w, ho, List.append_nil]
  -- copied something: writes then flush | nothing copied, still open: close | already closed: no call
  fun_cases readOps fs st with
  | case1 | case2 => exact h1 _ _ rfl
  | case3 => exact written_map_w _

theorem close_not_mem_append_writes (tr : List Op) (ws : List Bytes) (h : Op.c ∉ tr) : Op.c ∉ tr ++ ws.map Op.w := by
  simpa using h

/-- io.EOF means that the buffer is empty after this call's compressor output; a flush after a non-empty write would have
    put a byte there (`FlushProgress`), so this call copied nothing -/
theorem fread_eof_idle (cp : Comp S) (hp : cp.FlushProgress) (fs : Nat) (st : FSt) (p : Nat)
    (hle : st.consumed ≤ (cp.emit st.trace).length) (heof : (fread cp fs st p).1.2 = true) :
    (copyN st.src fs).1.flatten.length = 0 := by
  refine Decidable.by_contra fun hc0 => ?_
  have h1 := (fread_eof cp fs st p heof).1
  have h2 := hp st.trace (copyN st.src fs).1 (fun h => hc0 (by rw [h]; rfl))
  rw [show readOps fs st = (copyN st.src fs).1.map Op.w ++ [Op.f] from if_pos hc0, ← List.append_assoc] at h1
  omega

/-- the close discipline of `Inv` (its second and third part) through the compressor calls of one `Read` -/
theorem read_phase (fs : Nat) (hfs : 0 < fs) (st : FSt) (hnc : st.closed = false → Op.c ∉ st.trace)
    (hcl : st.closed = true → st.src = [] ∧ ∃ pre, st.trace = pre ++ [Op.c] ∧ Op.c ∉ pre) :
    (readClosed fs st = false → Op.c ∉ st.trace ++ readOps fs st) ∧
    (readClosed fs st = true → (copyN st.src fs).2 = [] ∧
      ∃ pre, st.trace ++ readOps fs st = pre ++ [Op.c] ∧ Op.c ∉ pre) := by
  cases hcc : st.closed with
  | true =>
    -- closed before: the source is empty, no call is made
    obtain ⟨hs, hpre⟩ := hcl hcc
    have hro : readOps fs st = [] := by rw [readOps, hs, hcc]; rfl
    have hrc : readClosed fs st = true := by rw [readClosed, hs]; rfl
    rw [hro, hrc, List.append_nil, hs]
    exact ⟨nofun, fun _ => ⟨rfl, hpre⟩⟩
  | false =>
    by_cases hc0 : (copyN st.src fs).1.flatten.length ≠ 0
    · -- copied something: written and flushed, still open
      rw [show readOps fs st = _ from if_pos hc0, show readClosed fs st = _ from if_pos hc0, hcc, ← List.append_assoc]
      refine ⟨fun _ => ?_, nofun⟩
      rw [List.mem_append, not_or]
      exact ⟨close_not_mem_append_writes _ _ (hnc hcc), by decide⟩
    · -- nothing left to copy: this call closes
      have hro : readOps fs st = (copyN st.src fs).1.map Op.w ++ [Op.c] := by rw [readOps, if_neg hc0, hcc]; rfl
      rw [hro, show readClosed fs st = true from if_neg hc0, ← List.append_assoc]
      exact ⟨nofun, fun _ => ⟨(copyN_done st.src fs hfs (Decidable.not_not.mp hc0)).2, _, rfl,
        close_not_mem_append_writes _ _ (hnc hcc)⟩⟩

theorem fread_inv (cp : Comp S) (hp : cp.FlushProgress) (body : Bytes) (fs : Nat) (hfs : 0 < fs)
    (st : FSt) (p : Nat) (hi : Inv cp body st) :
    Inv cp body (fread cp fs st p).2 ∧
    (cp.emit (fread cp fs st p).2.trace).take (fread cp fs st p).2.consumed =
      (cp.emit st.trace).take st.consumed ++ (fread cp fs st p).1.1 ∧
    ((fread cp fs st p).1.2 = true → (fread cp fs st p).2.closed = true ∧
       (fread cp fs st p).2.consumed = (cp.emit (fread cp fs st p).2.trace).length) := by
  obtain ⟨hw, hnc, hcl, hle⟩ := hi
  obtain ⟨hcons, hout⟩ := fread_consumed cp fs st p hle
  obtain ⟨hopen, hclosed⟩ := read_phase fs hfs st hnc hcl
  have hwr : written (fread cp fs st p).2.trace ++ (fread cp fs st p).2.src.flatten = body := by
    rw [fread_trace, fread_src, written_append, written_readOps, List.append_assoc, copyN_flatten, hw]
  -- io.EOF: this call copied nothing (`fread_eof_idle`), so `readClosed` is `true`
  refine ⟨⟨hwr, hopen, hclosed, hcons⟩, hout, fun heof => ⟨if_neg (· (fread_eof_idle cp hp fs st p hle heof)), ?_⟩⟩
  -- at io.EOF nothing is handed out, so `consumed` stays where the buffer ends
  obtain ⟨h1, h2⟩ := fread_eof cp fs st p heof
  rw [(fread_out cp fs st p).2, h2] at hcons ⊢
  rw [fread_trace] at hcons ⊢
  exact Nat.le_antisymm hcons h1

/-- a compressor with both contracts, against vacuity of `C54_stream`: byte `x` -> `1 x`, flush -> `0`, close -> `2` -/
def toy : Comp Unit :=
  { init := (), write := fun _ b => ((), b.flatMap fun x => [1, x]),
    flush := fun _ => ((), [0]), close := fun _ => ((), [2]) }

def toyDec : Bytes → Option Bytes
  | [] => none
  | a :: r =>
    if a = 0 then toyDec r
    else if a = 2 then (if r.isEmpty then some [] else none)
    else if a = 1 then
      (match r with
       | [] => none
       | b :: r' => (toyDec r').map (b :: ·))
    else none

theorem toyDec_write (b E : Bytes) :
    toyDec ((b.flatMap fun x => [1, x]) ++ E) = (toyDec E).map (b ++ ·) := by
  induction b with
  | nil => simp
  | cons x b' ih =>
    simp only [List.flatMap_cons, List.cons_append, List.nil_append]
    rw [toyDec]
    simp only [show ¬ ((1 : UInt8) = 0) by decide, show ¬ ((1 : UInt8) = 2) by decide, if_false, if_true]
    rw [ih]
    cases toyDec E <;> simp

theorem toyDec_zero (E : Bytes) : toyDec (0 :: E) = toyDec E := by
  cases E <;> simp [toyDec]

theorem toy_correct : toy.Correct toyDec := by
  intro pre
  induction pre with
  | nil => intro _; rfl
  | cons o r ih =>
    intro hc
    have ih' := ih fun h => hc (List.mem_cons_of_mem _ h)
    cases o with
    | w b =>
      show toyDec ((b.flatMap fun x => [1, x]) ++ toy.emit (r ++ [Op.c])) = some (b ++ written r)
      rw [toyDec_write, ih']; rfl
    | f =>
      show toyDec (0 :: toy.emit (r ++ [Op.c])) = some (written r)
      rw [toyDec_zero, ih']
    | c => exact absurd List.mem_cons_self hc

theorem toy_flushProgress : toy.FlushProgress := by
  intro pre ws _
  rw [emit_append, emit_append]
  -- the flush alone emits one byte, whatever the writes before it emitted
  simp only [List.length_append, Comp.emitFrom, Comp.step, toy, List.length_cons, List.length_nil, Nat.zero_add,
    Nat.add_zero]
  omega

end BfeVerif.C54
