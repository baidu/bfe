import BfeVerif.C32.Model
/-! C32: `ReadFrame` in terms of the table's `seqBad`; what a returned frame looks like. -/
namespace BfeVerif.C32

-- Walking an `if` by its head: unlike `split` on a big term, these do not traverse the branches.
theorem ite_prop {α : Type} {P : α → Prop} {c : Prop} [Decidable c] {a b : α} (ha : P a) (hb : P b) :
    P (if c then a else b) := by
  split
  · exact ha
  · exact hb

theorem ite_eq_cases {α : Type} {c : Prop} [Decidable c] {a b x : α} (h : (if c then a else b) = x) :
    c ∧ a = x ∨ ¬ c ∧ b = x := by
  split at h
  · exact Or.inl ⟨‹_›, h⟩
  · exact Or.inr ⟨‹_›, h⟩

theorem ite_some {α : Type} {c : Prop} [Decidable c] {a f : α}
    (h : (if c then some a else none) = some f) : c ∧ a = f :=
  (ite_eq_cases h).elim (fun h => ⟨h.1, Option.some.inj h.2⟩) (fun h => nomatch h.2)

theorem guard_ok {ε α : Type} {c : Prop} [Decidable c] {e : ε} {r : Except ε α} {a : α}
    (h : (if c then .error e else r) = .ok a) : r = .ok a :=
  (ite_eq_cases h).elim (fun h => nomatch h.2) (·.2)

theorem guard_passed {ε α : Type} {c : Prop} [Decidable c] {e : ε} {r : Except ε α} {a : α}
    (h : (if c then .error e else r) = .ok a) : ¬ c :=
  (ite_eq_cases h).elim (fun h => nomatch h.2) (·.1)

theorem order_plain (fr : Framer) (fh : FH) (h0 : fr.lastHeaderStream = 0) (h1 : fh.typ ≠ 1) (h9 : fh.typ ≠ 9) :
    checkFrameOrder fr fh = .ok fr := by
  simp [checkFrameOrder, h0, h1, h9]

-- `checkFrameOrder`: the frames it lets pass (`orderOK`) and the state it then returns (`orderNext`, its `upd`)
def orderOK (fr : Framer) (fh : FH) : Prop :=
  if fr.lastHeaderStream ≠ 0 then fh.typ = 9 ∧ fh.sid = fr.lastHeaderStream else fh.typ ≠ 9

def orderNext (fr : Framer) (fh : FH) : Framer :=
  if fh.typ = 1 ∨ fh.typ = 9 then
    (if hasFlag fh.flags 4 then { fr with lastHeaderStream := 0 } else { fr with lastHeaderStream := fh.sid })
  else fr

theorem checkFrameOrder_eq (fr : Framer) (fh : FH) :
    checkFrameOrder fr fh =
      if seqBad fr.lastHeaderStream fh then .error (.conn cProtocol) else .ok (orderNext fr fh) := by
  unfold checkFrameOrder seqBad orderNext
  by_cases h0 : fr.lastHeaderStream = 0
  · by_cases h9 : fh.typ = 9 <;> simp [h0, h9]
  · by_cases h9 : fh.typ = 9
    · by_cases hs : fh.sid = fr.lastHeaderStream <;> simp [h0, h9, hs]
    · simp [h0, h9]

theorem seqBad_eq_false_iff (fr : Framer) (fh : FH) : seqBad fr.lastHeaderStream fh = false ↔ orderOK fr fh := by
  unfold seqBad orderOK
  by_cases h0 : fr.lastHeaderStream = 0 <;> simp [h0]

theorem acceptFrame_eq (fr : Framer) (fh : FH) (p : Bytes) :
    acceptFrame fr fh p =
      match parseFrame fh p with
      | .error e => (.error e, fr)
      | .ok f => if seqBad fr.lastHeaderStream fh then (.error (.conn cProtocol), fr) else (.ok f, orderNext fr fh) := by
  unfold acceptFrame
  rw [checkFrameOrder_eq]
  cases parseFrame fh p with
  | error e => rfl
  | ok f => cases seqBad fr.lastHeaderStream fh <;> rfl

theorem acceptFrame_ok_iff (fr fr' : Framer) (fh : FH) (p : Bytes) (f : Frame) :
    acceptFrame fr fh p = (.ok f, fr') ↔
      parseFrame fh p = .ok f ∧ seqBad fr.lastHeaderStream fh = false ∧ fr' = orderNext fr fh := by
  rw [acceptFrame_eq]
  cases parseFrame fh p with
  | error e => simp
  | ok f0 => cases seqBad fr.lastHeaderStream fh <;> simp [eq_comm]

theorem parseHeader_short (inp : Bytes) (h : inp.length < 9) : parseHeader inp = none := by
  unfold parseHeader
  split
  · simp only [List.length_cons] at h; omega
  · rfl

theorem cons_of_length {α : Type} {n : Nat} {l : List α} (h : n + 1 ≤ l.length) : ∃ a t, l = a :: t ∧ n ≤ t.length := by
  cases l with
  | nil => simp at h
  | cons a t => exact ⟨a, t, rfl, by simpa using h⟩

theorem parseHeader_take (inp : Bytes) (h : 9 ≤ inp.length) :
    ∃ fh, parseHeader inp = some (fh, inp.drop 9) ∧ parseHeader (inp.take 9) = some (fh, []) := by
  obtain ⟨l0, t0, rfl, h0⟩ := cons_of_length h
  obtain ⟨l1, t1, rfl, h1⟩ := cons_of_length h0
  obtain ⟨l2, t2, rfl, h2⟩ := cons_of_length h1
  obtain ⟨ty, t3, rfl, h3⟩ := cons_of_length h2
  obtain ⟨fl, t4, rfl, h4⟩ := cons_of_length h3
  obtain ⟨s0, t5, rfl, h5⟩ := cons_of_length h4
  obtain ⟨s1, t6, rfl, h6⟩ := cons_of_length h5
  obtain ⟨s2, t7, rfl, h7⟩ := cons_of_length h6
  obtain ⟨s3, t8, rfl, h8⟩ := cons_of_length h7
  exact ⟨_, rfl, rfl⟩

theorem readFrame_returned {fr fr' : Framer} {inp rest : Bytes} {f : Frame}
    (h : readFrame fr inp = (.ok f, fr', rest)) :
    ∃ fh rest0, parseHeader inp = some (fh, rest0) ∧ fh.length ≤ fr.maxReadSize ∧ fh.length ≤ rest0.length ∧
      parseFrame fh (rest0.take fh.length) = .ok f ∧ orderOK fr fh ∧ fr' = orderNext fr fh ∧
      rest = rest0.drop fh.length := by
  unfold readFrame at h
  split at h
  · cases h
  · rename_i fh rest0 hh
    rcases ite_eq_cases h with ⟨_, ⟨⟩⟩ | ⟨hbig, h⟩
    rcases ite_eq_cases h with ⟨_, ⟨⟩⟩ | ⟨hshort, h⟩
    simp only [Prod.mk.injEq] at h
    obtain ⟨hp, hseq, hfr⟩ := (acceptFrame_ok_iff ..).mp (Prod.ext h.1 h.2.1)
    exact ⟨fh, rest0, hh, by omega, by omega, hp, (seqBad_eq_false_iff fr fh).mp hseq, hfr, h.2.2.symm⟩

-- `Frame`'s constructors stand in wire order, the unknown types last
theorem parseFrame_shape {fh : FH} {p : Bytes} {f : Frame} (h : parseFrame fh p = .ok f) :
    f.fh = fh ∧ f.ctorIdx = min fh.typ 10 := by
  unfold parseFrame at h
  split at h
  case h_11 =>
    cases h
    simp only [imp_false] at *
    exact ⟨rfl, show 10 = min fh.typ 10 by omega⟩
  -- every leaf of each type parser is an error or `.ok` of that type's constructor applied to `fh`
  all_goals
    rename_i ht
    revert f
    have hP := @ite_prop _ (fun r : Except Err Frame => ∀ f, r = .ok f → f.fh = fh ∧ f.ctorIdx = min fh.typ 10)
    simp only [parseData, parseHeaders, parsePriority, parseRST, parseSettings, parsePushPromise, parsePing,
      parseGoAway, parseWindowUpdate, parseContinuation]
    repeat' first | refine hP ?_ ?_ | split
    all_goals
      intro f h
      cases h
    all_goals exact ⟨rfl, by rw [ht]; rfl⟩

end BfeVerif.C32
