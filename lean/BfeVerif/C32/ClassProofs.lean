import BfeVerif.C32.Proofs
import BfeVerif.C32.Checked
/-! C32: for every frame type the class of the parser's answer equals the RFC table `specCore`; with the order check
    behind it, the class of `ReadFrame`'s answer. -/
namespace BfeVerif.C32

theorem settingValid_isSome (s : Nat × Nat) : (settingValid s).isSome = rfcSettingBad s := by
  obtain ⟨i, v⟩ := s
  unfold settingValid rfcSettingBad
  by_cases h2 : i = 2
  · subst h2
    by_cases h1 : v = 1
    · subst h1; simp
    · by_cases h0 : v = 0
      · subst h0; simp
      · have : v > 1 := by omega
        simp [h1, h0, this]
  · by_cases h4 : i = 4
    · subst h4
      by_cases hv : v > 2147483647
      · simp [hv]
      · simp [hv]
    · by_cases h5 : i = 5
      · subst h5
        by_cases ha : v < 16384
        · simp [ha]
        · by_cases hb : v > 16777215
          · simp [ha, hb]
          · simp [ha, hb]
      · simp [h2, h4, h5]

theorem settingsValid_isSome (l : List (Nat × Nat)) : (settingsValid l).isSome = l.any rfcSettingBad := by
  induction l with
  | nil => rfl
  | cons s t ih =>
    simp only [settingsValid, List.any_cons]
    rw [← settingValid_isSome s, ← ih]
    cases settingValid s <;> simp

theorem settingValue_bad (p : Bytes) (v : Nat) (h : settingValue p 4 = some v) (hv : v > 2147483647) :
    (settingsOf p).any rfcSettingBad = true := by
  unfold settingValue at h
  cases hf : (settingsOf p).find? (fun s => s.1 == 4) with
  | none => rw [hf] at h; cases h
  | some s =>
    rw [hf] at h
    have hv' : s.2 = v := Option.some.inj h
    have hm := List.mem_of_find?_eq_some hf
    have h4 := List.find?_some hf
    simp only [beq_iff_eq] at h4
    rw [List.any_eq_true]
    refine ⟨s, hm, ?_⟩
    unfold rfcSettingBad
    simp [h4, hv', hv]

theorem cls_pad_tail (c : Prop) [Decidable c] (f : Frame) (hf : postCheck f = none) :
    classOf (if c then .error (.conn cProtocol) else .ok f) = if c then .connErr else .accept := by
  by_cases hc : c <;> simp [hc, classOf, hf]

theorem cls_data (flags length sid : Nat) (p : Bytes) :
    classOf (parseData ⟨0, flags, length, sid⟩ p) = specCore ⟨0, flags, length, sid⟩ p := by
  simp only [parseData, specCore, fixedLen, padOf]
  by_cases hs : sid = 0
  · simp [hs, classOf]
  · simp only [beq_iff_eq, hs, if_false]
    rcases Bool.eq_false_or_eq_true (hasFlag flags 8) with hf | hf <;>
      simp only [hf, if_true, Bool.false_eq_true, if_false, Bool.true_and, Bool.false_and, beq_self_eq_true, Bool.true_or]
    · match p with
      | [] => rfl
      | b :: r => exact cls_pad_tail _ _ rfl
    · exact cls_pad_tail _ _ rfl

theorem cls_continuation (flags length sid : Nat) (p : Bytes) :
    classOf (parseContinuation ⟨9, flags, length, sid⟩ p) = specCore ⟨9, flags, length, sid⟩ p := by
  cases sid <;> rfl

theorem cls_ping (flags length sid : Nat) (p : Bytes) :
    classOf (parsePing ⟨6, flags, length, sid⟩ p) = specCore ⟨6, flags, length, sid⟩ p := by
  simp only [parsePing, specCore]
  by_cases h8 : p.length = 8
  · by_cases hs : sid = 0
    · simp [h8, hs, classOf, postCheck]
    · simp [h8, hs, classOf]
  · simp [h8, classOf]

theorem cls_rst (flags length sid : Nat) (p : Bytes) :
    classOf (parseRST ⟨3, flags, length, sid⟩ p) = specCore ⟨3, flags, length, sid⟩ p := by
  match p with
  | [] | [_] | [_, _] | [_, _, _] | _ :: _ :: _ :: _ :: _ :: _ => rfl
  | [_, _, _, _] => cases sid <;> rfl

theorem cls_priority (flags length sid : Nat) (p : Bytes) :
    classOf (parsePriority ⟨2, flags, length, sid⟩ p) = specCore ⟨2, flags, length, sid⟩ p := by
  cases sid with
  | zero => rfl
  | succ n =>
    match p with
    | [] | [_] | [_, _] | [_, _, _] | [_, _, _, _] | [_, _, _, _, _] | _ :: _ :: _ :: _ :: _ :: _ :: _ => rfl

-- Stated through `Checked.wuResult` so that no proof has to unfold `if low31 (be32 ..) == 0`
-- (`rfl`, `show` and simp's closing `rfl` do not come back from evaluating it on symbolic bytes).
theorem parseWindowUpdate_four (fh : FH) (a b c d : Nat) :
    parseWindowUpdate fh [a, b, c, d] = Checked.wuResult fh (low31 (be32 a b c d)) := by
  simp only [parseWindowUpdate, Checked.wuResult]

theorem parseWindowUpdate_ne_four (fh : FH) {p : Bytes} (h : p.length ≠ 4) :
    parseWindowUpdate fh p = .error (.conn cFrameSize) := by
  unfold parseWindowUpdate
  split
  · exact absurd rfl h
  · rfl

theorem length_eq_four {p : Bytes} (h : p.length = 4) : ∃ a b c d, p = [a, b, c, d] :=
  match p, h with
  | [a, b, c, d], _ => ⟨a, b, c, d, rfl⟩

theorem cls_wuResult (fh : FH) (inc : Nat) :
    classOf (Checked.wuResult fh inc) =
    (if (inc == 0) = true then (if (fh.sid == 0) = true then Class.connErr else Class.streamErr) else Class.accept) := by
  unfold Checked.wuResult
  by_cases hi : inc = 0
  · by_cases hs : fh.sid = 0
    · simp [hi, hs, classOf]
    · simp [hi, hs, classOf]
  · simp [hi, classOf, postCheck]

theorem cls_windowUpdate (flags length sid : Nat) (p : Bytes) :
    classOf (parseWindowUpdate ⟨8, flags, length, sid⟩ p) = specCore ⟨8, flags, length, sid⟩ p := by
  by_cases h4 : p.length = 4
  · obtain ⟨a, b, c, d, rfl⟩ := length_eq_four h4
    have hspec : specCore ⟨8, flags, length, sid⟩ [a, b, c, d] =
        (if low31 (be32 a b c d) == 0 then (if sid == 0 then Class.connErr else Class.streamErr) else Class.accept) := by
      simp only [specCore, List.getD_cons_zero, List.getD_cons_succ, List.length_cons, List.length_nil, Nat.reduceAdd,
        bne_self_eq_false, Bool.false_eq_true, if_false]
    exact Eq.trans (congrArg classOf (parseWindowUpdate_four _ a b c d))
      (Eq.trans (cls_wuResult ⟨8, flags, length, sid⟩ (low31 (be32 a b c d))) hspec.symm)
  · have hspec : specCore ⟨8, flags, length, sid⟩ p = Class.connErr := by
      simp only [specCore]
      rw [if_pos (by simpa using h4)]
    rw [parseWindowUpdate_ne_four _ h4, hspec]
    rfl

theorem cls_goAway (flags length sid : Nat) (p : Bytes) :
    classOf (parseGoAway ⟨7, flags, length, sid⟩ p) = specCore ⟨7, flags, length, sid⟩ p := by
  cases sid with
  | succ n => rfl
  | zero =>
    match p with
    | [] | [_] | [_, _] | [_, _, _] | [_, _, _, _] | [_, _, _, _, _] | [_, _, _, _, _, _] | [_, _, _, _, _, _, _]
    | _ :: _ :: _ :: _ :: _ :: _ :: _ :: _ :: _ => rfl

theorem cls_pushPromise (flags length sid : Nat) (p : Bytes) :
    classOf (parsePushPromise ⟨5, flags, length, sid⟩ p) = specCore ⟨5, flags, length, sid⟩ p := by
  simp only [parsePushPromise, specCore, fixedLen, padOf]
  by_cases hs : sid = 0
  · simp [hs, classOf]
  · simp only [beq_iff_eq, hs, if_false]
    rcases Bool.eq_false_or_eq_true (hasFlag flags 8) with hf | hf <;>
      simp only [hf, if_true, Bool.false_eq_true, if_false, Bool.true_and, Bool.false_and, beq_self_eq_true, Bool.or_true]
    · match p with
      | [] | [_] | [_, _] | [_, _, _] | [_, _, _, _] => rfl
      | pb :: a :: b :: c :: d :: r => exact cls_pad_tail _ _ rfl
    · match p with
      | [] | [_] | [_, _] | [_, _, _] => rfl
      | a :: b :: c :: d :: r => exact cls_pad_tail _ _ rfl

theorem cls_headers_tail (s : Nat) (fh : FH) (pr : Prio) (q : Bytes) (pad : Nat) :
    classOf (if q.length ≤ pad then .error (.stream s cProtocol)
      else .ok (.headers fh pr (q.take (q.length - pad)))) =
    if pad ≥ q.length then .streamErr else .accept := by
  by_cases hb : q.length ≤ pad <;> simp [hb, classOf, postCheck]

theorem cls_headers (flags length sid : Nat) (p : Bytes) :
    classOf (parseHeaders ⟨1, flags, length, sid⟩ p) = specCore ⟨1, flags, length, sid⟩ p := by
  simp only [parseHeaders, specCore, fixedLen, padOf]
  by_cases hs : sid = 0
  · simp [hs, classOf]
  · simp only [beq_iff_eq, hs, if_false]
    -- once the two flags are known, a payload too short for the fixed fields evaluates on both sides
    rcases Bool.eq_false_or_eq_true (hasFlag flags 8) with hf | hf <;>
      rcases Bool.eq_false_or_eq_true (hasFlag flags 32) with hg | hg <;>
      simp only [hf, hg, if_true, Bool.false_eq_true, if_false, Bool.true_and, Bool.false_and, beq_self_eq_true,
        Bool.or_true, Bool.true_or]
    · -- padded + priority
      match p with
      | [] | [_] | [_, _] | [_, _, _] | [_, _, _, _] | [_, _, _, _, _] => rfl
      | pb :: a :: b :: c :: d :: w :: r => exact cls_headers_tail _ _ _ r pb
    · -- padded only
      match p with
      | [] => rfl
      | pb :: r => exact cls_headers_tail _ _ _ r pb
    · -- priority only
      match p with
      | [] | [_] | [_, _] | [_, _, _] | [_, _, _, _] => rfl
      | a :: b :: c :: d :: w :: r => exact cls_headers_tail _ _ _ r 0
    · -- neither
      exact cls_headers_tail _ _ _ p 0

theorem cls_settings (flags sid : Nat) (p : Bytes) :
    classOf (parseSettings ⟨4, flags, p.length, sid⟩ p) = specCore ⟨4, flags, p.length, sid⟩ p := by
  simp only [parseSettings, specCore]
  rcases Bool.eq_false_or_eq_true (hasFlag flags 1) with hk | hk
  · -- ACK
    by_cases hn : p.length = 0
    · have hp0 : p = [] := List.eq_nil_of_length_eq_zero hn
      subst hp0
      by_cases hs : sid = 0
      · simp [hk, hs, classOf, postCheck, settingValue, settingsOf]
      · simp [hk, hs, classOf]
    · have : p.length > 0 := by omega
      simp [hk, this, hn, classOf]
  · simp only [hk, Bool.false_and, Bool.false_eq_true, if_false, Bool.false_or]
    by_cases hs : sid = 0
    · by_cases h6 : p.length % 6 = 0
      · simp only [hs, h6, bne_self_eq_false, Bool.false_eq_true, if_false, Bool.or_self]
        have hpost : classOf (.ok (.settings ⟨4, flags, p.length, 0⟩ p) : Except Err Frame) =
            (if (settingsOf p).any rfcSettingBad = true then Class.connErr else Class.accept) := by
          simp only [classOf, postCheck, hk, Bool.false_eq_true, if_false, settingsValid_isSome]
        cases hv : settingValue p 4 with
        | none => exact hpost
        | some v =>
          by_cases hb : v > 2147483647
          · simp only [hb, if_true, classOf, settingValue_bad p v hv hb]
          · simp only [hb, if_false]; exact hpost
      · simp [hs, h6, classOf]
    · simp [hs, classOf]

theorem specCore_ne_tooLarge (fh : FH) (p : Bytes) : specCore fh p ≠ .tooLarge := by
  unfold specCore
  split
  -- every leaf of the table is one of the other four classes
  all_goals
    repeat' refine ite_prop (P := (· ≠ Class.tooLarge)) ?_ ?_
  all_goals exact Class.noConfusion

theorem cls_parseFrame (fh : FH) (p : Bytes) (hlen : p.length = fh.length) :
    classOf (parseFrame fh p) = specCore fh p := by
  obtain ⟨typ, flags, length, sid⟩ := fh
  match typ with
  | 0 => exact cls_data _ _ _ p
  | 1 => exact cls_headers _ _ _ p
  | 2 => exact cls_priority _ _ _ p
  | 3 => exact cls_rst _ _ _ p
  | 4 => cases hlen; exact cls_settings _ _ p
  | 5 => exact cls_pushPromise _ _ _ p
  | 6 => exact cls_ping _ _ _ p
  | 7 => exact cls_goAway _ _ _ p
  | 8 => exact cls_windowUpdate _ _ _ p
  | 9 => exact cls_continuation _ _ _ p
  | _ + 10 => rfl

/-- Not `specFrame`: that wants a connection error also where the frame is out of order and the table says stream
    error; the parser runs before `checkFrameOrder`. -/
theorem cls_acceptFrame (fr : Framer) (fh : FH) (p : Bytes) (hlen : p.length = fh.length) :
    classOf (acceptFrame fr fh p).1 =
      if seqBad fr.lastHeaderStream fh = true ∧ specCore fh p = .accept then .connErr else specCore fh p := by
  rw [acceptFrame_eq, ← cls_parseFrame fh p hlen]
  cases parseFrame fh p with
  | error e => cases e <;> simp [classOf]
  | ok f =>
    cases seqBad fr.lastHeaderStream fh
    · simp
    · simp only [classOf, if_true, true_and]
      split <;> simp

theorem classOf_accept {r : Except Err Frame} : classOf r = .accept ↔ ∃ f, r = .ok f ∧ postCheck f = none := by
  cases r with
  | error e => cases e <;> simp [classOf]
  | ok f => cases h : postCheck f <;> simp [classOf, h]

theorem specFrame_accept {exp : Nat} {fh : FH} {p : Bytes} :
    specFrame exp fh p = .accept ↔ seqBad exp fh = false ∧ specCore fh p = .accept := by
  unfold specFrame
  cases seqBad exp fh
  · simp
  · simp only [if_true, Bool.true_eq_false, false_and, iff_false]
    split <;> exact Class.noConfusion

end BfeVerif.C32
