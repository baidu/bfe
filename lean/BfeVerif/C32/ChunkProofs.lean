import BfeVerif.C32.Chunked
import BfeVerif.C32.Proofs
/-! C32: io.ReadFull over any chunking = a prefix of the concatenation; hence the framer reads the same frames. -/
namespace BfeVerif.C32

theorem read_spec {r r' : Rd} {k : Nat} {d : Bytes} {eof : Bool} (h : r.read k = (d, eof, r')) :
    d ++ r'.rest = r.rest ∧ d.length ≤ k ∧ (eof = true → r'.rest = []) ∧
    (eof = false → r'.chunks.length ≤ r.chunks.length ∧ (d.length < k → r'.chunks.length < r.chunks.length)) := by
  obtain ⟨chunks, ewd⟩ := r
  unfold Rd.read at h
  cases chunks with
  | nil => cases h; simp [Rd.rest]
  | cons c cs =>
    simp only at h
    split at h
    · cases h
      refine ⟨by simp [Rd.rest], ‹_›, fun he => ?_, fun _ => by simp⟩
      simp only [Bool.and_eq_true, List.isEmpty_iff] at he
      simp [Rd.rest, he.1]
    · cases h
      refine ⟨?_, ?_, fun he => (by cases he), fun _ => ?_⟩
      · simp only [Rd.rest, List.flatten_cons, ← List.append_assoc, List.take_append_drop]
      · simp only [List.length_take]; omega
      · simp only [List.length_cons, List.length_take]; omega

-- Fuel: one step when the buffer is already full, else one per chunk and two more (the last read may only
-- complete the buffer).
theorem readFull_spec : ∀ (fuel : Nat) (r : Rd) (want : Nat) (acc : Bytes),
    r.chunks.length + 2 ≤ fuel ∨ (acc.length ≥ want ∧ 1 ≤ fuel) →
    (readFull fuel r want acc).1 =
      (if (acc ++ r.rest).length ≥ want then .ok (acc ++ r.rest.take (want - acc.length))
       else .error (if (acc ++ r.rest).isEmpty then .eof else .ueof)) ∧
    (readFull fuel r want acc).2.rest = r.rest.drop (want - acc.length) := by
  intro fuel
  induction fuel with
  | zero => intro r want acc hf; omega
  | succ fuel ih =>
    intro r want acc hf
    unfold readFull
    by_cases hdone : acc.length ≥ want
    · have hw : want - acc.length = 0 := by omega
      rw [if_pos hdone, hw, List.take_zero, List.append_nil, List.drop_zero, if_pos (by rw [List.length_append]; omega)]
      exact ⟨rfl, rfl⟩
    · have hf : r.chunks.length + 2 ≤ fuel + 1 := hf.resolve_right fun h => hdone h.1
      rw [if_neg hdone]
      generalize hrd : r.read (want - acc.length) = x
      obtain ⟨d, eof, r'⟩ := x
      obtain ⟨hcat, hd, heof, hne⟩ := read_spec hrd
      rw [← hcat]
      cases eof with
      | true =>
        rw [heof rfl, List.append_nil, List.take_of_length_le hd, List.drop_of_length_le hd]
        refine ⟨?_, heof rfl⟩
        -- the model tests `length > 0` where the statement has `isEmpty`
        dsimp only
        cases acc ++ d <;> rfl
      | false =>
        obtain ⟨hle, hlt⟩ := hne rfl
        have hk : want - acc.length - d.length = want - (acc ++ d).length := by rw [List.length_append]; omega
        rw [List.take_append, List.drop_append, List.take_of_length_le hd, List.drop_of_length_le hd,
          List.nil_append, ← List.append_assoc, ← List.append_assoc, hk]
        exact ih r' want (acc ++ d)
          (by
            rcases Nat.lt_or_ge d.length (want - acc.length) with h | h
            · exact Or.inl (by have := hlt h; omega)
            · exact Or.inr ⟨by rw [List.length_append]; omega, by omega⟩)

theorem readFull_nil (r : Rd) (want : Nat) :
    (readFull (r.chunks.length + 2) r want []).1 =
      (if r.rest.length ≥ want then .ok (r.rest.take want) else .error (if r.rest.isEmpty then .eof else .ueof)) ∧
    (readFull (r.chunks.length + 2) r want []).2.rest = r.rest.drop want :=
  readFull_spec (r.chunks.length + 2) r want [] (Or.inl (Nat.le_refl _))

theorem readFrameR_eq (fr : Framer) (r : Rd) :
    readFrame fr r.rest = ((readFrameR fr r).1, (readFrameR fr r).2.1, (readFrameR fr r).2.2.rest) := by
  obtain ⟨e1, e2⟩ := readFull_nil r 9
  unfold readFrameR
  generalize readFull (r.chunks.length + 2) r 9 [] = q at e1 e2
  obtain ⟨res, r1⟩ := q
  dsimp only at e1 e2
  subst e1
  unfold readFrame
  by_cases h9 : r.rest.length ≥ 9
  · obtain ⟨fh, hp1, hp2⟩ := parseHeader_take r.rest h9
    simp only [if_pos h9, hp2, hp1]
    by_cases hbig : fh.length > fr.maxReadSize
    · simp only [hbig, if_true, e2]
    · obtain ⟨f1, f2⟩ := readFull_nil r1 fh.length
      generalize readFull (r1.chunks.length + 2) r1 fh.length [] = q2 at f1 f2
      obtain ⟨res2, r2⟩ := q2
      dsimp only at f1 f2
      subst f1
      rw [e2] at f2 ⊢
      simp only [hbig, if_false]
      by_cases hpl : (r.rest.drop 9).length ≥ fh.length
      · simp only [hpl, Nat.not_lt.mpr hpl, if_true, if_false, f2]
      · simp only [hpl, Nat.lt_of_not_le hpl, if_true, if_false, f2, List.drop_of_length_le (Nat.le_of_not_le hpl)]
  · simp only [if_neg h9, parseHeader_short r.rest (Nat.lt_of_not_le h9), e2,
      List.drop_of_length_le (Nat.le_of_not_le h9)]

theorem readAllR_eq : ∀ (fuel : Nat) (fr : Framer) (r : Rd), readAllR fuel fr r = readAll fuel fr r.rest := by
  intro fuel
  induction fuel with
  | zero => intro fr r; rfl
  | succ f ih =>
    intro fr r
    unfold readAllR readAll
    rw [readFrameR_eq fr r]
    generalize readFrameR fr r = x
    obtain ⟨res, fr', r'⟩ := x
    cases res with
    | ok fm => simp only [ih]
    | error e => simp only [ih]

end BfeVerif.C32
