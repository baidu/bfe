import BfeVerif.C32.WriteProofs
import BfeVerif.C32.ClassProofs
import BfeVerif.C32.TotalProofs
import BfeVerif.C32.ChunkProofs
import BfeVerif.C32.MetaProofs
/-!
  C32 — HTTP/2 frames round-trip and malformed frames are rejected.

  Round trips are stated through the writer-call language `W` of the harness: `runW allow w` is the
  model of the Framer's `Write*` method, `expectRT w` the frame the oracle expects to read back (`some`
  exactly under that writer's preconditions).
-/
namespace BfeVerif.C32

def RoundTrips (w : W) : Prop :=
  ∀ (allow : Bool) (f : Frame) (bs rest : Bytes) (fr : Framer),
    expectRT w = some f → runW allow w = .ok bs → orderOK fr f.fh → f.fh.length ≤ fr.maxReadSize →
    readFrame fr (bs ++ rest) = (.ok f, orderNext fr f.fh, rest)

theorem C32_roundtrip_data (sid : Nat) (es : Bool) (d : Bytes) (pad : Option Bytes) :
    RoundTrips (.data sid es d pad) :=
  written_reads_back _

theorem C32_roundtrip_priority (sid : Nat) (pr : Prio) : RoundTrips (.priority sid pr) :=
  written_reads_back _

theorem C32_roundtrip_rst (sid code : Nat) : RoundTrips (.rst sid code) :=
  written_reads_back _

theorem C32_roundtrip_settings (ss : List (Nat × Nat)) : RoundTrips (.settings ss) :=
  written_reads_back _

theorem C32_roundtrip_settingsAck : RoundTrips .settingsAck :=
  written_reads_back _

theorem C32_roundtrip_ping (ack : Bool) (d : Bytes) : RoundTrips (.ping ack d) :=
  written_reads_back _

theorem C32_roundtrip_goAway (last code : Nat) (debug : Bytes) : RoundTrips (.goAway last code debug) :=
  written_reads_back _

theorem C32_roundtrip_windowUpdate (sid incr : Nat) : RoundTrips (.windowUpdate sid incr) :=
  written_reads_back _

theorem C32_roundtrip_continuation (sid : Nat) (eh : Bool) (frag : Bytes) : RoundTrips (.continuation sid eh frag) :=
  written_reads_back _

theorem C32_roundtrip_raw (t fl sid : Nat) (p : Bytes) : RoundTrips (.raw t fl sid p) :=
  written_reads_back _

theorem C32_roundtrip_headers (sid : Nat) (es eh : Bool) (pl : Nat) (pr : Prio) (frag : Bytes) :
    RoundTrips (.headers sid es eh pl pr frag) :=
  written_reads_back _

theorem C32_roundtrip_pushPromise (sid promise : Nat) (eh : Bool) (pl : Nat) (frag : Bytes) :
    RoundTrips (.pushPromise sid promise eh pl frag) :=
  written_reads_back _

/-- **C32 (round trip, all writers)**: whatever any `Write*` method of the framer writes under its
    preconditions is read back as the same type / flags / stream / payload fields. -/
theorem C32_roundtrip (w : W) : RoundTrips w :=
  written_reads_back _

/-- **C32 (rules)**: a frame that `ReadFrame` returns (and, for SETTINGS, whose values pass the
    receiver's `Setting.Valid` loop) satisfies every rule of the RFC 7540 table `specFrame` (stream-0
    restrictions, fixed sizes, padding within the payload, SETTINGS ack/length/value ranges, non-zero
    WINDOW_UPDATE increment, CONTINUATION sequencing).  Contrapositive: every malformed frame is rejected.
    Stated on `acceptFrame`, like the theorems below: behind the 9-octet header and the size checks `readFrame`
    returns what `acceptFrame fr fh (rest.take fh.length)` returns. -/
theorem C32_rules (fr fr' : Framer) (fh : FH) (p : Bytes) (f : Frame) (hlen : p.length = fh.length)
    (h : acceptFrame fr fh p = (.ok f, fr')) (hpost : postCheck f = none) :
    specFrame fr.lastHeaderStream fh p = .accept := by
  obtain ⟨hp, hseq, _⟩ := (acceptFrame_ok_iff fr fr' fh p f).mp h
  exact specFrame_accept.mpr ⟨hseq, cls_parseFrame fh p hlen ▸ classOf_accept.mpr ⟨f, hp, hpost⟩⟩

/-- **C32 (CONTINUATION sequencing automaton)**: a frame is returned only in order, and
    `lastHeaderStream` then is exactly "stream of the still-open header block". -/
theorem C32_sequencing (fr fr' : Framer) (fh : FH) (p : Bytes) (f : Frame)
    (h : acceptFrame fr fh p = (.ok f, fr')) :
    (fr.lastHeaderStream ≠ 0 → fh.typ = 9 ∧ fh.sid = fr.lastHeaderStream) ∧
    (fr.lastHeaderStream = 0 → fh.typ ≠ 9) ∧
    fr' = orderNext fr fh := by
  obtain ⟨_, hseq, hfr⟩ := (acceptFrame_ok_iff fr fr' fh p f).mp h
  have hok := (seqBad_eq_false_iff fr fh).mp hseq
  unfold orderOK at hok
  exact ⟨fun hne => by simpa [hne] using hok, fun h0 => by simpa [h0] using hok, hfr⟩

/-- **C32 (maximum frame size)**: `ReadFrame` never hands out a frame longer than the configured
    maximum (which `SetMaxReadFrameSize` clamps to 2^24-1: `C32_maxsize_clamp`). -/
theorem C32_maxsize (fr fr' : Framer) (inp rest : Bytes) (f : Frame)
    (h : readFrame fr inp = (.ok f, fr', rest)) :
    ∃ fh rest0, parseHeader inp = some (fh, rest0) ∧ fh.length ≤ fr.maxReadSize ∧ fh.length ≤ rest0.length := by
  obtain ⟨fh, rest0, hh, hm, hl, _⟩ := readFrame_returned h
  exact ⟨fh, rest0, hh, hm, hl⟩

theorem C32_maxsize_clamp (v : Nat) : (newFramer v).maxReadSize ≤ 16777215 := by
  unfold newFramer maxFrameSize; simp only; split <;> omega

/-- Full-strength sequencing statement (RFC 7540 §6.2/§6.10: ANY frame other than the expected
    CONTINUATION inside a header block is a connection error): -/
def SeqStrict : Prop :=
  ∀ (fr : Framer) (fh : FH) (p : Bytes), p.length = fh.length → seqBad fr.lastHeaderStream fh = true →
    classOf (acceptFrame fr fh p).1 = .connErr ∨ classOf (acceptFrame fr fh p).1 = .ioErr

/-- it does NOT hold for the code as it is: the type parser runs before `checkFrameOrder`, so a
    frame the parser answers with a StreamError (WINDOW_UPDATE with increment 0 on a stream, HEADERS
    with an empty fragment) inside another stream's header block is only a (non-terminal) stream
    error; the caller reads on and the block's CONTINUATION is then accepted. -/
theorem C32_witness_seq_stream_error : ¬ SeqStrict := by
  intro h
  have := h ⟨1, 16384⟩ ⟨8, 0, 4, 3⟩ [0, 0, 0, 0] rfl (by decide)
  revert this
  decide +kernel

/-- what does hold: inside a header block nothing but the expected CONTINUATION is ever ACCEPTED,
    and unless the type parser itself answered with a StreamError the rejection is terminal
    (the caller stops reading: connection error or i/o error). -/
theorem C32_sequencing_partial (fr : Framer) (fh : FH) (p : Bytes)
    (hbad : seqBad fr.lastHeaderStream fh = true) :
    ∃ e, (acceptFrame fr fh p).1 = .error e ∧
      ((∀ s c, parseFrame fh p ≠ .error (.stream s c)) → terminal e = true) := by
  rw [acceptFrame_eq, hbad]
  cases parseFrame fh p with
  | ok f0 => exact ⟨_, rfl, fun _ => rfl⟩
  | error e =>
    refine ⟨e, rfl, fun hns => ?_⟩
    cases e with
    | stream s c => exact absurd rfl (hns s c)
    | _ => rfl

/-- **C32 (model = specification, per frame)**: the class of what `ReadFrame` does with a frame (accept /
    connection error / stream error / io error; SETTINGS judged after the receiver's `Setting.Valid` loop)
    is what the RFC table `specFrame` demands, except in the one situation of the known finding (a frame
    the table classifies as a stream error arriving inside another header block). -/
theorem C32_class_eq_spec_partial (fr : Framer) (fh : FH) (p : Bytes) (hlen : p.length = fh.length)
    (hk : ¬ (seqBad fr.lastHeaderStream fh = true ∧ specCore fh p = .streamErr)) :
    classOf (acceptFrame fr fh p).1 = specFrame fr.lastHeaderStream fh p := by
  rw [cls_acceptFrame fr fh p hlen, specFrame]
  -- what is left compares two `if`s over `seqBad` and the five classes
  have := specCore_ne_tooLarge fh p
  cases hb : seqBad fr.lastHeaderStream fh <;> cases hc : specCore fh p <;> simp_all

/-- **C32 (completeness — the converse of `C32_rules`)**: every frame the RFC table accepts is returned
    by `ReadFrame` (and passes the SETTINGS value loop).  Together with `C32_rules`: the framer rejects
    EXACTLY the malformed frames. -/
theorem C32_complete (fr : Framer) (fh : FH) (p : Bytes) (hlen : p.length = fh.length)
    (hs : specFrame fr.lastHeaderStream fh p = .accept) :
    ∃ f, acceptFrame fr fh p = (.ok f, orderNext fr fh) ∧ postCheck f = none := by
  obtain ⟨hb, hc⟩ := specFrame_accept.mp hs
  obtain ⟨f, hp, hpost⟩ := classOf_accept.mp (cls_parseFrame fh p hlen ▸ hc)
  exact ⟨f, (acceptFrame_ok_iff ..).mpr ⟨hp, hb, rfl⟩, hpost⟩

theorem C32_accept_iff (fr : Framer) (fh : FH) (p : Bytes) (hlen : p.length = fh.length) :
    (∃ f fr', acceptFrame fr fh p = (.ok f, fr') ∧ postCheck f = none) ↔
      specFrame fr.lastHeaderStream fh p = .accept :=
  ⟨fun ⟨f, fr', h, hp⟩ => C32_rules fr fr' fh p f hlen h hp,
   fun h => let ⟨f, hf, hp⟩ := C32_complete fr fh p hlen h; ⟨f, _, hf, hp⟩⟩

/-- **C32 (totality, guards explicit)**: `Checked.readFrame` is `Framer.ReadFrame` with every Go slice
    and index expression of the read path as a partial operation whose failure `none` is the runtime
    panic.  For every framer state and every byte string it does not panic and computes what the
    unchecked model computes: every slice access is guarded by a preceding check. -/
theorem C32_total (fr : Framer) (inp : Bytes) : Checked.readFrame fr inp = some (readFrame fr inp) :=
  readFrame_ok fr inp

theorem C32_never_panics (fr : Framer) (inp : Bytes) : Checked.readFrame fr inp ≠ none := by
  rw [C32_total]; exact fun h => by cases h

/-- the same for each type parser alone, also when `len(payload)` differs from `fh.Length` -/
theorem C32_total_parsers (fh : FH) (p : Bytes) : Checked.parseFrame fh p = some (parseFrame fh p) :=
  parseFrame_ok fh p

/-- and for the receiver's `ForeachSetting(Setting.Valid)` loop (`buf[:2] buf[2:6] buf[6:]`) on every
    frame `ReadFrame` can return -/
theorem C32_total_settings_loop (fr fr' : Framer) (inp rest : Bytes) (f : Frame)
    (h : readFrame fr inp = (.ok f, fr', rest)) : Checked.postCheck f = some (postCheck f) := by
  obtain ⟨fh, rest0, _, _, _, hp, _⟩ := readFrame_returned h
  exact postCheck_ok hp

/-- the checked operations do fail where a guard is missing: the slicing of the `Value` loop panics on a
    5-byte payload (which the `len % 6` check of `parseSettings` keeps away from it) -/
example : Checked.valueLoop 6 [0, 4, 0, 0, 0] 4 = none := by decide +kernel

/-- **C32 (segmentation)**: the framer's read loop on any chunking of the input (cuts anywhere, empty
    reads, last data delivered together with io.EOF) returns exactly what it returns on the concatenation
    (io.ReadFull modelled as the ReadAtLeast loop). -/
theorem C32_chunking (fuel : Nat) (fr : Framer) (r : Rd) : readAllR fuel fr r = readAll fuel fr r.rest :=
  readAllR_eq fuel fr r

theorem C32_chunking_frame (fr : Framer) (r : Rd) :
    readFrame fr r.rest = ((readFrameR fr r).1, (readFrameR fr r).2.1, (readFrameR fr r).2.2.rest) :=
  readFrameR_eq fr r

/-- `io.ReadFull` on a scripted reader, whatever the chunking: EOF = nothing read, ErrUnexpectedEOF = partial. -/
theorem C32_readFull (r : Rd) (want : Nat) :
    (r.rest.length ≥ want →
      (readFull (r.chunks.length + 2) r want []).1 = .ok (r.rest.take want) ∧
      (readFull (r.chunks.length + 2) r want []).2.rest = r.rest.drop want) ∧
    (r.rest.length < want →
      (readFull (r.chunks.length + 2) r want []).1 = .error (if r.rest.isEmpty then .eof else .ueof)) := by
  have h := readFull_nil r want
  exact ⟨fun hw => by rwa [if_pos hw] at h, fun hw => by rw [h.1, if_neg (Nat.not_le.mpr hw)]⟩

/-- **C32 (write side, over-long payloads)**: every `Write*` method returns `ErrFrameTooLarge` exactly
    when its own checks pass and the payload it assembled has 2^24 bytes or more, and otherwise writes
    9 + payload bytes (`wPayloadLen` = the length formula per frame type). -/
theorem C32_write_size (allow : Bool) (w : W) :
    (∀ bs, runW allow w = .ok bs → bs.length = 9 + wPayloadLen w ∧ wPayloadLen w < 16777216) ∧
    (runW allow w = .error .tooLarge → wPayloadLen w ≥ 16777216) :=
  runW_sized allow w

/-- the sized writer calls of the harness (`wb` ops) have the payload length the driver computes -/
theorem C32_big_sized (kind : String) (n pl : Nat) (w : W) (h : mkBig kind n pl = some w) :
    wPayloadLen w = sizedLen kind n pl := by
  unfold mkBig at h
  simp only at h
  rcases ite_eq_cases h with ⟨hk, ⟨⟩⟩ | ⟨_, h⟩
  · obtain rfl := eq_of_beq hk
    by_cases hp : pl = 0 <;> simp [wPayloadLen, sizedLen, hp]
  -- the other six kinds: one payload formula each, and `sizedLen` evaluates on the literal
  iterate 6
    rcases ite_eq_cases h with ⟨hk, ⟨⟩⟩ | ⟨_, h⟩
    · obtain rfl := eq_of_beq hk
      simp only [wPayloadLen, List.length_replicate]
      rfl
  cases h

/-- **C32 (readMetaFrame, CONTINUATION assembly)**: with `ReadMetaHeaders` set, the frame that
    `readMetaFrame` reads while a header block is open is always a CONTINUATION of that block: the type
    assertion `f.(*ContinuationFrame)` cannot fail. -/
theorem C32_meta_no_panic (cfg : MetaCfg) (mf : MFramer) (inp : Bytes) :
    (readFrameM cfg mf inp).1 ≠ .panic :=
  readFrameM_no_panic cfg mf inp

/-- what `metaLoop` relies on to concatenate the fragments in order -/
theorem C32_meta_block_frames (fr fr' : Framer) (inp rest : Bytes) (f : Frame)
    (hopen : fr.lastHeaderStream ≠ 0) (h : readFrame fr inp = (.ok f, fr', rest)) :
    ∃ fh frag, f = .continuation fh frag ∧ (hasFlag fh.flags 4 = false → fr'.lastHeaderStream ≠ 0) :=
  readFrame_in_block hopen h

/-- **C32 (MaxHeaderListSize)**: the fields of every MetaHeadersFrame returned have a total size
    (name + value + 32 octets each, RFC 7540 6.5.2) of at most `MaxHeaderListSize`. -/
theorem C32_meta_list_size (cfg : MetaCfg) (mf mf' : MFramer) (inp rest : Bytes) (fh : FH) (pr : Prio)
    (fs : List Field) (t : Bool) (hc : cfg.maxList ≠ 0)
    (h : readFrameM cfg mf inp = (.mh fh pr fs t, mf', rest)) : sumSize fs ≤ cfg.maxList := by
  have := readFrameM_list_size cfg h
  rwa [if_neg (by simpa using hc)] at this

/-- **C32 (readMetaFrame, field validity and order)**: every field of a returned MetaHeadersFrame has a
    valid value and (unless it is a pseudo header) a valid lower-case token name; no pseudo header field
    follows a regular one (`Ordered` on the reversed list); and the pseudo set passes `checkPseudos`. -/
theorem C32_meta_fields_valid (cfg : MetaCfg) (mf mf' : MFramer) (inp rest : Bytes) (fh : FH) (pr : Prio)
    (fs : List Field) (t : Bool) (h : readFrameM cfg mf inp = (.mh fh pr fs t, mf', rest)) :
    (∀ f ∈ fs, FieldOK f) ∧ Ordered fs.reverse ∧ pseudoOK fs = true := by
  obtain ⟨e, he, hinv, hps, rfl⟩ := readFrameM_mh cfg (emit_preserves_ok cfg)
    (fun _ => ⟨fun f hf => (by cases hf), fun _ f hf => (by cases hf), trivial⟩) h
  obtain ⟨a, _, c⟩ := he hinv
  exact ⟨fun f hf => a f (List.mem_reverse.mp hf), by rw [List.reverse_reverse]; exact c, hps⟩

/-! The hypotheses of `RoundTrips` (`expectRT = some`, `runW = .ok`), an accepted and a rejected frame, and the
    premise of `SeqStrict` are inhabited: -/
example : expectRT (.headers 3 true false 2 ⟨1, true, 200⟩ [1, 2, 3]) =
    some (.headers ⟨1, 41, 11, 3⟩ ⟨1, true, 200⟩ [1, 2, 3]) := by decide +kernel
example : runW false (.headers 3 true false 2 ⟨1, true, 200⟩ [1, 2, 3]) =
    .ok [0, 0, 11, 1, 41, 0, 0, 0, 3, 2, 128, 0, 0, 1, 200, 1, 2, 3, 0, 0] := by rfl
example : acceptFrame ⟨0, 16384⟩ ⟨0, 8, 4, 1⟩ [3, 9, 9, 9] = (.ok (.data ⟨0, 8, 4, 1⟩ []), ⟨0, 16384⟩) := by rfl
example : (acceptFrame ⟨0, 16384⟩ ⟨0, 8, 4, 1⟩ [4, 9, 9, 9]).1 = .error (.conn 1) := by rfl
example : seqBad 1 ⟨8, 0, 4, 3⟩ = true := by decide +kernel

end BfeVerif.C32
