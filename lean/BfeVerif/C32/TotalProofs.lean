import BfeVerif.C32.Checked
import BfeVerif.C32.ClassProofs
/-! C32: the reader with checked slicing (`Checked`) never panics and equals the unchecked model: for each operation `X`
    a lemma `X_ok : Checked.X … = some (X …)`. -/
namespace BfeVerif.C32
open BfeVerif.C32.Checked (sliceFrom sliceTo sliceToI u32)

theorem same_guard {α : Type} {c : Prop} [Decidable c] {a : α} {x : Option α} {y : α} (h : ¬ c → x = some y) :
    (if c then some a else x) = some (if c then a else y) := by
  split
  · rfl
  · exact h ‹_›

theorem sliceTo_ok {p : Bytes} {hi : Nat} (h : hi ≤ p.length) : sliceTo p hi = some (p.take hi) := if_pos h

theorem sliceFrom_ok {p : Bytes} {lo : Nat} (h : lo ≤ p.length) : sliceFrom p lo = some (p.drop lo) := if_pos h

theorem sliceToI_ok (p : Bytes) (pad : Nat) (h : pad ≤ p.length) :
    sliceToI p ((p.length : Int) - (pad : Int)) = some (p.take (p.length - pad)) := by
  unfold sliceToI
  have h1 : (0 : Int) ≤ (p.length : Int) - (pad : Int) ∧ (p.length : Int) - (pad : Int) ≤ (p.length : Int) := by omega
  have h2 : ((p.length : Int) - (pad : Int)).toNat = p.length - pad := by omega
  simp only [h1, and_self, if_true, h2]

theorem readByte_ok (p : Bytes) : Checked.readByte p = some (readByte p) := by
  cases p <;> rfl

theorem readUint32_ok (p : Bytes) : Checked.readUint32 p = some (readUint32 p) := by
  match p with
  | [] | [_] | [_, _] | [_, _, _] | _ :: _ :: _ :: _ :: _ => rfl

theorem readPad_ok (c : Bool) (p : Bytes) :
    (if c then Checked.readByte p else some (.ok (p, 0))) = some (if c then readByte p else .ok (p, 0)) := by
  cases c
  · rfl
  · exact readByte_ok p

/-- `p[:len(p)-pad]` behind either form of the padding check -/
theorem unpad_ok {c c' : Prop} [Decidable c] [Decidable c'] (q : Bytes) (pad : Nat) (hc : c ↔ c')
    (hle : ¬ c' → pad ≤ q.length) (e : Err) (mk : Bytes → Frame) :
    ((if c then pure (.error e) else do
        let d ← sliceToI q ((q.length : Int) - (pad : Int))
        pure (.ok (mk d))) : Option (Except Err Frame)) =
      some (if c' then .error e else .ok (mk (q.take (q.length - pad)))) := by
  by_cases h : c'
  · rw [if_pos (hc.mpr h), if_pos h]; rfl
  · rw [if_neg (mt hc.mp h), if_neg h, sliceToI_ok q pad (hle h)]; rfl

theorem parseData_ok (fh : FH) (p : Bytes) : Checked.parseData fh p = some (parseData fh p) := by
  unfold Checked.parseData parseData
  refine same_guard fun _ => ?_
  simp only [readPad_ok, Option.bind_eq_bind, Option.bind_some]
  cases (if hasFlag fh.flags 8 = true then readByte p else .ok (p, 0)) with
  | error e => rfl
  | ok x => exact unpad_ok x.1 x.2 Iff.rfl (by omega) _ (.data fh)

theorem parsePushPromise_ok (fh : FH) (p : Bytes) : Checked.parsePushPromise fh p = some (parsePushPromise fh p) := by
  unfold Checked.parsePushPromise parsePushPromise
  refine same_guard fun _ => ?_
  simp only [readPad_ok, Option.bind_eq_bind, Option.bind_some]
  cases (if hasFlag fh.flags 8 = true then readByte p else .ok (p, 0)) with
  | error e => rfl
  | ok x =>
    obtain ⟨q, pad⟩ := x
    simp only [readUint32_ok, Option.bind_some]
    cases readUint32 q with
    | error e => rfl
    | ok y => exact unpad_ok y.1 pad Iff.rfl (by omega) _ (.pushPromise fh _)

theorem parseHeaders_ok (fh : FH) (p : Bytes) : Checked.parseHeaders fh p = some (parseHeaders fh p) := by
  unfold Checked.parseHeaders parseHeaders
  refine same_guard fun _ => ?_
  simp only [readPad_ok, Option.bind_eq_bind, Option.bind_some]
  cases (if hasFlag fh.flags 8 = true then readByte p else .ok (p, 0)) with
  | error e => rfl
  | ok x =>
    obtain ⟨q, pad⟩ := x
    simp only []
    rcases Bool.eq_false_or_eq_true (hasFlag fh.flags 32) with hg | hg
    · simp only [hg, if_true, readUint32_ok, Option.bind_some]
      cases readUint32 q with
      | error e => rfl
      | ok y =>
        obtain ⟨q2, v⟩ := y
        simp only [readByte_ok, Option.bind_some]
        cases readByte q2 with
        | error e => rfl
        | ok z => exact unpad_ok z.1 pad (by omega) (by omega) _ (.headers fh _)
    · simp only [hg, Bool.false_eq_true, if_false, Option.bind_some]
      exact unpad_ok q pad (by omega) (by omega) _ (.headers fh _)

theorem parsePing_ok (fh : FH) (p : Bytes) : Checked.parsePing fh p = some (parsePing fh p) :=
  same_guard fun _ => same_guard fun _ => rfl

theorem parseContinuation_ok (fh : FH) (p : Bytes) :
    Checked.parseContinuation fh p = some (parseContinuation fh p) :=
  same_guard fun _ => rfl

theorem parseRST_ok (fh : FH) (p : Bytes) : Checked.parseRST fh p = some (parseRST fh p) := by
  obtain ⟨typ, flags, length, sid⟩ := fh
  match p with
  | [] | [_] | [_, _] | [_, _, _] | _ :: _ :: _ :: _ :: _ :: _ => rfl
  | [a, b, c, d] => cases sid <;> rfl

theorem parsePriority_ok (fh : FH) (p : Bytes) : Checked.parsePriority fh p = some (parsePriority fh p) := by
  obtain ⟨typ, flags, length, sid⟩ := fh
  cases sid with
  | zero => rfl
  | succ n =>
    match p with
    | [] | [_] | [_, _] | [_, _, _] | [_, _, _, _] | [_, _, _, _, _] | _ :: _ :: _ :: _ :: _ :: _ :: _ => rfl

theorem parseWindowUpdate_ok (fh : FH) (p : Bytes) :
    Checked.parseWindowUpdate fh p = some (parseWindowUpdate fh p) := by
  by_cases h4 : p.length = 4
  · obtain ⟨a, b, c, d, rfl⟩ := length_eq_four h4
    have e1 : sliceTo [a, b, c, d] 4 = some [a, b, c, d] := rfl
    have e2 : u32 [a, b, c, d] = some (be32 a b c d) := rfl
    have e0 : (([a, b, c, d] : Bytes).length != 4) = false := rfl
    refine Eq.trans ?_ (congrArg some (parseWindowUpdate_four fh a b c d).symm)
    simp only [Checked.parseWindowUpdate, e0, Bool.false_eq_true, if_false, e1, e2]
  · rw [parseWindowUpdate_ne_four fh h4]
    unfold Checked.parseWindowUpdate
    rw [if_pos (by simpa using h4)]

theorem parseGoAway_ok (fh : FH) (p : Bytes) : Checked.parseGoAway fh p = some (parseGoAway fh p) := by
  obtain ⟨typ, flags, length, sid⟩ := fh
  cases sid with
  | succ n => rfl
  | zero =>
    match p with
    | [] | [_] | [_, _] | [_, _, _] | [_, _, _, _] | [_, _, _, _, _] | [_, _, _, _, _, _] | [_, _, _, _, _, _, _]
    | _ :: _ :: _ :: _ :: _ :: _ :: _ :: _ :: _ => rfl

-- induction for a loop that takes one 6-byte SETTINGS entry per unit of fuel
theorem entries_induction {P : Nat → Bytes → Prop} (nil : ∀ fuel, P (fuel + 1) [])
    (cons : ∀ fuel a b c d e f r, P fuel r → P (fuel + 1) (a :: b :: c :: d :: e :: f :: r)) :
    ∀ buf : Bytes, buf.length % 6 = 0 → ∀ fuel, fuel > buf.length → P fuel buf := by
  suffices h : ∀ n (buf : Bytes), buf.length = 6 * n → ∀ fuel, fuel > buf.length → P fuel buf from
    fun buf hb => h (buf.length / 6) buf (by omega)
  intro n
  induction n with
  | zero =>
    intro buf hl fuel hf
    obtain rfl := List.eq_nil_of_length_eq_zero (by omega : buf.length = 0)
    obtain ⟨fu, rfl⟩ : ∃ fu, fuel = fu + 1 := ⟨fuel - 1, by simp at hf; omega⟩
    exact nil fu
  | succ n ih =>
    intro buf hl fuel hf
    match buf, hl, hf with
    | a :: b :: c :: d :: e :: f :: r, hl, hf =>
      simp only [List.length_cons] at hl hf
      obtain ⟨fu, rfl⟩ : ∃ fu, fuel = fu + 1 := ⟨fuel - 1, by omega⟩
      exact cons fu _ _ _ _ _ _ r (ih r (by omega) fu (by omega))

theorem valueLoop_cons (fuel a b c d e f id : Nat) (r : Bytes) :
    Checked.valueLoop (fuel + 1) (a :: b :: c :: d :: e :: f :: r) id =
      if a * 256 + b == id then some (some (be32 c d e f)) else Checked.valueLoop fuel r id := rfl

theorem settingValue_cons (a b c d e f id : Nat) (r : Bytes) :
    settingValue (a :: b :: c :: d :: e :: f :: r) id =
      if a * 256 + b == id then some (be32 c d e f) else settingValue r id := by
  simp only [settingValue, settingsOf, List.find?_cons]
  cases a * 256 + b == id <;> rfl

theorem validLoop_cons (fuel a b c d e f : Nat) (r : Bytes) :
    Checked.validLoop (fuel + 1) (a :: b :: c :: d :: e :: f :: r) =
      match settingValid (a * 256 + b, be32 c d e f) with
      | some x => some (some x)
      | none => Checked.validLoop fuel r := rfl

theorem valueLoop_ok (id : Nat) (buf : Bytes) (h6 : buf.length % 6 = 0) (fuel : Nat) (hf : fuel > buf.length) :
    Checked.valueLoop fuel buf id = some (settingValue buf id) := by
  refine entries_induction (P := fun fuel buf => Checked.valueLoop fuel buf id = some (settingValue buf id))
    (fun _ => rfl) (fun fu a b c d e f r ih => ?_) buf h6 fuel hf
  rw [valueLoop_cons, settingValue_cons, ih]
  split <;> rfl

theorem validLoop_ok (buf : Bytes) (h6 : buf.length % 6 = 0) (fuel : Nat) (hf : fuel > buf.length) :
    Checked.validLoop fuel buf = some (settingsValid (settingsOf buf)) := by
  refine entries_induction (P := fun fuel buf => Checked.validLoop fuel buf = some (settingsValid (settingsOf buf)))
    (fun _ => rfl) (fun fu a b c d e f r ih => ?_) buf h6 fuel hf
  rw [validLoop_cons, ih]
  simp only [settingsOf, settingsValid]
  cases settingValid (a * 256 + b, be32 c d e f) <;> rfl

theorem parseSettings_ok (fh : FH) (p : Bytes) : Checked.parseSettings fh p = some (parseSettings fh p) := by
  unfold Checked.parseSettings parseSettings
  refine same_guard fun _ => same_guard fun _ => same_guard fun h6 => ?_
  rw [valueLoop_ok 4 p (by simpa using h6) (p.length + 1) (by omega)]
  simp only [Option.bind_eq_bind, Option.bind_some]
  cases settingValue p 4 with
  | none => rfl
  | some v => simp only []; split <;> rfl

theorem parseFrame_ok (fh : FH) (p : Bytes) : Checked.parseFrame fh p = some (parseFrame fh p) := by
  obtain ⟨typ, flags, length, sid⟩ := fh
  match typ with
  | 0 => exact parseData_ok _ p
  | 1 => exact parseHeaders_ok _ p
  | 2 => exact parsePriority_ok _ p
  | 3 => exact parseRST_ok _ p
  | 4 => exact parseSettings_ok _ p
  | 5 => exact parsePushPromise_ok _ p
  | 6 => exact parsePing_ok _ p
  | 7 => exact parseGoAway_ok _ p
  | 8 => exact parseWindowUpdate_ok _ p
  | 9 => exact parseContinuation_ok _ p
  | _ + 10 => rfl

theorem decodeHeader_ok {buf r : Bytes} {fh : FH} (h : parseHeader buf = some (fh, r)) :
    Checked.decodeHeader buf = some fh := by
  unfold parseHeader at h
  split at h
  · cases h; rfl
  · cases h

theorem readFrame_ok (fr : Framer) (inp : Bytes) : Checked.readFrame fr inp = some (readFrame fr inp) := by
  by_cases h9 : inp.length < 9
  · simp only [Checked.readFrame, readFrame, h9, if_true, parseHeader_short inp h9]
  · obtain ⟨fh, hp, hp9⟩ := parseHeader_take inp (by omega)
    simp only [Checked.readFrame, readFrame, h9, if_false, hp, sliceTo_ok (Nat.le_of_not_lt h9),
      sliceFrom_ok (Nat.le_of_not_lt h9), decodeHeader_ok hp9, Option.bind_eq_bind, Option.bind_some]
    by_cases hbig : fh.length > fr.maxReadSize
    · simp only [hbig, if_true, Option.pure_def]
    · by_cases hshort : (inp.drop 9).length < fh.length
      · simp only [hbig, hshort, if_true, if_false, Option.pure_def]
      · simp only [hbig, hshort, if_false, sliceTo_ok (Nat.le_of_not_lt hshort), sliceFrom_ok (Nat.le_of_not_lt hshort),
          Option.bind_some, parseFrame_ok, acceptFrame, Option.pure_def]
        cases parseFrame fh ((inp.drop 9).take fh.length) with
        | error e => rfl
        | ok f => cases checkFrameOrder fr fh <;> rfl

theorem parseFrame_settings_len {fh fh' : FH} {p p' : Bytes} (h : parseFrame fh p = .ok (.settings fh' p')) :
    p'.length % 6 = 0 := by
  have ht : fh.typ = 4 := by
    have : 4 = min fh.typ 10 := (parseFrame_shape h).2
    omega
  unfold parseFrame at h
  simp only [ht] at h
  unfold parseSettings at h
  have h := guard_ok (guard_ok h)
  have h6 := guard_passed h
  have h := guard_ok h
  have hp : p' = p := by
    split at h
    · cases guard_ok h; rfl
    · cases h; rfl
  rw [hp]
  simpa using h6

theorem postCheck_ok {fh : FH} {p : Bytes} {f : Frame} (h : parseFrame fh p = .ok f) :
    Checked.postCheck f = some (postCheck f) := by
  cases f with
  | settings fh' p' =>
    simp only [Checked.postCheck, postCheck]
    split
    · rfl
    · exact validLoop_ok p' (parseFrame_settings_len h) (p'.length + 1) (by omega)
  | _ => rfl

end BfeVerif.C32
