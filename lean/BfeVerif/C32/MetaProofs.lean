import BfeVerif.C32.Meta
import BfeVerif.C32.Proofs
/-! C32: `readMetaFrame` never hits its type assertion (the framer keeps a header block open until END_HEADERS),
    and whatever `emit` preserves holds of the fields of a returned MetaHeadersFrame (list size, validity, order). -/
namespace BfeVerif.C32

theorem orderNext_open (fr : Framer) (fh : FH) (ht : fh.typ = 1 ∨ fh.typ = 9) (hf : hasFlag fh.flags 4 = false) :
    (orderNext fr fh).lastHeaderStream = fh.sid := by
  simp [orderNext, ht, hf]

theorem readFrame_in_block {fr fr' : Framer} {inp rest : Bytes} {f : Frame}
    (hopen : fr.lastHeaderStream ≠ 0) (h : readFrame fr inp = (.ok f, fr', rest)) :
    ∃ fh frag, f = .continuation fh frag ∧ (hasFlag fh.flags 4 = false → fr'.lastHeaderStream ≠ 0) := by
  obtain ⟨fh, rest0, _, _, _, hp, hok, rfl, _⟩ := readFrame_returned h
  -- the order check passed with an open block: type 9 on that stream
  simp only [orderOK, hopen, ne_eq, not_false_eq_true, if_true] at hok
  obtain ⟨h9, hs⟩ := hok
  unfold parseFrame at hp
  simp only [h9] at hp
  cases guard_ok hp
  exact ⟨fh, _, rfl, fun hflag => by rw [orderNext_open fr fh (Or.inr h9) hflag, hs]; exact hopen⟩

theorem parseHeaders_sid {fh : FH} {p : Bytes} {f : Frame} (h : parseHeaders fh p = .ok f) : fh.sid ≠ 0 := by
  unfold parseHeaders at h
  rcases ite_eq_cases h with ⟨_, ⟨⟩⟩ | ⟨hs, _⟩
  simpa using hs

theorem metaLoop_no_panic (cfg : MetaCfg) (fh0 : FH) (pr : Prio) (fuel : Nat) (mf : MFramer) (e : Emit) (frag : Bytes)
    (ended : Bool) (inp : Bytes) (hinv : ended = false → mf.fr.lastHeaderStream ≠ 0) :
    (metaLoop cfg fh0 pr fuel mf e frag ended inp).1 ≠ .panic := by
  fun_induction metaLoop cfg fh0 pr fuel mf e frag ended inp with
  | case8 fuel mf e frag ended inp save e' _ mf1 hend fh frag' fr' rest hrf ih =>
    -- `ended = false` and `readFrame` returned a CONTINUATION (the recursive call): the block is still open, as `ih` needs
    obtain ⟨_, _, h, hnext⟩ := readFrame_in_block (hinv (by simpa using hend)) hrf
    cases h
    exact ih hnext
  | case9 fuel mf e frag ended inp save e' _ mf1 hend f fr' rest hne hrf =>
    -- `ended = false` and `readFrame` returned another frame (the `.panic` branch): with the block open there is none
    obtain ⟨fh, frag', h, _⟩ := readFrame_in_block (hinv (by simpa using hend)) hrf
    exact absurd h (hne fh frag')
  | _ => exact fun h => by cases h

theorem readFrameM_no_panic (cfg : MetaCfg) (mf : MFramer) (inp : Bytes) :
    (readFrameM cfg mf inp).1 ≠ .panic := by
  fun_cases readFrameM cfg mf inp with
  | case2 fh pr frag fr' rest hrf =>
    apply metaLoop_no_panic
    intro hflag
    -- the HEADERS frame was accepted without END_HEADERS: the block is open on its stream
    obtain ⟨fh1, rest0, _, _, _, hp, _, rfl, _⟩ := readFrame_returned hrf
    obtain ⟨hfh, hk⟩ := parseFrame_shape hp
    have ht : fh1.typ = 1 := by
      have : 1 = min fh1.typ 10 := hk
      omega
    cases (show fh = fh1 from hfh)
    rw [orderNext_open _ fh (Or.inl ht) hflag]
    unfold parseFrame at hp
    simp only [ht] at hp
    exact parseHeaders_sid hp
  | _ => exact fun h => by cases h

def sumSize : List Field → Nat
  | [] => 0
  | f :: t => f.size + sumSize t

theorem sumSize_eq (l : List Field) : sumSize l = (l.map Field.size).sum := by
  induction l with
  | nil => rfl
  | cons f t ih => rw [sumSize, ih, List.map_cons, List.sum_cons]

theorem sumSize_reverse (l : List Field) : sumSize l.reverse = sumSize l := by
  rw [sumSize_eq, sumSize_eq, List.map_reverse, List.sum_reverse_nat]

theorem emit_ok_cases {cfg : MetaCfg} {e e' : Emit} {f : Field} (h : emit cfg e f = .ok e') :
    (e'.invalid = true ∧ e'.remain = e.remain ∧ e'.fields = e.fields) ∨
    (e'.invalid = false ∧ e.invalid = false ∧ validValue f.value = true ∧
      (isPseudo f.name = true → e.sawRegular = false ∧ e'.sawRegular = false) ∧
      (isPseudo f.name = false → validName f.name = true ∧ e'.sawRegular = true) ∧
      f.size ≤ e.remain ∧ e'.remain = e.remain - f.size ∧ e'.fields = f :: e.fields) := by
  unfold emit at h
  have h := guard_ok h
  dsimp only at h
  rcases ite_eq_cases h with ⟨_, ⟨⟩⟩ | ⟨hinv, h⟩
  · exact Or.inl ⟨rfl, rfl, rfl⟩
  have hsz := guard_passed h
  cases guard_ok h
  -- not marked invalid: every disjunct of the test is false
  refine Or.inr ?_
  cases hps : isPseudo f.name <;>
    simp only [hps, if_true, Bool.false_eq_true, if_false, Bool.or_eq_true, not_or, Bool.not_eq_true,
      Bool.not_eq_false'] at hinv
  · obtain ⟨⟨hi, hv⟩, hn⟩ := hinv
    exact ⟨hi, hi, hv, nofun, fun _ => ⟨hn, rfl⟩, Nat.le_of_not_lt hsz, rfl, rfl⟩
  · obtain ⟨⟨hi, hv⟩, hs⟩ := hinv
    exact ⟨hi, hi, hv, fun _ => ⟨hs, hs⟩, nofun, Nat.le_of_not_lt hsz, rfl, rfl⟩

def EmitInv (R : Nat) (e : Emit) : Prop := e.remain + sumSize e.fields = R

theorem emit_preserves_inv (cfg : MetaCfg) (R : Nat) (e f e') (hi : EmitInv R e) (h : emit cfg e f = .ok e') : EmitInv R e' := by
  unfold EmitInv at hi ⊢
  rcases emit_ok_cases h with ⟨_, hr, hf⟩ | ⟨_, _, _, _, _, hle, hr, hf⟩
  · rw [hr, hf]; exact hi
  · rw [hr, hf, sumSize]; omega

/-- on the reversed list (newest first) -/
def Ordered : List Field → Prop
  | [] => True
  | f :: t => (isPseudo f.name = true → ∀ g ∈ t, isPseudo g.name = true) ∧ Ordered t

def FieldOK (f : Field) : Prop := validValue f.value = true ∧ (isPseudo f.name = true ∨ validName f.name = true)

/-- all under `invalid = false`: `metaLoop` discards a block marked invalid.  The middle clause is carried only to get
    `Ordered` again when a pseudo field is recorded. -/
def EmitOK (e : Emit) : Prop :=
  e.invalid = false →
    (∀ f ∈ e.fields, FieldOK f) ∧ (e.sawRegular = false → ∀ f ∈ e.fields, isPseudo f.name = true) ∧ Ordered e.fields

theorem emit_preserves_ok (cfg : MetaCfg) (e f e') (hi : EmitOK e) (h : emit cfg e f = .ok e') : EmitOK e' := by
  rcases emit_ok_cases h with ⟨hinv, _, _⟩ | ⟨_, hi0, hv, hps, hreg, _, _, hf⟩
  · intro hc; rw [hinv] at hc; cases hc
  · intro _
    obtain ⟨a, b, c⟩ := hi hi0
    rw [hf]
    refine ⟨fun g hg => ?_, fun hs g hg => ?_, fun hp => b (hps hp).1, c⟩
    · rcases List.mem_cons.mp hg with rfl | hg
      · exact ⟨hv, (Bool.eq_false_or_eq_true (isPseudo g.name)).imp_right fun hq => (hreg hq).1⟩
      · exact a g hg
    · -- no regular field seen so far: `f` itself is a pseudo field, and so are the earlier ones
      have hp : isPseudo f.name = true := by
        cases hq : isPseudo f.name with
        | true => rfl
        | false => rw [(hreg hq).2] at hs; cases hs
      rcases List.mem_cons.mp hg with rfl | hg
      · exact hp
      · exact b (hps hp).1 g hg

variable (cfg : MetaCfg) {I : Emit → Prop} (hI : ∀ e f e', I e → emit cfg e f = .ok e' → I e')
include hI

theorem decodeLoop_preserves : ∀ (fuel : Nat) {buf : Bytes} {e : Emit} {save : Bytes} {e' : Emit},
    I e → decodeLoop cfg fuel buf e = .ok (save, e') → I e' := by
  intro fuel
  induction fuel with
  | zero => intro buf e save e' _ h; cases h
  | succ fuel ih =>
    intro buf e save e' hi h
    unfold decodeLoop at h
    rcases ite_eq_cases h with ⟨_, ⟨⟩⟩ | ⟨_, h⟩
    · exact hi
    generalize parseOne cfg.maxList buf = r at h
    cases r with
    | more =>
      rcases ite_eq_cases h with ⟨_, ⟨⟩⟩ | ⟨_, ⟨⟩⟩
      exact hi
    | comp => cases h
    | unsup => cases h
    | skip rest => exact ih hi h
    | field f rest =>
      -- an over-long name or value is an error; a disabled decoder drops the field; else `emit` sees it
      rcases ite_eq_cases (guard_ok h) with ⟨_, h⟩ | ⟨_, h⟩
      · cases hem : emit cfg e f with
        | error x => rw [hem] at h; cases h
        | ok e1 => rw [hem] at h; exact ih (hI e f e1 hi hem) h
      · exact ih hi h

theorem hdecWrite_preserves {save : Bytes} {e : Emit} {frag save' : Bytes} {e' : Emit}
    (hi : I e) (h : hdecWrite cfg save e frag = .ok (save', e')) : I e' := by
  unfold hdecWrite at h
  rcases ite_eq_cases h with ⟨_, ⟨⟩⟩ | ⟨_, h⟩
  · exact hi
  · exact decodeLoop_preserves cfg hI _ hi h

theorem metaLoop_mh (fh0 : FH) (pr : Prio) {fuel : Nat} {mf : MFramer} {e : Emit} {frag : Bytes} {ended : Bool} {inp : Bytes}
    {fh : FH} {pr' : Prio} {fs : List Field} {t : Bool} {mf' : MFramer} {rest : Bytes}
    (hi : I e) (h : metaLoop cfg fh0 pr fuel mf e frag ended inp = (.mh fh pr' fs t, mf', rest)) :
    ∃ e', I e' ∧ e'.invalid = false ∧ pseudoOK fs = true ∧ fs = e'.fields.reverse := by
  fun_induction metaLoop cfg fh0 pr fuel mf e frag ended inp with
  | case6 fuel mf e frag inp save e' hw _ _ hinv hps =>
    -- `ended = true`, the one return of a MetaHeadersFrame: `hdec.Close()`, the invalid mark and `checkPseudos` were all passed
    obtain ⟨rfl⟩ : e'.fields.reverse = fs := by injection h with h; injection h
    exact ⟨e', hdecWrite_preserves cfg hI hi hw, by simpa using hinv, by simpa using hps, rfl⟩
  | case8 fuel mf e frag ended inp save e' hw mf1 hend fh frag' fr' rest hrf ih =>
    -- `ended = false`, a CONTINUATION read: the recursive call
    exact ih (hdecWrite_preserves cfg hI hi hw) h
  | _ => cases h

theorem readFrameM_mh {mf mf' : MFramer} {inp rest : Bytes} {fh : FH} {pr : Prio} {fs : List Field} {t : Bool}
    -- `readFrameM`'s initial emit state; 1048576 = `http.DefaultMaxHeaderBytes` (`maxHeaderListSize()`)
    (h0 : I ⟨true, false, false, (if cfg.maxList == 0 then 1048576 else cfg.maxList), [], false⟩)
    (h : readFrameM cfg mf inp = (.mh fh pr fs t, mf', rest)) :
    ∃ e', I e' ∧ e'.invalid = false ∧ pseudoOK fs = true ∧ fs = e'.fields.reverse := by
  revert h
  fun_cases readFrameM cfg mf inp with
  -- `readFrame` returned a HEADERS frame
  | case2 fh1 pr1 frag fr' rest' hrf => exact metaLoop_mh cfg hI fh1 pr1 h0
  | _ => exact fun h => by cases h

omit hI in
theorem readFrameM_list_size {mf mf' : MFramer} {inp rest : Bytes} {fh : FH} {pr : Prio} {fs : List Field} {t : Bool}
    (h : readFrameM cfg mf inp = (.mh fh pr fs t, mf', rest)) :
    sumSize fs ≤ if cfg.maxList == 0 then 1048576 else cfg.maxList := by
  -- `remain + sumSize fields` keeps the value it starts with
  obtain ⟨e, he, _, _, rfl⟩ := readFrameM_mh cfg (emit_preserves_inv cfg _) (Nat.add_zero _) h
  rw [sumSize_reverse]
  exact Nat.le.intro ((Nat.add_comm ..).trans he)

end BfeVerif.C32
