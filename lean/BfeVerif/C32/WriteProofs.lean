import BfeVerif.C32.Proofs
/-! C32, write side: every writer call is `endWrite` of one frame (`wire`) behind the writer's own checks, and the
    frame's payload parses back to `expectRT`.  Round trips and the writers' sizes are read off these two facts. -/
namespace BfeVerif.C32

-- In both lemmas the divisions are first nested (`v / 65536 = v / 256 / 256`): `omega` then works with
-- coefficients of 256 only, several times cheaper than with the large divisors.
theorem len24_decode (L : Nat) (h : L < 16777216) :
    L / 65536 % 256 * 65536 + L / 256 % 256 * 256 + L % 256 = L := by
  have h2 : L / 65536 = L / 256 / 256 := by rw [Nat.div_div_eq_div_mul]
  rw [h2]
  omega

theorem be32_put32 (v : Nat) (h : v < 4294967296) :
    be32 (v / 16777216 % 256) (v / 65536 % 256) (v / 256 % 256) (v % 256) = v := by
  unfold be32
  have h2 : v / 65536 = v / 256 / 256 := by rw [Nat.div_div_eq_div_mul]
  have h3 : v / 16777216 = v / 256 / 256 / 256 := by rw [Nat.div_div_eq_div_mul, Nat.div_div_eq_div_mul]
  rw [h2, h3]
  omega

theorem low31_id (v : Nat) (h : v < 2147483648) : low31 v = v := by unfold low31; omega

theorem readFrame_written {fr : Framer} {fh : FH} {payload bs : Bytes} {f : Frame} (rest : Bytes)
    (hw : endWrite fh.typ fh.flags fh.sid payload = .ok bs) (hl : payload.length = fh.length)
    (ht : fh.typ < 256) (hf : fh.flags < 256) (hs : fh.sid < 2147483648)
    (hp : parseFrame fh payload = .ok f) (ho : orderOK fr fh) (hm : fh.length ≤ fr.maxReadSize) :
    readFrame fr (bs ++ rest) = (.ok f, orderNext fr fh, rest) := by
  obtain ⟨typ, flags, len, sid⟩ := fh
  dsimp only at hw hl ht hf hs hm
  subst hl
  unfold endWrite at hw
  have hL : payload.length < 16777216 := Nat.lt_of_not_le (guard_passed hw)
  cases guard_ok hw
  have h1 : low31 (be32 (sid / 16777216 % 256) (sid / 65536 % 256) (sid / 256 % 256) (sid % 256)) = sid := by
    rw [be32_put32 sid (by omega), low31_id sid hs]
  have h2 : ¬ (payload.length > fr.maxReadSize) := by omega
  have h3 : ¬ ((payload ++ rest).length < payload.length) := by simp
  simp only [put32, List.cons_append, List.nil_append, readFrame, parseHeader, h1, len24_decode _ hL,
    Nat.mod_eq_of_lt ht, Nat.mod_eq_of_lt hf, h2, h3, if_false, List.take_left', List.drop_left',
    (acceptFrame_ok_iff ..).mpr ⟨hp, (seqBad_eq_false_iff ..).mpr ho, rfl⟩]

def WriteSized (r : Except WErr Bytes) (L : Nat) : Prop :=
  (∀ bs, r = .ok bs → bs.length = 9 + L ∧ L < 16777216) ∧ (r = .error .tooLarge → L ≥ 16777216)

theorem endWrite_sized (t f s : Nat) (p : Bytes) : WriteSized (endWrite t f s p) p.length := by
  unfold endWrite
  split
  · exact ⟨fun bs h => (by cases h), fun _ => (by omega)⟩
  · refine ⟨fun bs h => ?_, fun h => (by cases h)⟩
    cases h
    simp [put32]; omega

structure Wire where
  typ : Nat
  flags : Nat
  sid : Nat
  payload : Bytes

/-- `r` is `endWrite` of `x` behind checks that answer errors other than `tooLarge` -/
inductive Emits (x : Wire) : Except WErr Bytes → Prop
  | write : Emits x (endWrite x.typ x.flags x.sid x.payload)
  | guard {c : Prop} [Decidable c] {e : WErr} {r : Except WErr Bytes} :
      e ≠ .tooLarge → Emits x r → Emits x (if c then .error e else r)

theorem Emits.ok {x : Wire} {r : Except WErr Bytes} {bs : Bytes} (h : Emits x r) (hr : r = .ok bs) :
    endWrite x.typ x.flags x.sid x.payload = .ok bs := by
  induction h with
  | write => exact hr
  | guard _ _ ih => exact ih (guard_ok hr)

theorem Emits.sized {x : Wire} {r : Except WErr Bytes} (h : Emits x r) : WriteSized r x.payload.length := by
  induction h with
  | write => exact endWrite_sized ..
  | guard he _ ih =>
    exact ite_prop (P := (WriteSized · _)) ⟨fun _ h => (nomatch h), fun h => absurd (Except.error.inj h) he⟩ ih

def wire : W → Wire
  | .data sid es d none => ⟨0, b2n es 1, sid, d⟩
  | .data sid es d (some pd) => ⟨0, b2n es 1 + 8, sid, pd.length :: (d ++ pd)⟩
  | .headers sid es eh pl pr frag =>
    ⟨1, b2n (pl != 0) 8 + b2n es 1 + b2n eh 4 + b2n (pr != Prio.zero) 32, sid,
      (if pl != 0 then [pl] else []) ++ (if pr != Prio.zero then prioBytes pr else []) ++ frag ++ List.replicate pl 0⟩
  | .priority sid pr => ⟨2, 0, sid, prioBytes pr⟩
  | .rst sid c => ⟨3, 0, sid, put32 c⟩
  | .settings ss => ⟨4, 0, 0, ss.flatMap fun s => put16 s.1 ++ put32 s.2⟩
  | .settingsAck => ⟨4, 1, 0, []⟩
  | .pushPromise sid pr eh pl frag =>
    ⟨5, b2n (pl != 0) 8 + b2n eh 4, sid, (if pl != 0 then [pl] else []) ++ put32 pr ++ frag ++ List.replicate pl 0⟩
  | .ping ack d => ⟨6, b2n ack 1, 0, d⟩
  | .goAway l c d => ⟨7, 0, 0, put32 (low31 l) ++ put32 c ++ d⟩
  | .windowUpdate sid inc => ⟨8, 0, sid, put32 inc⟩
  | .continuation sid eh frag => ⟨9, b2n eh 4, sid, frag⟩
  | .raw t f sid p => ⟨t, f, sid, p⟩

theorem runW_wire (allow : Bool) (w : W) : Emits (wire w) (runW allow w) := by
  cases w with
  | data sid es d pad =>
    cases pad with
    | none => exact .guard (by decide) .write
    | some pd => exact .guard (by decide) (.guard (by decide) .write)
  | headers sid es eh pl pr frag => exact .guard (by decide) (.guard (by decide) .write)
  | priority sid pr => exact .guard (by decide) .write
  | rst sid c => exact .guard (by decide) .write
  | settings ss => exact .write
  | settingsAck => exact .write
  | pushPromise sid pr eh pl frag => exact .guard (by decide) (.guard (by decide) .write)
  | ping ack d => exact .write
  | goAway l c d => exact .write
  | windowUpdate sid inc => exact .guard (by decide) .write
  | continuation sid eh frag => exact .guard (by decide) .write
  | raw t f sid p => exact .write

theorem put32_length (v : Nat) : (put32 v).length = 4 := rfl

theorem prioBytes_length (pr : Prio) : (prioBytes pr).length = 5 := rfl

theorem settingsPayload_length (ss : List (Nat × Nat)) :
    (ss.flatMap fun s => put16 s.1 ++ put32 s.2).length = 6 * ss.length := by
  induction ss with
  | nil => rfl
  | cons s t ih =>
    simp only [List.flatMap_cons, List.length_append, ih]
    simp only [put16, put32, List.length_cons, List.length_nil]
    omega

theorem wire_length (w : W) : (wire w).payload.length = wPayloadLen w := by
  cases w with
  | data sid es d pad =>
    cases pad with
    | none => rfl
    | some pd => simp only [wire, wPayloadLen, List.length_cons, List.length_append]; omega
  | settings ss => exact settingsPayload_length ss
  | headers | pushPromise | goAway =>
    simp only [wire, wPayloadLen, List.length_append, List.length_replicate, apply_ite List.length, prioBytes_length,
      put32_length, List.length_singleton, List.length_nil]
  | _ => rfl

theorem validStreamID_bounds (sid : Nat) (h : validStreamID sid = true) : sid ≠ 0 ∧ sid < 2147483648 := by
  simpa [validStreamID] using h

theorem b2n_le (b : Bool) (v : Nat) : b2n b v ≤ v := by unfold b2n; split <;> omega

theorem prio_decode (dep : Nat) (excl : Bool) (h : dep < 2147483648) :
    (if excl = true then setHigh dep else dep) < 4294967296 ∧
    low31 (if excl = true then setHigh dep else dep) = dep ∧
    ((low31 (if excl = true then setHigh dep else dep)) != (if excl = true then setHigh dep else dep)) = excl := by
  cases excl with
  | false =>
    simp only [Bool.false_eq_true, if_false, low31_id dep h, bne_self_eq_false, and_self, and_true]
    omega
  | true =>
    have hs : setHigh dep = dep + 2147483648 := by
      unfold setHigh
      rw [if_neg]
      rw [Nat.div_eq_of_lt h]
      decide
    have hl : low31 (dep + 2147483648) = dep := by unfold low31; omega
    have hne : dep ≠ dep + 2147483648 := by omega
    simp only [if_true, hs, hl, bne_iff_ne, ne_eq, hne, not_false_eq_true, and_self, and_true]
    omega

theorem flags_headers (a b c d : Bool) :
    hasFlag (b2n a 8 + b2n b 1 + b2n c 4 + b2n d 32) 8 = a ∧
    hasFlag (b2n a 8 + b2n b 1 + b2n c 4 + b2n d 32) 32 = d ∧
    hasFlag (b2n a 8 + b2n b 1 + b2n c 4 + b2n d 32) 4 = c ∧
    b2n a 8 + b2n b 1 + b2n c 4 + b2n d 32 < 256 := by
  cases a <;> cases b <;> cases c <;> cases d <;> decide

theorem flags_pp (a c : Bool) :
    hasFlag (b2n a 8 + b2n c 4) 8 = a ∧ hasFlag (b2n a 8 + b2n c 4) 4 = c ∧ b2n a 8 + b2n c 4 < 256 := by
  cases a <;> cases c <;> decide

theorem settingsOf_written (ss : List (Nat × Nat)) (h : ∀ s ∈ ss, s.1 < 65536 ∧ s.2 < 4294967296) :
    settingsOf (ss.flatMap fun s => put16 s.1 ++ put32 s.2) = ss := by
  induction ss with
  | nil => rfl
  | cons s t ih =>
    have hs := h s (List.mem_cons_self ..)
    have hid : s.1 / 256 % 256 * 256 + s.1 % 256 = s.1 := by omega
    show settingsOf (s.1 / 256 % 256 :: s.1 % 256 :: s.2 / 16777216 % 256 :: s.2 / 65536 % 256 :: s.2 / 256 % 256 ::
      s.2 % 256 :: t.flatMap fun s => put16 s.1 ++ put32 s.2) = s :: t
    rw [settingsOf, ih fun x hx => h x (List.mem_cons_of_mem _ hx), be32_put32 _ hs.2, hid]

/-- the pad-length byte a writer put in front (none for `pl = 0`) reads back as `pl` -/
theorem readPad_written (pl : Nat) (q : Bytes) :
    (if (pl != 0) = true then readByte ((if pl != 0 then [pl] else []) ++ q)
      else .ok ((if pl != 0 then [pl] else []) ++ q, 0)) = .ok (q, pl) := by
  by_cases h : pl = 0
  · subst h; rfl
  · simp [h, readByte]

theorem take_unpad (frag : Bytes) (pl : Nat) :
    (frag ++ List.replicate pl 0).take ((frag ++ List.replicate pl 0).length - pl) = frag := by
  simp

/-- the three bounds: what the header's fields can hold (`readFrame_written` asks for them) -/
theorem parse_wire {w : W} {f : Frame} (he : expectRT w = some f) :
    (wire w).typ < 256 ∧ (wire w).flags < 256 ∧ (wire w).sid < 2147483648 ∧
      parseFrame ⟨(wire w).typ, (wire w).flags, wPayloadLen w, (wire w).sid⟩ (wire w).payload = .ok f := by
  cases w with
  | data sid es d pad =>
    cases pad with
    | none =>
      dsimp only [wire, wPayloadLen]
      obtain ⟨hv, rfl⟩ := ite_some he
      simp only [Bool.and_true] at hv
      obtain ⟨hs0, hs31⟩ := validStreamID_bounds sid hv
      have hnf : hasFlag (b2n es 1) 8 = false := by cases es <;> decide
      exact ⟨by decide, Nat.lt_of_le_of_lt (b2n_le es 1) (by decide), hs31, by simp [parseFrame, parseData, hs0, hnf]⟩
    | some pd =>
      dsimp only [wire, wPayloadLen]
      obtain ⟨hv, rfl⟩ := ite_some he
      simp only [Bool.and_eq_true, decide_eq_true_eq] at hv
      obtain ⟨hs0, hs31⟩ := validStreamID_bounds sid hv.1
      have hnf : hasFlag (b2n es 1 + 8) 8 = true := by cases es <;> decide
      exact ⟨by decide, by have := b2n_le es 1; omega, hs31, by simp [parseFrame, parseData, hs0, hnf, readByte]⟩
  | headers sid es eh pl pr frag =>
    dsimp only [wire, wPayloadLen]
    obtain ⟨dep, excl, w⟩ := pr
    obtain ⟨hv, rfl⟩ := ite_some he
    simp only [Bool.and_eq_true, decide_eq_true_eq, Bool.or_eq_true, Bool.not_eq_true'] at hv
    obtain ⟨⟨⟨⟨hsid, hdep⟩, hfrag⟩, hpl⟩, hw8⟩ := hv
    obtain ⟨hs0, hs31⟩ := validStreamID_bounds sid hsid
    obtain ⟨hf8, hf32, hf4, hflt⟩ := flags_headers (pl != 0) es eh ((⟨dep, excl, w⟩ : Prio) != Prio.zero)
    have hfne : frag.length ≠ 0 := by
      intro h0; have := List.eq_nil_of_length_eq_zero h0; subst this; simp at hfrag
    refine ⟨by decide, hflt, hs31, ?_⟩
    have htail : ¬ ((frag ++ List.replicate pl 0).length ≤ pl) := by simp; omega
    simp only [parseFrame, parseHeaders, hf8, hf32, List.append_assoc, readPad_written]
    cases hD : ((⟨dep, excl, w⟩ : Prio) != Prio.zero) with
    | false =>
      have hz : (⟨dep, excl, w⟩ : Prio) = Prio.zero := by simpa using hD
      simp only [Bool.false_eq_true, if_false, List.nil_append, htail, take_unpad, hz]
      simp [hs0]
    | true =>
      have hdv : validStreamID dep = true := by
        rcases hdep with h | h
        · rw [hD] at h; cases h
        · exact h
      obtain ⟨hv32, hlow, hex⟩ := prio_decode dep excl (validStreamID_bounds dep hdv).2
      rw [bne_comm] at hex    -- `parseHeaders` writes the test as `v != low31 v`
      simp only [prioBytes, put32, List.cons_append, List.nil_append, if_true, readUint32, readByte]
      rw [be32_put32 _ hv32, hex, hlow]
      simp only [htail, take_unpad, if_false]
      simp [hs0]
  | priority sid pr =>
    dsimp only [wire, wPayloadLen]
    obtain ⟨dep, excl, w⟩ := pr
    obtain ⟨hv, rfl⟩ := ite_some he
    simp only [Bool.and_eq_true, decide_eq_true_eq] at hv
    obtain ⟨⟨hsid, hdep⟩, hw8⟩ := hv
    obtain ⟨hs0, hs31⟩ := validStreamID_bounds sid hsid
    obtain ⟨hv32, hlow, hex⟩ := prio_decode dep excl hdep
    refine ⟨by decide, by decide, hs31, ?_⟩
    simp only [parseFrame, parsePriority, prioBytes, put32, List.cons_append, List.nil_append]
    rw [be32_put32 _ hv32, hex, hlow]
    simp [hs0]
  | rst sid c =>
    dsimp only [wire, wPayloadLen]
    obtain ⟨hv, rfl⟩ := ite_some he
    simp only [Bool.and_eq_true, decide_eq_true_eq] at hv
    obtain ⟨hs0, hs31⟩ := validStreamID_bounds sid hv.1
    refine ⟨by decide, by decide, hs31, ?_⟩
    simp only [parseFrame, parseRST, put32]
    rw [be32_put32 _ hv.2]
    simp [hs0]
  | settings ss =>
    dsimp only [wire, wPayloadLen]
    obtain ⟨hv, rfl⟩ := ite_some he
    simp only [Bool.and_eq_true, List.all_eq_true, decide_eq_true_eq] at hv
    obtain ⟨hall, hiws⟩ := hv
    refine ⟨by decide, by decide, by decide, ?_⟩
    have h6 : 6 * ss.length % 6 = 0 := by omega
    have hnf : hasFlag 0 1 = false := by decide
    simp only [parseFrame, parseSettings, hnf, Bool.false_and, Bool.false_eq_true, if_false, settingsPayload_length, h6,
      settingValue, settingsOf_written ss hall]
    cases hfind : ss.find? (fun s => s.1 == 4) with
    | none => simp
    | some s =>
      rw [hfind] at hiws
      simp only [decide_eq_true_eq] at hiws
      have : ¬ s.2 > 2147483647 := by omega
      simp [this]
  | settingsAck =>
    dsimp only [wire, wPayloadLen]
    cases he
    exact ⟨by decide, by decide, by decide, by simp [parseFrame, parseSettings, settingValue, settingsOf]⟩
  | pushPromise sid promise eh pl frag =>
    dsimp only [wire, wPayloadLen]
    obtain ⟨hv, rfl⟩ := ite_some he
    simp only [Bool.and_eq_true, decide_eq_true_eq] at hv
    obtain ⟨⟨hsid, hpr⟩, hpl⟩ := hv
    obtain ⟨hs0, hs31⟩ := validStreamID_bounds sid hsid
    obtain ⟨_, hp31⟩ := validStreamID_bounds promise hpr
    obtain ⟨hf8, hf4, hflt⟩ := flags_pp (pl != 0) eh
    refine ⟨by decide, hflt, hs31, ?_⟩
    have htail : ¬ (pl > (frag ++ List.replicate pl 0).length) := by simp
    simp only [parseFrame, parsePushPromise, hf8, List.append_assoc, readPad_written]
    simp only [put32, List.cons_append, List.nil_append, readUint32]
    rw [be32_put32 _ (by omega), low31_id _ hp31]
    simp only [htail, take_unpad, if_false]
    simp [hs0]
  | ping ack d =>
    dsimp only [wire, wPayloadLen]
    obtain ⟨hv, rfl⟩ := ite_some he
    simp only [beq_iff_eq] at hv
    exact ⟨by decide, Nat.lt_of_le_of_lt (b2n_le ack 1) (by decide), by decide, by simp [parseFrame, parsePing, hv]⟩
  | goAway last code debug =>
    dsimp only [wire, wPayloadLen]
    obtain ⟨hv, rfl⟩ := ite_some he
    have hl : low31 last < 4294967296 := by unfold low31; omega
    have hll : low31 (low31 last) = low31 last := Nat.mod_mod _ _
    refine ⟨by decide, by decide, by decide, ?_⟩
    simp only [parseFrame, parseGoAway, put32, List.cons_append, List.nil_append]
    rw [be32_put32 _ hl, be32_put32 _ hv, hll]
    simp
  | windowUpdate sid incr =>
    dsimp only [wire, wPayloadLen]
    obtain ⟨hv, rfl⟩ := ite_some he
    simp only [Bool.and_eq_true, decide_eq_true_eq] at hv
    obtain ⟨⟨hs31, h1⟩, h2⟩ := hv
    refine ⟨by decide, by decide, hs31, ?_⟩
    simp only [parseFrame, parseWindowUpdate, put32]
    rw [be32_put32 _ (by omega), low31_id _ (by omega)]
    have : incr ≠ 0 := by omega
    simp [this]
  | continuation sid eh frag =>
    dsimp only [wire, wPayloadLen]
    obtain ⟨hsid, rfl⟩ := ite_some he
    obtain ⟨hs0, hs31⟩ := validStreamID_bounds sid hsid
    exact ⟨by decide, Nat.lt_of_le_of_lt (b2n_le eh 4) (by decide), hs31, by simp [parseFrame, parseContinuation, hs0]⟩
  | raw t fl sid p =>
    dsimp only [wire, wPayloadLen]
    obtain ⟨hv, rfl⟩ := ite_some he
    simp only [Bool.and_eq_true, decide_eq_true_eq] at hv
    obtain ⟨⟨⟨ht9, ht⟩, hf⟩, hs31⟩ := hv
    refine ⟨ht, hf, hs31, ?_⟩
    obtain ⟨k, rfl⟩ : ∃ k, t = k + 10 := ⟨t - 10, by omega⟩
    rfl

theorem written_reads_back (w : W) (allow : Bool) (f : Frame) (bs rest : Bytes) (fr : Framer)
    (he : expectRT w = some f) (hw : runW allow w = .ok bs) (ho : orderOK fr f.fh) (hm : f.fh.length ≤ fr.maxReadSize) :
    readFrame fr (bs ++ rest) = (.ok f, orderNext fr f.fh, rest) := by
  obtain ⟨ht, hf, hs, hp⟩ := parse_wire he
  rw [(parseFrame_shape hp).1] at ho hm ⊢
  exact readFrame_written rest ((runW_wire allow w).ok hw) (wire_length w) ht hf hs hp ho hm

theorem runW_sized (allow : Bool) (w : W) : WriteSized (runW allow w) (wPayloadLen w) :=
  wire_length w ▸ (runW_wire allow w).sized

end BfeVerif.C32
