import BfeVerif.C48.Proofs
/-! C48: the reaction table lifted to arbitrary chain results at every point and any number of requests.  One request is
  followed through ServeHTTP point by point, carrying `firstStopR ρ path = firstStopR ρ (rest of the path)` as long as
  nothing has stopped it.  simp unfolds the constants, so statements show values.  Points: 0 Accept, 1 Handshake,
  2 BeforeLocation, 3 FoundProduct, 4 AfterLocation, 5 Forward, 6 ReadResponse, 7 RequestFinish, 8 Finish.
  Verdicts: 0 Finish, 1 GoOn, 2 Redirect, 3 Response, 4 Close.  Actions: 0 keep-alive, 1 close after reply, 2 close directly. -/
namespace BfeVerif.C48
open BfeVerif.Generated.C48 (Tok armsT)

attribute [local simp] vFinish vGoOn vRedirect vResponse vClose aKeepAlive aCloseAfterReply aCloseDirectly
  pAccept pHandshake pBeforeLocation pFoundProduct pAfterLocation pForward pReadResponse pRequestFinish pFinish

/-- code and judge agree that nothing happens (`quietAtR` is the judge's half) -/
abbrev Quiet (pt v : Nat) : Prop := armFor pt v = none ∧ stops pt v = false

/-- `divergentRows` lists the row, with and without response: whatever the code does then is a known divergence -/
abbrev Excused (pt v : Nat) : Prop := stops pt v = true ∧ ∀ b, divergentRows.contains (pt, v, b) = true

/-- every verdict the extracted table mentions is below 5 -/
theorem armFor_ge5 (pt v : Nat) : armFor pt (v + 5) = none := by
  have h : ∀ a ∈ armsT, ∀ w ∈ a.2.1, w < 5 := by decide +kernel
  rw [armFor, Option.map_eq_none_iff, List.find?_eq_none]
  intro a ha hc
  have := h a ha (v + 5) (by simp at hc; exact hc.2)
  omega

theorem stops_ge5 (pt v : Nat) : stops pt (v + 5) = false := by
  simp [stops, applicable]

theorem armFor_0_0 : armFor 0 0 = none := by decide
theorem armFor_0_1 : armFor 0 1 = none := by decide
theorem armFor_0_2 : armFor 0 2 = none := by decide
theorem armFor_0_3 : armFor 0 3 = none := by decide
theorem armFor_2_1 : armFor 2 1 = none := by decide
theorem armFor_3_1 : armFor 3 1 = none := by decide
theorem armFor_4_1 : armFor 4 1 = none := by decide
theorem armFor_5_1 : armFor 5 1 = none := by decide
theorem armFor_5_3 : armFor 5 3 = none := by decide
theorem armFor_6_1 : armFor 6 1 = none := by decide
theorem armFor_6_3 : armFor 6 3 = none := by decide
theorem armFor_7_1 : armFor 7 1 = none := by decide
theorem armFor_7_2 : armFor 7 2 = none := by decide
theorem armFor_7_3 : armFor 7 3 = none := by decide
theorem stops_0_0 : stops 0 0 = false := by decide
theorem stops_0_1 : stops 0 1 = false := by decide
theorem stops_0_2 : stops 0 2 = false := by decide
theorem stops_0_3 : stops 0 3 = false := by decide
theorem stops_2_1 : stops 2 1 = false := by decide
theorem stops_3_1 : stops 3 1 = false := by decide
theorem stops_4_1 : stops 4 1 = false := by decide
theorem stops_5_1 : stops 5 1 = false := by decide
theorem stops_5_3 : stops 5 3 = false := by decide
theorem stops_6_1 : stops 6 1 = false := by decide
theorem stops_6_3 : stops 6 3 = false := by decide
theorem stops_7_1 : stops 7 1 = false := by decide
theorem stops_7_2 : stops 7 2 = false := by decide
theorem stops_7_3 : stops 7 3 = false := by decide

theorem quiet_ge5 (pt v : Nat) : Quiet pt (v + 5) := ⟨armFor_ge5 _ _, stops_ge5 _ _⟩

/-! `arm_*`: all that the proofs below know of the extracted table. -/

theorem arm_accept (v : Nat) : v = 4 ∧ armFor 0 v = some [.ret] ∨ Quiet 0 v := by
  match v with
  | 0 | 1 | 2 | 3 | 4 => decide +kernel
  | v + 5 => exact .inr (quiet_ge5 _ _)

theorem arm_req (pt : Nat) (hpt : pt = 2 ∨ pt = 3 ∨ pt = 4) (v : Nat) :
    stops pt v = true ∧
      (v = 0 ∧ armFor pt v = some [.setAction 1, .ret] ∨ v = 2 ∧ armFor pt v = some [.redirect, .isRedirect, .gotoSend] ∨
       v = 3 ∧ armFor pt v = some [.gotoGot] ∨ v = 4 ∧ armFor pt v = some [.setAction 2, .ret]) ∨ Quiet pt v := by
  rcases hpt with rfl | rfl | rfl <;>
  match v with
  | 0 | 1 | 2 | 3 | 4 => decide +kernel
  | v + 5 => exact .inr (quiet_ge5 _ _)

theorem arm_forward_requestFinish (pt : Nat) (hpt : pt = 5 ∨ pt = 7) (v : Nat) :
    v = 0 ∧ armFor pt v = some [.setAction 1, .ret] ∨
    armFor pt v = none ∧ v ≠ 0 ∧ (Excused pt v ∨ stops pt v = false) := by
  rcases hpt with rfl | rfl <;>
  match v with
  | 0 | 1 | 2 | 3 | 4 => decide +kernel
  | v + 5 => exact .inr ⟨armFor_ge5 _ _, by omega, .inr (stops_ge5 _ _)⟩

/-- First disjunct: Finish, whose arm returns before `send_response` and so drops the response in hand; that row is
    divergent with and without a response, which is all `goal_responseGot` can ask of its `hFinish`. -/
theorem arm_readResponse (v : Nat) :
    armFor 6 v = some [.setAction 1, .ret] ∧ Excused 6 v ∨
    v = 2 ∧ armFor 6 v = some [.redirect, .isRedirect, .gotoSend] ∨
    armFor 6 v = none ∧ (Excused 6 v ∨ stops 6 v = false) := by
  match v with
  | 0 | 1 | 2 | 3 | 4 => decide +kernel
  | v + 5 => exact .inr (.inr ⟨armFor_ge5 _ _, .inr (stops_ge5 _ _)⟩)

abbrev logged (ρ : Nat → ChainRes) (pt : Nat) (s : St) : St :=
  { s with calls := s.calls ++ (ρ pt).calls.map fun i => (pt, i) }

abbrev lastIdx (ρ : Nat → ChainRes) (pt : Nat) : Nat := (ρ pt).calls.getLast?.getD 0

variable {ρ : Nat → ChainRes} {pt : Nat}

theorem atPoint_eq (hb : (ρ pt).boom = false) (s : St) :
    atPoint ρ pt s = match armFor pt (ρ pt).ret with
      | none => (logged ρ pt s, .next, ρ pt)
      | some toks => ((interp pt (lastIdx ρ pt) toks (logged ρ pt s)).1, (interp pt (lastIdx ρ pt) toks (logged ρ pt s)).2, ρ pt) := by
  simp only [atPoint, hb, Bool.false_eq_true, ↓reduceIte]
  cases armFor pt (ρ pt).ret <;> rfl

theorem interp_keeps_calls (pt idx : Nat) (toks : List Tok) (s : St) : (interp pt idx toks s).1.calls = s.calls := by
  induction toks generalizing s with
  | nil => rfl
  | cons t ts ih => cases t <;> simp [interp, ih]

theorem atPoint_calls (s : St) : (atPoint ρ pt s).1.calls = s.calls ++ (ρ pt).calls.map fun i => (pt, i) := by
  cases hb : (ρ pt).boom with
  | true => simp only [atPoint, hb, ↓reduceIte]
  | false =>
    rw [atPoint_eq hb]
    split
    · rfl
    · exact interp_keeps_calls ..

def divergentStop (σ : Nat → ChainRes) : Bool :=
  match firstStopR σ path with
  | some (pt, v, _, res) => divergentRows.contains (pt, v, res.isSome)
  | none => false

/-- `m + 1` requests on the connection, `j` of them served, each with reply `out` (`none`: nothing written) and `backend`
  backend contacts -/
def Served (m : Nat) (ρ : Nat → ChainRes) (out : Option Resp) (j backend : Nat) : Prop :=
  divergentStop ρ = false →
    judgeR (m + 1) ρ (List.replicate j out.toList).flatten (j * backend) (reqBytes * (m + 1 - j)) = none

/-- What the state ServeHTTP ends in has to satisfy.  The `if` is serveRequest's keep-alive conjunction (`serveRequest_of`):
    all `m + 1` requests are served alike, or this one only -/
def GoalSt (m : Nat) (ρ : Nat → ChainRes) (s : St) : Prop :=
  s.panicked = false ∧ s.unknown = false ∧
    Served m ρ (if s.action = 2 then none else some (s.wrote.getD .default200))
      (if s.action == 0 && (ρ 7).ret != 0 then m + 1 else 1) s.backend

variable {m v idx j b : Nat} {res : Option Nat} {out : Option Resp}

theorem firstStopR_stop {σ : Nat → ChainRes} (l : List Nat) (h : stops pt (σ pt).ret = true) :
    firstStopR σ (pt :: l) = some (pt, (σ pt).ret, lastIdx σ pt, (σ pt).res) := by
  simp [firstStopR, h]

theorem firstStopR_quiet {σ : Nat → ChainRes} (l : List Nat) (h : stops pt (σ pt).ret = false) :
    firstStopR σ (pt :: l) = firstStopR σ l := by
  simp [firstStopR, h]

theorem stop_at {l : List Nat} (hfs : firstStopR ρ path = firstStopR ρ (pt :: l)) (hv : (ρ pt).ret = v)
    (hs : stops pt v = true) : firstStopR ρ path = some (pt, v, lastIdx ρ pt, (ρ pt).res) := by
  subst hv; exact hfs.trans (firstStopR_stop l hs)

/-! `served_x`: the row of `judgeR` for a first stop with verdict x accepts this output. -/

theorem served_divergent (hfs : firstStopR ρ path = some (pt, v, idx, res))
    (hd : divergentRows.contains (pt, v, res.isSome) = true) : Served m ρ out j b :=
  fun h => by rw [divergentStop, hfs] at h; exact Bool.noConfusion (hd.symm.trans h)

theorem served_excused {l : List Nat} (hfs : firstStopR ρ path = firstStopR ρ (pt :: l)) (he : Excused pt (ρ pt).ret) :
    Served m ρ out j b :=
  served_divergent (hfs.trans (firstStopR_stop l he.1)) (he.2 _)

theorem served_close (hpt : pt = 2 ∨ pt = 3 ∨ pt = 4) (hfs : firstStopR ρ path = some (pt, 4, idx, res)) :
    Served m ρ none 1 0 := by
  intro _
  rcases hpt with rfl | rfl | rfl <;> simp [judgeR, hfs]

theorem served_finish (hpt : ((pt = 2 ∨ pt = 3 ∨ pt = 4) ∧ res = none) ∨ pt = 5)
    (hfs : firstStopR ρ path = some (pt, 0, idx, res)) (w : Resp) : Served m ρ (some w) 1 0 := by
  intro _
  rcases hpt with ⟨rfl | rfl | rfl, rfl⟩ | rfl <;> simp [judgeR, hfs]

theorem head_outs {c : Prop} [Decidable c] (m : Nat) (x : Resp) :
    (List.replicate (if c then m + 1 else 1) x).head? = some x := by
  split <;> rfl

theorem served_redirect (hpt : ((pt = 2 ∨ pt = 3 ∨ pt = 4) ∧ b = 0) ∨ pt = 6)
    (hfs : firstStopR ρ path = some (pt, 2, idx, res)) (c : Bool) :
    Served m ρ (some (.redirect pt idx)) (if c then m + 1 else 1) b := by
  intro _
  rcases hpt with ⟨rfl | rfl | rfl, rfl⟩ | rfl <;> simp [judgeR, head_outs, hfs]

theorem served_response (hpt : pt = 2 ∨ pt = 3 ∨ pt = 4) (hfs : firstStopR ρ path = some (pt, 3, idx, res)) (c : Bool)
    {w : Resp} (hw : quietAtR ρ 6 = true → w = .module pt (res.getD 0)) :
    Served m ρ (some w) (if c then m + 1 else 1) 0 := by
  intro _
  by_cases hq : quietAtR ρ 6 = true
  · rcases hpt with rfl | rfl | rfl <;> simp [judgeR, head_outs, hw hq, hfs, hq]
  · rcases hpt with rfl | rfl | rfl <;> simp [judgeR, hfs, hq]

theorem served_quiet (hfs : firstStopR ρ path = firstStopR ρ [7]) (w : Resp) :
    Served m ρ (some w) (if (ρ 7).ret != 0 then m + 1 else 1) b := by
  rcases arm_forward_requestFinish 7 (.inr rfl) (ρ 7).ret with ⟨h, _⟩ | ⟨_, h0, he | h⟩
  · intro _; simp [judgeR, hfs, firstStopR, h, show stops 7 0 = true by decide]
  · exact served_excused hfs he
  · intro _; simp [judgeR, hfs, firstStopR, h, h0]

theorem goal_responseGot {x : Resp} (s : St) (hres : s.res = some x) (hr : s.isRedirect = false) (hb : (ρ 6).boom = false)
    (hFinish : Excused 6 (ρ 6).ret → GoalSt m ρ { logged ρ 6 s with action := 1 })
    (hRedirect : (ρ 6).ret = 2 →
      GoalSt m ρ { logged ρ 6 s with wrote := some (.redirect 6 (lastIdx ρ 6)), isRedirect := true })
    (hElse : Excused 6 (ρ 6).ret ∨ stops 6 (ρ 6).ret = false → GoalSt m ρ { logged ρ 6 s with wrote := some x }) :
    GoalSt m ρ (responseGot ρ s) := by
  rcases arm_readResponse (ρ 6).ret with ⟨a, h⟩ | ⟨h, a⟩ | ⟨a, h⟩ <;>
    simp only [responseGot, hres, pReadResponse, atPoint_eq hb, a, interp, sendResponse, hr, Bool.false_eq_true, ↓reduceIte]
  · exact hFinish h
  · exact hRedirect h
  · exact hElse h

section
variable (hb : ∀ pt, (ρ pt).boom = false)
include hb

theorem goal_forward (x : Option Resp) (c : List (Nat × Nat))
    (hfs : firstStopR ρ path = firstStopR ρ [5, 6, 7]) :
    GoalSt m ρ (let s := clusterInvoke ρ { res := x, calls := c }
      if s.panicked then s else responseGot ρ { s with res := some (s.res.getD .internalErr) }) := by
  rcases arm_forward_requestFinish 5 (.inl rfl) (ρ 5).ret with ⟨h5, a5⟩ | ⟨a5, -, h5⟩ <;>
    simp only [clusterInvoke, pForward, atPoint_eq (hb 5), a5, interp, Bool.false_eq_true, ↓reduceIte, Option.getD]
  · -- Finish at HandleForward: the judge asks for one reply without backend contact, whatever HandleReadResponse makes of it
    have hfs := stop_at hfs h5 rfl
    refine goal_responseGot _ rfl rfl (hb 6) (fun _ => ?_) (fun _ => ?_) (fun _ => ?_) <;>
      exact ⟨rfl, rfl, served_finish (.inr rfl) hfs _⟩
  · rcases h5 with h5 | h5
    · -- any other stopping verdict at HandleForward: excused
      refine goal_responseGot _ rfl rfl (hb 6) (fun _ => ?_) (fun _ => ?_) (fun _ => ?_) <;>
        exact ⟨rfl, rfl, served_excused hfs h5⟩
    · -- HandleForward quiet: HandleReadResponse decides
      have hfs := hfs.trans (firstStopR_quiet _ h5)
      refine goal_responseGot _ rfl rfl (hb 6) (fun h6 => ?_) (fun h6 => ?_) (fun h6 => ?_)
      · exact ⟨rfl, rfl, served_excused hfs h6⟩
      · exact ⟨rfl, rfl, served_redirect (.inr rfl) (stop_at hfs h6 rfl) _⟩
      · rcases h6 with h6 | h6
        · exact ⟨rfl, rfl, served_excused hfs h6⟩
        · exact ⟨rfl, rfl, served_quiet (hfs.trans (firstStopR_quiet _ h6)) _⟩

variable (hwf : ∀ pt, (pt = 2 ∨ pt = 3 ∨ pt = 4) → (ρ pt).ret = 3 → ∃ j, (ρ pt).res = some j)
include hwf

/-- `k` is the rest of ServeHTTP -/
theorem goal_reqPoint (hpt : pt = 2 ∨ pt = 3 ∨ pt = 4) {l : List Nat} (hfs : firstStopR ρ path = firstStopR ρ (pt :: l))
    (x : Option Resp) (c : List (Nat × Nat)) (k : St → St)
    (hk : firstStopR ρ path = firstStopR ρ l → ∀ x c, GoalSt m ρ (k { res := x, calls := c })) :
    GoalSt m ρ (reqPoint ρ pt { res := x, calls := c } k) := by
  rcases arm_req pt hpt (ρ pt).ret with ⟨hs, ⟨hv, a⟩ | ⟨hv, a⟩ | ⟨hv, a⟩ | ⟨hv, a⟩⟩ | ⟨a, hq⟩ <;>
    simp only [reqPoint, atPoint_eq (hb pt), a, interp, sendResponse, ↓reduceIte]
  · -- Finish (with a response object attached the row is divergent)
    have hfs := stop_at hfs hv (hv ▸ hs)
    cases hres : (ρ pt).res with
    | none => exact ⟨rfl, rfl, served_finish (.inl ⟨hpt, hres⟩) hfs _⟩
    | some j =>
      rw [hres] at hfs
      exact ⟨rfl, rfl, served_divergent hfs (by rcases hpt with rfl | rfl | rfl <;> rfl)⟩
  · exact ⟨rfl, rfl, served_redirect (.inl ⟨hpt, rfl⟩) (stop_at hfs hv (hv ▸ hs)) _⟩
  · -- Response: the module's response has to be the one sent only if HandleReadResponse stays quiet
    have hfs := stop_at hfs hv (hv ▸ hs)
    obtain ⟨j, hj⟩ := hwf pt hpt hv
    refine goal_responseGot _ (x := .module pt j) (by simp [hj]) rfl (hb 6) (fun h6 => ?_) (fun h6 => ?_) (fun _ => ?_) <;>
      refine ⟨rfl, rfl, served_response hpt hfs _ ?_⟩
    · simp [quietAtR, h6.1]
    · simp [quietAtR, h6, show stops 6 2 = true by decide]
    · simp [hj]
  · exact ⟨rfl, rfl, served_close hpt (stop_at hfs hv (hv ▸ hs))⟩
  · -- quiet: on to the next point
    exact hk (hfs.trans (firstStopR_quiet l hq)) _ _

theorem goal_serveHTTP (hA : stops 0 (ρ 0).ret = false) : GoalSt m ρ (serveHTTP ρ) :=
  goal_reqPoint hb hwf (.inl rfl) (firstStopR_quiet _ hA) _ _ _ fun h _ _ =>
    goal_reqPoint hb hwf (.inr (.inl rfl)) h _ _ _ fun h _ _ =>
      goal_reqPoint hb hwf (.inr (.inr rfl)) h _ _ _ fun h _ _ => goal_forward hb _ _ h

end

/-- every request is served like the first: the loop in closed form -/
theorem serveLoop_succ (ρ : Nat → ChainRes) (k : Nat) (acc : ConnOut) :
    let r := serveRequest ρ
    let j := if r.keep then k + 1 else 1
    serveLoop ρ (k + 1) acc =
      { acc with calls := acc.calls ++ (List.replicate j r.calls).flatten,
                 outs := acc.outs ++ (List.replicate j r.out.toList).flatten,
                 backend := acc.backend + j * r.backend, served := acc.served + j,
                 unknown := acc.unknown || r.unknown } := by
  cases hk : (serveRequest ρ).keep with
  | false => simp [serveLoop, hk]
  | true =>
    induction k generalizing acc with
    | zero => simp [serveLoop]
    | succ k ih =>
      rw [serveLoop]
      simp only [hk, ↓reduceIte, ih, List.replicate_succ (n := k + 1), List.flatten_cons, List.append_assoc,
        Nat.succ_mul (k + 1), Bool.or_assoc, Bool.or_self, ConnOut.mk.injEq, true_and, and_true]
      omega

/-- the whole trace of a connection; without keep-alive one request is served, if there is one (`min n 1`) -/
theorem serveConnR_calls (n : Nat) (ρ : Nat → ChainRes) :
    (serveConnR n ρ).calls =
      (ρ pAccept).calls.map (fun i => (pAccept, i)) ++
        (if (atPoint ρ pAccept {}).2.1 == .ret then []
         else (List.replicate (if (serveRequest ρ).keep then n else min n 1) (serveRequest ρ).calls).flatten) ++
        (ρ pFinish).calls.map (fun i => (pFinish, i)) := by
  simp only [serveConnR]
  split
  · simp [atPoint_calls]
  · cases n with
    | zero => simp [serveLoop, atPoint_calls]
    | succ k => rw [serveLoop_succ]; simp [atPoint_calls]

theorem serveRequest_of (hb : (ρ 7).boom = false) (hp : (serveHTTP ρ).panicked = false) :
    serveRequest ρ =
      { out := if (serveHTTP ρ).action = 2 then none else some ((serveHTTP ρ).wrote.getD .default200),
        keep := (serveHTTP ρ).action == 0 && (ρ 7).ret != 0, backend := (serveHTTP ρ).backend,
        calls := (serveHTTP ρ).calls ++ (ρ 7).calls.map fun i => (7, i), unknown := (serveHTTP ρ).unknown } := by
  rcases arm_forward_requestFinish 7 (.inr rfl) (ρ 7).ret with ⟨h, a⟩ | ⟨a, h, _⟩
  · rw [h] at a; simp [serveRequest, hp, atPoint_eq hb, a, interp, h]
  · simp [serveRequest, hp, atPoint_eq hb, a, h]

theorem goal_all (n : Nat) (ρ : Nat → ChainRes) (hb : ∀ pt, (ρ pt).boom = false)
    (hwf : ∀ pt, (pt = 2 ∨ pt = 3 ∨ pt = 4) → (ρ pt).ret = 3 → ∃ j, (ρ pt).res = some j) :
    (serveConnR n ρ).unknown = false ∧
    (divergentStop ρ = false →
      judgeR n ρ (serveConnR n ρ).outs (serveConnR n ρ).backend (reqBytes * (n - (serveConnR n ρ).served)) = none) := by
  rcases arm_accept (ρ 0).ret with ⟨h, a⟩ | ⟨a, h⟩
  · -- Close at HandleAccept: conn.serve returns before a request is read
    rw [h] at a
    simp [serveConnR, atPoint_eq (hb 0), a, interp, judgeR, firstStopR, path, h, show stops 0 4 = true by decide,
      reqBytes]
  · cases n with
    | zero => simp [serveConnR, atPoint_eq (hb 0), a, serveLoop, judgeR]
    | succ m =>
      obtain ⟨hp, hu, hj⟩ := goal_serveHTTP (m := m) hb hwf h
      simp only [serveConnR, pAccept, atPoint_eq (hb 0), a, beq_iff_eq, reduceCtorEq, ↓reduceIte, serveLoop_succ,
        serveRequest_of (hb 7) hp]
      simpa [hu, Served] using hj

theorem serveConn_general (n : Nat) (ch : Nat → List Elem) (hb : ∀ pt, (specChain (ch pt)).boom = false)
    (hwf : ∀ pt, (pt = 2 ∨ pt = 3 ∨ pt = 4) → (specChain (ch pt)).ret = 3 → ∃ j, (specChain (ch pt)).res = some j) :
    (serveConn n ch).unknown = false ∧
    (divergentStop (fun pt => specChain (ch pt)) = false →
      judge n ch (serveConn n ch).outs (serveConn n ch).backend (reqBytes * (n - (serveConn n ch).served)) = none) := by
  have hρ : (fun pt => runChain 0 (ch pt)) = fun pt => specChain (ch pt) := funext fun pt => runChain_eq_spec (ch pt) 0
  simpa only [serveConn, judge, hρ] using goal_all n (fun pt => specChain (ch pt)) hb hwf

theorem firstStopR_only {σ : Nat → ChainRes} {pt : Nat} (hσ : ∀ q, q ≠ pt → (σ q).ret = vGoOn) (l : List Nat) :
    firstStopR σ l = none ∨ firstStopR σ l = some (pt, (σ pt).ret, lastIdx σ pt, (σ pt).res) := by
  induction l with
  | nil => exact .inl rfl
  | cons q l ih =>
    cases hs : stops q (σ q).ret with
    | false => rwa [firstStopR_quiet l hs]
    | true =>
      have hq : q = pt := Classical.byContradiction fun h => by simp [hσ q h, stops] at hs
      subst hq
      exact .inr (firstStopR_stop l hs)

theorem specChain_single (v : Nat) (r : Bool) :
    specChain [.f v r] = { ret := v, calls := [0], res := if r then some 0 else none } := by
  by_cases hv : v = 1
  · subst hv; cases r <;> rfl
  · simp [specChain, specChainFrom, isGoOn, hv, specOf]

theorem rowOK_of_general (pt v : Nat) (r : Bool) (hr : v = vResponse → r = true) (hd : (pt, v, r) ∉ divergentRows) :
    rowOK pt v r = true := by
  have hpt : specChain (single pt v r pt) = { ret := v, calls := [0], res := if r then some 0 else none } := by
    simp [single, specChain_single]
  have hne : ∀ q, q ≠ pt → specChain (single pt v r q) = { ret := vGoOn, calls := [], res := none } := by
    intro q hq; simp [single, hq]; rfl
  obtain ⟨hu, hj⟩ := serveConn_general 2 (single pt v r)
    (fun q => by by_cases hq : q = pt <;> simp [hq, hpt, hne])
    (fun q _ h => by
      by_cases hq : q = pt
      · subst hq; rw [hpt] at h ⊢; exact ⟨0, by simp [hr h]⟩
      · rw [hne q hq] at h; cases h)
  have hdiv : divergentStop (fun q => specChain (single pt v r q)) = false := by
    rw [divergentStop]
    rcases firstStopR_only (σ := fun q => specChain (single pt v r q)) (pt := pt)
      (fun q hq => congrArg ChainRes.ret (hne q hq)) path with h | h <;> rw [h]
    show divergentRows.contains (pt, _, Option.isSome _) = false
    rw [hpt]
    cases r <;> simpa using hd
  simp [rowOK, hu, hj hdiv]

end BfeVerif.C48
