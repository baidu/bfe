import BfeVerif.C48.General
/-!
  C48 — at each callback point, module filters run in registration order and the first verdict other than
  continue stops the chain; Close sends nothing to the client, Redirect / Response send exactly that response
  without contacting a backend, Finish closes the connection after replying.
-/
namespace BfeVerif.C48
open BfeVerif.Generated

/-- **Order and stop** (all chains): `HandlerList.FilterXxx` calls exactly the filters up to and including the first
    one that does not return GoOn, in registration order, returns that verdict (GoOn if there is none, also when an
    element of a foreign filter type ends the walk), and `FilterRequest` hands back the response of the last filter called. -/
theorem C48_order_stop (c : List Elem) : runChain 0 c = specChain c :=
  runChain_eq_spec c 0

/-- shape of the specification `specChain`, carried over to `runChain`: the calls are `0, 1, ..` and at most one
    more than the leading GoOn elements -/
theorem C48_nothing_after_stop (c : List Elem) :
    (runChain 0 c).calls = List.range' 0 (runChain 0 c).calls.length ∧
    (runChain 0 c).calls.length ≤ (c.takeWhile isGoOn).length + 1 := by
  rw [C48_order_stop]
  unfold specChain specChainFrom specOf
  split <;> simp

/-- the generated const blocks carry the values the model uses -/
theorem C48_constants :
    C48.verdicts.map (·.2) = [vFinish, vGoOn, vRedirect, vResponse, vClose] ∧
    C48.callbackPoints.map (·.2) = [pAccept, pHandshake, pBeforeLocation, pFoundProduct, pAfterLocation, pForward,
      pReadResponse, pRequestFinish, pFinish] ∧
    C48.actions.map (·.2) = [aKeepAlive, aCloseAfterReply, aCloseDirectly] := by decide +kernel

/-- every statement of every extracted arm is one the skeleton interprets; every callback point occurs exactly once
    in bfe_server with its verdict inspected, except HandleFinish's, which is discarded (`(pFinish, false)`); ServeHTTP
    visits its four points in the order the skeleton assumes; each point's block is guarded by nothing but `hl != nil`
    (`pointGuards = []`: no point is conditional). -/
theorem C48_reactions_understood :
    C48.armsT.all (fun a => !a.2.2.contains .unknown) = true ∧
    C48.pointsT = [(pAccept, true), (pHandshake, true), (pBeforeLocation, true), (pFoundProduct, true),
      (pAfterLocation, true), (pForward, true), (pReadResponse, true), (pRequestFinish, true), (pFinish, false)] ∧
    C48.serveHTTPOrder.length = 4 ∧ C48.pointGuards = [] := by decide +kernel

/-- **The skeleton is the source's**: in every function the model's skeleton mirrors, the callback points, the labels
    `response_got` / `send_response` and the calls occur in exactly the order `serveConnR` / `serveRequest` /
    `serveHTTP` / `clusterInvoke` perform them, and the guards (`!isRedirect && res != nil`, `err != nil || res == nil`,
    `ret1 == closeDirectly`, the keep-alive conjunction and the loop break) are textually present — re-extracted from the current source on every run.  (Which `return` / `goto`
    ends each arm is part of `armsT`, see `C48_reactions_understood`.) -/
theorem C48_skeleton_as_modelled :
    C48.events =
      [("conn.serve", ["call:finish", "point:Accept", "call:Handshake", "point:Handshake", "call:readRequest",
          "call:serveRequest"]),
       ("conn.serveRequest", ["call:ServeHTTP", "call:prepareForCloseConn", "call:finishRequest", "call:FinishReq"]),
       ("conn.finish", ["point:Finish"]),
       ("ReverseProxy.ServeHTTP", ["point:BeforeLocation", "call:findProduct", "point:FoundProduct", "call:findCluster",
          "point:AfterLocation", "call:clusterInvoke", "label:response_got", "point:ReadResponse", "label:send_response",
          "call:sendResponse"]),
       ("ReverseProxy.clusterInvoke", ["call:Balance", "point:Forward", "call:RoundTrip"]),
       ("ReverseProxy.FinishReq", ["point:RequestFinish"])] ∧
    C48.guards.all (·.2) = true := ⟨rfl, rfl⟩

theorem interp_calls (pt idx : Nat) (toks : List C48.Tok) (s : St) : (interp pt idx toks s).1.calls = s.calls :=
  interp_keeps_calls pt idx toks s

/-- **HandleRequestFinish runs for every request, on every path, exactly once and last**: whatever the chains at the
    other points return (Close, Finish, Redirect, Response, anything) — unless a filter panicked — the trace of one request
    ends with exactly the calls `HandlerList.FilterResponse` makes on the RequestFinish chain. -/
theorem C48_request_finish_always_runs (ρ : Nat → ChainRes) (h : (serveHTTP ρ).panicked = false) :
    (serveRequest ρ).calls = (serveHTTP ρ).calls ++ (ρ pRequestFinish).calls.map (fun i => (pRequestFinish, i)) := by
  simp only [serveRequest, h, Bool.false_eq_true, ↓reduceIte]
  exact atPoint_calls _

/-- **HandleFinish runs exactly once per connection, last** (it is deferred: also after Close at accept and after a
    panic), and HandleAccept first. -/
theorem C48_accept_first_finish_last (n : Nat) (ρ : Nat → ChainRes) :
    ∃ mid, (serveConnR n ρ).calls =
      (ρ pAccept).calls.map (fun i => (pAccept, i)) ++ mid ++ (ρ pFinish).calls.map (fun i => (pFinish, i)) :=
  ⟨_, serveConnR_calls n ρ⟩

/-- a panicking filter (model; the real code is driven on the same rows): the connection is closed, the panicking
    request gets no reply unless the panic is at HandleRequestFinish (reply already sent), later pipelined requests are
    not served, HandleFinish still runs; a panic INSIDE HandleFinish closes the connection too (fix 95335f7, class
    `conn-left-open-after-panic-in-finish`). -/
theorem C48_panic_rows :
    (∀ pt ∈ [pAccept, pBeforeLocation, pFoundProduct, pAfterLocation, pForward, pReadResponse],
      let o := serveConn 3 (fun q => if q == pt then [.boom] else if q == pFinish then [.f 1 false] else []);
      o.outs = [] ∧ o.closed = true ∧ o.calls.getLast? = some (pFinish, 0)) ∧
    (let o := serveConn 3 (fun q => if q == pRequestFinish then [.boom] else []);
      o.outs = [.backend] ∧ o.closed = true ∧ o.served = 1) ∧
    (let o := serveConn 3 (fun q => if q == pFinish then [.boom] else []);
      o.outs = [.backend, .backend, .backend] ∧ o.closed = true) := by decide +kernel

/-- HandleHandshake (TLS connections; not driven by the harness) reacts to every verdict exactly like HandleAccept -/
theorem C48_handshake_like_accept : ∀ v ∈ allVerdicts, armFor pHandshake v = armFor pAccept v := by decide +kernel

/-- for every callback point and verdict the reaction is the documented one (a verdict a point cannot express,
    `applicable = false`, is ignored and the request is served) -/
def C48_table_full : Prop :=
  ∀ pt ∈ allPoints, ∀ v ∈ allVerdicts, ∀ r : Bool, (v = vResponse → r = true) → rowOK pt v r = true

/-- **Reaction table** over the arms extracted from the current source: documented reaction at every
    (point, verdict) except the rows listed in `divergentRows`. -/
theorem C48_table_partial :
    ∀ pt ∈ allPoints, ∀ v ∈ allVerdicts, ∀ r : Bool, (v = vResponse → r = true) →
      (pt, v, r) ∉ divergentRows → rowOK pt v r = true :=
  fun pt _ v _ r hr hd => rowOK_of_general pt v r hr hd

/-- every listed row really diverges (so the exception list is tight) … -/
theorem C48_witness_divergent : ∀ row ∈ divergentRows, rowOK row.1 row.2.1 row.2.2 = false := by decide +kernel

/-- … and the full statement is false for the code as it is. -/
theorem C48_table_full_false : ¬ C48_table_full := by
  intro h
  exact Bool.noConfusion ((h pForward (by decide) vClose (by decide) false (by decide)).symm.trans
    (C48_witness_divergent (pForward, vClose, false) (by decide)))

def divergentFirst (ch : Nat → List Elem) : Bool := divergentStop fun pt => specChain (ch pt)

/-- **The table lifted to every configuration**: for every assignment of filter chains (any length, any verdict
    values, foreign-type elements) to the callback points and every number `n` of pipelined requests, the model of
    conn.serve interprets only arms it understands, and what the client observes (responses, backend contacts,
    unread bytes = connection closed) is the documented reaction to the first applicable non-GoOn verdict in callback
    order (`judge`), unless that verdict is one of the `divergentRows`.  Hypotheses: a Response verdict at a request
    point comes with a response object (otherwise ServeHTTP dereferences nil); no filter panics (`C48_panic_rows`). -/
theorem C48_general (n : Nat) (ch : Nat → List Elem)
    (hb : ∀ pt, (specChain (ch pt)).boom = false)
    (hwf : ∀ pt, (pt = pBeforeLocation ∨ pt = pFoundProduct ∨ pt = pAfterLocation) →
      (specChain (ch pt)).ret = vResponse → ∃ j, (specChain (ch pt)).res = some j) :
    (serveConn n ch).unknown = false ∧
    (divergentFirst ch = false →
      judge n ch (serveConn n ch).outs (serveConn n ch).backend (reqBytes * (n - (serveConn n ch).served)) = none) :=
  serveConn_general n ch hb hwf

/-- non-vacuity of `C48_general` -/
example : divergentFirst (fun pt => if pt = 3 then [.f 1 true, .f 1 false, .f 3 true, .f 4 false] else
    if pt = 6 then [.f 1 false, .f 2 false] else if pt = 7 then [.f 0 false] else []) = false := by decide +kernel

/-- Close before the request is forwarded: nothing is written, no backend is contacted, the second pipelined
    request is never served. -/
theorem C48_close_rows :
    ∀ pt ∈ [pBeforeLocation, pFoundProduct, pAfterLocation],
      (serveConn 2 (single pt vClose false)).outs = [] ∧ (serveConn 2 (single pt vClose false)).backend = 0 ∧
      (serveConn 2 (single pt vClose false)).served = 1 := by decide +kernel

/-- Redirect / Response before forwarding: exactly that response, no backend contact. -/
theorem C48_redirect_response_rows :
    ∀ pt ∈ [pBeforeLocation, pFoundProduct, pAfterLocation],
      (serveConn 1 (single pt vRedirect false)).outs = [.redirect pt 0] ∧ (serveConn 1 (single pt vRedirect false)).backend = 0 ∧
      (serveConn 1 (single pt vResponse true)).outs = [.module pt 0] ∧ (serveConn 1 (single pt vResponse true)).backend = 0 := by
  decide +kernel

/-- non-vacuity: a quiet configuration serves both requests from the backend -/
example : (serveConn 2 (fun _ => [])).outs = [.backend, .backend] ∧ (serveConn 2 (fun _ => [])).backend = 2 := by decide +kernel
example : runChain 0 [.f 1 true, .f 1 false, .f 4 false, .f 0 true] = { ret := 4, calls := [0, 1, 2], res := none } := by decide +kernel
example : runChain 0 [.f 1 true, .bad, .f 4 false] = { ret := 1, calls := [0], res := some 0 } := by decide +kernel

end BfeVerif.C48
