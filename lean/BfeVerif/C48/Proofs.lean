import BfeVerif.C48.Model
namespace BfeVerif.C48

/-- the response of a GoOn filter in front is the one handed back only if nothing else is called -/
theorem specOf_cons_goOn (i : Nat) (r : Bool) (p d : List Elem) :
    specOf i (.f vGoOn r :: p) d =
      { ret := (specOf (i + 1) p d).ret, calls := i :: (specOf (i + 1) p d).calls,
        res := if (specOf (i + 1) p d).calls.isEmpty then (if r then some i else none) else (specOf (i + 1) p d).res,
        boom := (specOf (i + 1) p d).boom } := by
  match d with
  | .f _ r' :: _ =>
    simp only [specOf, List.length_cons, List.range'_succ]
    cases r' <;> simp <;> omega
  | .boom :: _ => simp [specOf, List.range'_succ]
  | [] | .bad :: _ =>
    cases p with
    | nil => cases r <;> simp [specOf, List.range'_succ]
    | cons a as =>
      simp only [specOf, List.length_cons, List.range'_succ, List.getLast?_cons_cons]
      -- the last GoOn element: none / a filter with or without response / not a filter
      rcases (a :: as).getLast? with _ | ⟨_, _ | _⟩ | _ | _ <;> simp <;> omega

theorem runChain_eq_spec (c : List Elem) : ∀ i, runChain i c = specChainFrom i c := by
  induction c with
  | nil => intro i; simp [runChain, specChainFrom, specOf]
  | cons e rest ih =>
    intro i
    cases e with
    | bad => simp [runChain, specChainFrom, specOf, isGoOn]
    | boom => simp [runChain, specChainFrom, specOf, isGoOn]
    | f v r =>
      by_cases hv : v = vGoOn
      · subst hv
        have hg : isGoOn (.f vGoOn r) = true := by simp [isGoOn]
        rw [runChain]
        simp only [ne_eq, not_true_eq_false, ↓reduceIte, ih (i + 1)]
        simp only [specChainFrom, List.takeWhile_cons, List.dropWhile_cons, hg, ↓reduceIte]
        exact (specOf_cons_goOn i r _ _).symm
      · have hg : isGoOn (.f v r) = false := by simp [isGoOn, hv]
        simp [runChain, specChainFrom, specOf, hg, hv]

end BfeVerif.C48
