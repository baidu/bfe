import BfeVerif.C35.Model
/-!
  C35 — the stream invariant `SInv` is kept by every stream step (`sstep_inv`), every connection step
  (`cstep_inv`) and the write scheduler (`drain_inv`), and none of them reaches a panic site (`SOk` / `COk`).
  Then the equations the rule theorems rewrite with, and the table of server.go's `panic` sites.
-/
namespace BfeVerif.C35

/-- invariant of one stream in schedules without handler panics -/
structure SInv (s : SS) : Prop where
  /-- excludes the `noBody` / `nilBody` sites -/
  body : s.phase = .opn → s.hasBody = true
  /-- keeps `qidle` when the handler's frames are queued -/
  run : s.handler = .running → s.phase = .opn ∨ s.phase = .hcr ∨ s.phase = .closedReset
  /-- the `panicFrame` arm of `wrote` is the `closeClosed` site -/
  nopanic : s.fly ≠ .panicFrame
  /-- keeps `run` when `wrote` closes a stream by completion -/
  fin : s.fly = .endFrame → s.handler = .finished
  /-- no frame is queued in the write scheduler for a stream closed by completion (or never opened):
      closeStream forgets the stream's queue -/
  qidle : s.phase = .closedDone ∨ s.phase = .idle → s.q = []
  /-- response frames are queued only by a handler that has ended -/
  qfin : ∀ f ∈ s.q, f = .winupd ∨ s.handler = .finished
  qnp : ∀ f ∈ s.q, f ≠ .panicRst

theorem ite_both {α : Sort _} {P : α → Prop} {c : Prop} [Decidable c] {a b : α} (ha : P a) (hb : P b) :
    P (if c then a else b) :=
  iteInduction (fun _ => ha) fun _ => hb

theorem live_iff (s : SS) : s.live = true ↔ s.phase = .opn ∨ s.phase = .hcr := by
  simp [SS.live]

theorem sinv_noq {s : SS} (hq : s.q = []) (hb : s.phase = .opn → s.hasBody = true)
    (hr : s.handler = .running → s.phase = .opn ∨ s.phase = .hcr ∨ s.phase = .closedReset)
    (hnp : s.fly ≠ .panicFrame) (hfin : s.fly = .endFrame → s.handler = .finished) : SInv s :=
  { body := hb, run := hr, nopanic := hnp, fin := hfin, qidle := fun _ => hq,
    qfin := hq ▸ nofun, qnp := hq ▸ nofun }

theorem sinv_noq_nofly {s : SS} (hq : s.q = []) (hf : s.fly = .none) (hb : s.phase = .opn → s.hasBody = true)
    (hr : s.handler = .running → s.phase = .opn ∨ s.phase = .hcr ∨ s.phase = .closedReset) : SInv s :=
  sinv_noq hq hb hr (by rw [hf]; nofun) (by rw [hf]; nofun)

theorem sinv_default : SInv {} := sinv_noq_nofly rfl rfl nofun nofun

/-- what `SInv` (`qfin`, `qnp`) lets stand in the queue of `s` -/
def Allowed (s : SS) (f : QF) : Prop := (f = .winupd ∨ s.handler = .finished) ∧ f ≠ .panicRst

theorem SInv.allowed {s : SS} {f : QF} (h : SInv s) (hm : f ∈ s.q) : Allowed s f := ⟨h.qfin f hm, h.qnp f hm⟩

theorem Allowed.data {s : SS} {k : Nat} {es : Bool} (h : Allowed s (.data k es)) (k' : Nat) (es' : Bool) :
    Allowed s (.data k' es') :=
  ⟨Or.inr (h.1.resolve_left nofun), nofun⟩

/-- the steps that at most move `opn → hcr` and queue `Allowed` frames -/
theorem SInv.of_same_handler {s s' : SS} (h : SInv s) (hb : s'.hasBody = s.hasBody) (hh : s'.handler = s.handler)
    (hf : s'.fly = s.fly) (hp : s'.phase = s.phase ∨ (s.phase = .opn ∧ s'.phase = .hcr))
    (hq : ∀ f ∈ s'.q, f ∈ s.q ∨ Allowed s f)
    (hi : s'.phase = .closedDone ∨ s'.phase = .idle → s'.q = []) : SInv s' := by
  refine { body := fun ho => ?_, run := fun hr => ?_, nopanic := hf ▸ h.nopanic, fin := hf ▸ hh ▸ h.fin,
           qidle := hi, qfin := fun f hm => ?_, qnp := fun f hm => (hq f hm).elim (h.qnp f) (·.2) }
  · rcases hp with hp | ⟨_, hp⟩
    · rw [hb]; exact h.body (hp ▸ ho)
    · rw [hp] at ho; cases ho
  · rcases hp with hp | ⟨_, hp⟩
    · rw [hp]; exact h.run (hh ▸ hr)
    · exact Or.inr (Or.inl hp)
  · rw [hh]
    exact (hq f hm).elim (h.qfin f) (·.1)

theorem SInv.inert {s : SS} {t : Bool} {d : Option Nat} {g : Nat} {w : Int} (h : SInv s) :
    SInv { s with trailer := t, decl := d, got := g, flow := w } :=
  SInv.of_same_handler h rfl rfl rfl (Or.inl rfl) (fun _ => Or.inl) h.qidle

theorem sinv_closeReset {s : SS} (h : SInv s) : SInv (closeReset s) :=
  sinv_noq rfl nofun (fun _ => Or.inr (Or.inr rfl)) h.nopanic h.fin

theorem sinv_fly {s : SS} (x : Fly) (h : SInv s) (hx : x ≠ .panicFrame)
    (hfin : x = .endFrame → s.handler = .finished) : SInv { s with fly := x } :=
  { h with nopanic := hx, fin := hfin }

def Out.isPanic : Out → Bool
  | .panic _ => true
  | _ => false

def SOk (r : SS × Out) : Prop := SInv r.1 ∧ r.2.isPanic = false

/-- the events of a schedule without handler panic never hand a handlerPanicRST to the scheduler -/
def SEv.noPanicFrame : SEv → Bool
  | .handlerFrames fs => fs.all fun f => f != .panicRst
  | .start _ => false          -- `start` is used by the scheduler only, see `start_inv`
  | _ => true

/-- `P` (a handler panic) is the only event that queues a `panicRst` -/
def Ev.isP : Ev → Bool
  | .P _ => true
  | _ => false

theorem sstep_inv (s : SS) (e : SEv) (hne : e.noPanicFrame = true) (h : SInv s) : SOk (sstep s e) := by
  have hreset : ∀ code, SOk (if s.live then closeReset s else s, Out.rst code) :=
    fun _ => ⟨ite_both (sinv_closeReset h) h, rfl⟩
  -- an open stream has a body pipe, so the `nilBody` / `noBody` sites are not reached
  have hbody : s.phase = .opn → ¬(!s.hasBody) = true := fun ho => by simp [h.body ho]
  cases e with
  | start f => cases hne
  | hnew es ok over d iws =>
    -- over the limit / malformed pseudo headers / accepted; `by simp`: `hasBody = !es`
    cases es <;> exact ite_both ⟨sinv_noq_nofly rfl rfl (by simp) nofun, rfl⟩
      (ite_both ⟨sinv_noq_nofly rfl rfl nofun nofun, rfl⟩ ⟨sinv_noq_nofly rfl rfl (by simp) (by simp), rfl⟩)
  | hagain es pseudo =>
    -- not live / hcr / duplicated trailers / no END_STREAM / pseudo fields / no body (excluded) / ok
    refine iteInduction (fun _ => ⟨h, rfl⟩) fun hl => ?_
    refine iteInduction (fun _ => ⟨sinv_closeReset h, rfl⟩) fun hh => ?_
    refine ite_both ⟨h, rfl⟩ ?_
    have hopn : s.phase = .opn :=
      ((live_iff s).mp (by simpa using hl)).resolve_right (by simpa using hh)
    have ht : SInv { s with trailer := true } := h.inert
    refine ite_both ⟨sinv_closeReset ht, rfl⟩ (ite_both ⟨sinv_closeReset ht, rfl⟩ ?_)
    exact iteInduction (fun hnb => absurd hnb (hbody hopn)) fun _ =>
      ⟨SInv.of_same_handler ht rfl rfl rfl (Or.inr ⟨hopn, rfl⟩) (fun _ => Or.inl) nofun, rfl⟩
  | data n es pad =>
    -- not open / no body (excluded) / over declared / END_STREAM or not
    refine iteInduction (fun _ => hreset 5) fun hc => ?_
    have hopn : s.phase = .opn := by
      simp at hc
      exact hc.1.2
    refine iteInduction (fun hnb => absurd hnb (hbody hopn)) fun _ => ite_both ⟨sinv_closeReset h, rfl⟩ ?_
    have hq : ∀ f ∈ (if pad > 0 then s.q ++ [QF.winupd] else s.q), f ∈ s.q ∨ Allowed s f := by
      intro f hm
      split at hm
      · -- the refund of the padding
        refine (List.mem_append.mp hm).imp_right fun hm => ?_
        rw [List.mem_singleton.mp hm]
        exact ⟨Or.inl rfl, nofun⟩
      · exact Or.inl hm
    exact ite_both ⟨SInv.of_same_handler h rfl rfl rfl (Or.inr ⟨hopn, rfl⟩) hq nofun, rfl⟩
      ⟨SInv.of_same_handler h rfl rfl rfl (Or.inl rfl) hq (by rw [hopn]; nofun), rfl⟩
  | rstc => exact ite_both ⟨sinv_closeReset h, rfl⟩ ⟨h, rfl⟩
  | handlerFrames fs =>
    refine iteInduction (fun _ => ⟨h, rfl⟩) fun hrun => ?_
    have hrun : s.handler = .running := by simpa using hrun
    have hne : ∀ f ∈ fs, f ≠ .panicRst := by simpa [SEv.noPanicFrame] using hne
    refine ⟨{ h with run := nofun, fin := fun _ => rfl, qidle := ?_, qfin := fun _ _ => Or.inr rfl,
                     qnp := fun f hf' => (List.mem_append.mp hf').elim (h.qnp f) (hne f) }, rfl⟩
    -- a stream whose handler was running is not closed by completion
    intro (hc : s.phase = .closedDone ∨ s.phase = .idle)
    exfalso
    rcases h.run hrun with hp | hp | hp
    all_goals
      rw [hp] at hc
      exact hc.elim nofun nofun
  | winUpd inc =>
    refine ite_both ⟨h, rfl⟩ ?_
    cases flowAdd s.flow inc with
    | some f => exact ⟨h.inert, rfl⟩
    | none => exact ⟨sinv_closeReset h, rfl⟩
  | badWinUpd => exact hreset 1
  | wrote =>
    unfold sstep
    cases hfly : s.fly with
    | none => exact ⟨h, rfl⟩
    | panicFrame => exact absurd hfly h.nopanic
    | endFrame =>
      have hfin := h.fin hfly
      have h' := sinv_fly .none h nofun nofun
      dsimp only
      split
      · exact ⟨sinv_closeReset h', rfl⟩    -- `opn`
      · -- `hcr`: closed by completion
        exact ⟨sinv_noq_nofly rfl rfl nofun (fun hr => nomatch hfin.symm.trans hr), rfl⟩
      · exact ⟨h', rfl⟩

/-- startFrameWrite for a frame the scheduler took from the stream's queue: the stream is not closed by
    completion (its queue would be empty), so the "write on a closed stream" panic is not reached -/
theorem start_inv (s : SS) (f : QF) (h : SInv s) (hp : ¬(s.phase = .closedDone ∨ s.phase = .idle))
    (hf : Allowed s f) : SOk (sstep s (.start f)) := by
  simp only [sstep]
  -- phase `closedReset` / `closedDone` / `idle` / other; then `hdr true` / `data _ true` / `panicRst` / other
  split
  · exact ⟨h, rfl⟩
  · exact absurd (Or.inl ‹_›) hp
  · exact absurd (Or.inr ‹_›) hp
  · have hend : f ≠ .winupd → SOk ({ s with fly := .endFrame }, Out.held) :=
      fun hw => ⟨sinv_fly _ h nofun fun _ => hf.1.resolve_left hw, rfl⟩
    split
    · exact hend nofun
    · exact hend nofun
    · exact absurd rfl hf.2
    · exact ⟨h, rfl⟩

def CInv (c : Conn) : Prop := ∀ id, SInv (c.streams id)

def COk (r : Conn × Out) : Prop := CInv r.1 ∧ r.2.isPanic = false

theorem cok_upd (c : Conn) (id : Nat) (r : SS × Out) (h : CInv c) (hr : SOk r) : COk (c.upd id r) :=
  ⟨fun j => ite_both (P := SInv) hr.1 (h j), hr.2⟩

theorem upd_step {c : Conn} {id : Nat} {e : SEv} (hne : e.noPanicFrame = true) (h : CInv c) :
    COk (c.upd id (sstep (c.streams id) e)) :=
  cok_upd c id _ h (sstep_inv _ e hne (h id))

theorem connErr_inv {c : Conn} {code : Nat} {f : Bool} (h : CInv c) : COk (connErr c code f) := by
  cases f <;> exact ite_both ⟨h, rfl⟩ ⟨h, rfl⟩

theorem settingsErr_inv {c : Conn} {f : Bool} (h : CInv c) : COk (settingsErr c f) :=
  ite_both ⟨(connErr_inv h).1, rfl⟩ (connErr_inv h)

theorem growAll_inv (c : Conn) (g : Int) (st : Nat → SS) (h : CInv c) (hg : growAll c g = some st) :
    ∀ id, SInv (st id) := by
  unfold growAll at hg
  split at hg
  · cases hg
    exact fun id => ite_both (P := SInv) (h id).inert (h id)
  · cases hg

theorem headersEv_inv (c : Conn) (id : Nat) (es : Bool) (k : Kind) (h : CInv c) : COk (headersEv c id es k) :=
  ite_both (connErr_inv h) <| ite_both ⟨h, rfl⟩ <| ite_both (connErr_inv h) <| ite_both (upd_step rfl h) <|
    ite_both (connErr_inv h) (upd_step (c := { c with maxId := id }) rfl h)

theorem streamErr_inv (c : Conn) (id : Nat) (h : CInv c) :
    COk (if id == 0 then connErr c 1 true else c.upd id (sstep (c.streams id) .badWinUpd)) :=
  ite_both (connErr_inv h) (upd_step rfl h)

theorem headersKindEv_inv (c : Conn) (id : Nat) (es : Bool) (k : Kind) (h : CInv c) :
    COk (headersKindEv c id es k) := by
  have hr := headersEv_inv c id es k h
  unfold headersKindEv
  split
  · exact streamErr_inv c id h
  · exact ite_both ⟨h, rfl⟩ (ite_both (upd_step (c := (headersEv c id es _).1) rfl hr.1) hr)
  · exact hr

theorem cstepCore_inv (c : Conn) (e : Ev) (hp : e.isP = false) (h : CInv c) : COk (cstepCore c e) := by
  cases e with
  | P id => cases hp
  | H id es k => exact headersKindEv_inv c id es k h
  | K id es => exact headersEv_inv c id es .ok h
  | Z id => exact ite_both (connErr_inv h) (connErr_inv h)
  | T id => exact upd_step rfl h
  | D id n es pad =>
    exact ite_both (connErr_inv h) (ite_both ⟨h, rfl⟩ (upd_step rfl h))
  | R id =>
    exact ite_both (connErr_inv h) (ite_both (connErr_inv h) (upd_step rfl h))
  | F id => exact ite_both ⟨h, rfl⟩ (upd_step rfl h)
  | B id n => exact ite_both ⟨h, rfl⟩ (upd_step rfl h)
  | W =>
    unfold cstepCore
    cases c.held with
    | none => exact ⟨h, rfl⟩
    | some id => exact upd_step (c := { c with held := none }) rfl h
  | S ack iws =>
    refine ite_both (ite_both (connErr_inv h) ⟨h, rfl⟩) ?_
    cases iws with
    | none => exact ⟨h, rfl⟩
    | some v =>
      refine ite_both (settingsErr_inv h) ?_
      have h' : CInv { c with iws := (v : Int) } := h
      dsimp only
      split
      · exact ⟨growAll_inv _ _ _ h' ‹_›, rfl⟩
      · exact settingsErr_inv h'
  | G id ack => exact ite_both (connErr_inv h) ⟨h, rfl⟩
  | U id inc =>
    refine ite_both (streamErr_inv c id h) (ite_both ?_ (upd_step rfl h))
    cases flowAdd c.cflow inc with
    | some f => exact ⟨h, rfl⟩
    | none => exact connErr_inv h
  | Y id dep excl => exact ite_both (connErr_inv h) ⟨h, rfl⟩
  | C id => exact connErr_inv h
  | X id => exact connErr_inv h
  | A => exact ⟨h, rfl⟩
  | Q => exact ite_both ⟨h, rfl⟩ ⟨h, rfl⟩

/-- startFrameWrite of `f'` on stream `id`; `q'` stays queued, `y`, `x` are the two windows after the debit -/
theorem startOn_inv {c : Conn} {id : Nat} {f : QF} {rest : List QF} (y x : Int) (q' : List QF) (f' : QF) (h : CInv c)
    (hq : (c.streams id).q = f :: rest) (hf' : Allowed (c.streams id) f')
    (hq' : ∀ g ∈ q', g ∈ rest ∨ Allowed (c.streams id) g) :
    COk (startOn { c with cflow := y } id { c.streams id with flow := x, q := q' } f') := by
  have hp := mt (h id).qidle (hq ▸ List.cons_ne_nil f rest)
  have hs : SInv { c.streams id with flow := x, q := q' } :=
    SInv.of_same_handler (h id) rfl rfl rfl (Or.inl rfl) (fun g hg => (hq' g hg).imp_left fun hm => hq ▸ List.mem_cons_of_mem _ hm)
      fun hc => absurd hc hp
  have hc := cok_upd { c with cflow := y } id _ h (start_inv _ f' hs hp hf')
  exact ite_both hc hc

theorem drainStep_inv (c : Conn) (r : Conn × Out) (h : CInv c) (hd : drainStep c = some r) : COk r := by
  revert hd
  fun_cases drainStep c
  case case1 id _ f rest hq =>
    -- a frame that costs no window
    rintro ⟨⟩
    exact startOn_inv c.cflow (c.streams id).flow rest f h hq ((h id).allowed (hq ▸ List.mem_cons_self)) fun _ => Or.inl
  case case3 _ _ _ _ _ _ hq _ _ _ =>
    -- a chunk of a DATA frame; the remainder stays queued
    rintro ⟨⟩
    have ha := (h _).allowed (hq ▸ List.mem_cons_self)
    exact startOn_inv _ _ _ _ h hq (ha.data _ _) fun g hg =>
      (List.mem_cons.mp hg).elim (fun e => Or.inr (e ▸ ha.data _ _)) Or.inl
  case case4 _ _ _ _ _ rest hq _ _ _ =>
    -- a whole DATA frame
    rintro ⟨⟩
    exact startOn_inv _ _ rest _ h hq ((h _).allowed (hq ▸ List.mem_cons_self)) fun _ => Or.inl
  -- the rest: `drainStep c = none`
  all_goals nofun

theorem drain_inv (fuel : Nat) (c : Conn) (h : CInv c) : CInv (drain fuel c).1 ∧ (drain fuel c).2 = none := by
  induction fuel generalizing c with
  | zero => exact ⟨h, rfl⟩
  | succ n ih =>
    unfold drain
    refine ite_both (P := fun r : Conn × Option PanicSite => CInv r.1 ∧ r.2 = none) ⟨h, rfl⟩ ?_
    split
    · exact ⟨h, rfl⟩
    · -- `.panic site`: `COk` says `isPanic (.panic site) = false`
      cases (drainStep_inv c _ h ‹_›).2
    · exact ih _ (drainStep_inv c _ h ‹_›).1

theorem handlerOutcome_np (c : Conn) (id : Nat) : (handlerOutcome c id).isPanic = false := by
  unfold handlerOutcome
  split
  · rfl
  · split
    · split <;> rfl
    · rfl

theorem cstep_inv (c : Conn) (e : Ev) (hp : e.isP = false) (h : CInv c) : COk (cstep c e) := by
  have hr := cstepCore_inv c e hp h
  -- busy / reader gone / the event stops the loop / the scheduler runs
  refine ite_both ⟨h, rfl⟩ (ite_both ⟨h, rfl⟩ (ite_both hr ?_))
  obtain ⟨d1, d2⟩ := drain_inv 1000 (cstepCore c e).1 hr.1
  dsimp only
  rw [d2]
  dsimp only
  split
  -- `h_5`: the default arm `_, _`; before it a handler's event reports what became of its frames
  case h_5 => exact ⟨d1, hr.2⟩
  all_goals exact ⟨d1, handlerOutcome_np _ _⟩

theorem runEvs_no_panic (c : Conn) (evs : List Ev) (acc : List Out)
    (hp : ∀ e ∈ evs, e.isP = false) (h : CInv c) (hacc : ∀ o ∈ acc, o.isPanic = false) :
    ∀ o ∈ (runEvs c evs acc).2, o.isPanic = false := by
  induction evs generalizing c acc with
  | nil =>
    intro o ho
    exact hacc o (List.mem_reverse.mp ho)
  | cons e r ih =>
    obtain ⟨a, b⟩ := cstep_inv c e (hp e List.mem_cons_self) h
    have hacc' : ∀ o ∈ (cstep c e).2 :: acc, o.isPanic = false := List.forall_mem_cons.mpr ⟨b, hacc⟩
    unfold runEvs
    exact ite_both (P := fun r : Conn × List Out => ∀ o ∈ r.2, o.isPanic = false)
      (fun o ho => hacc' o (List.mem_reverse.mp ho))
      (ih _ _ (fun e he => hp e (List.mem_cons_of_mem _ he)) a hacc')

theorem upd_out (c : Conn) (id : Nat) (r : SS × Out) : (c.upd id r).2 = r.2 := rfl

theorem upd_streams_self (c : Conn) (id : Nat) (r : SS × Out) : (c.upd id r).1.streams id = r.1 :=
  if_pos rfl

theorem connErr_snd {c : Conn} {code : Nat} {f : Bool} (hg : c.goAway = none) :
    (connErr c code f).2 = .ga code := by
  cases f <;> simp [connErr, hg]

theorem headersEv_odd {c : Conn} {id : Nat} (es : Bool) (k : Kind) (hg : c.goAway = none) (hodd : id % 2 = 1) :
    headersEv c id es k =
      if (c.streams id).live then
        c.upd id (sstep (c.streams id) (.hagain es (match k with | .tr => false | _ => true)))
      else if id ≤ c.maxId then connErr c 1 false
      else ({ c with maxId := id }).upd id (sstep (c.streams id)
        (.hnew es (match k with | .ok => true | .cl _ => true | .conn _ => true | _ => false)
          (c.cur + 1 > c.adv) (match k with | .cl n => some n | _ => none) c.iws)) := by
  unfold headersEv
  rw [if_neg (by rw [beq_iff_eq]; omega), if_neg (by rw [hg]; nofun), if_neg (by rw [hodd]; nofun)]
  rfl

theorem cstepCore_D {c : Conn} {id : Nat} (n : Nat) (es : Bool) (pad : Nat) (hg : c.goAway = none) (h0 : id ≠ 0) :
    cstepCore c (.D id n es pad) = c.upd id (sstep (c.streams id) (.data n es pad)) := by
  have h0 : ¬(id == 0) = true := by rwa [beq_iff_eq]
  have hd : ¬discardData c id = true := by simp [discardData, hg]
  simp only [cstepCore]
  rw [if_neg h0, if_neg hd]

/-! ### disposition of every `panic(...)` site of server.go (written by hand; `Generated.C35.panicSites` is the
    list regenerated from the source) -/
inductive Disp
  | modelled (s : PanicSite)     -- an `Out.panic s` transition of the model
  | outside (why : String)       -- not reachable at this granularity / other property, with the reason

def panicTable : List ((String × String) × Disp) := [
  (("notePanic", "<expr>"), .outside "re-panic of an already recovered panic, only when a test hook asks for it"),
  (("setTimeout", "internal error: bad request body"), .outside "timeout API: RequestBody.conn is set to the serverConn by newWriterAndRequest"),
  (("startFrameWrite", "internal error: can only be writing one frame at a time"), .outside "scheduleFrameWrite returns early while writingFrame; the model keeps one frame in flight (busy)"),
  (("startFrameWrite", "internal error: attempt to send frame on half-closed-local stream"), .modelled .writeHcl),
  (("startFrameWrite", "internal error: attempt to send a write %v on a closed stream"), .modelled .writeClosed),
  (("wroteFrame", "internal error: expected to be already writing a frame"), .outside "wroteFrame only follows startFrameWrite; the model's W on nothing in flight is `idle`"),
  (("wroteFrame", "unbuffered done channel passed in for type %T"), .outside "every call site passes make(chan error, 1)"),
  (("wroteFrame", "internal error: expecting non-nil stream"), .outside "frames with END_STREAM are only built by writeDataFromHandler / writeHeaders, which pass the stream"),
  (("closeStream", "invariant; can't close stream in state %v"), .modelled .closeClosed),
  (("processData", "internal error: should have a body in this state"), .modelled .noBody),
  (("processData", "internal error: bad Writer"), .outside "contract of pipe.Write (bfe_util/pipe)"),
  (("sendWindowUpdate32", "negative update"), .outside "flow control, property C33"),
  (("sendWindowUpdate32", "internal error; sent too many window updates without decrements?"), .outside "flow control, property C33"),
  (("Flush", "Header called after Handler finished"), .outside "handler goroutine misuse of a finished ResponseWriter, not the serve loop"),
  (("CloseNotify", "CloseNotify called after Handler finished"), .outside "handler goroutine misuse of a finished ResponseWriter, not the serve loop"),
  (("Header", "Header called after Handler finished"), .outside "handler goroutine misuse of a finished ResponseWriter, not the serve loop"),
  (("WriteHeader", "WriteHeader called after Handler finished"), .outside "handler goroutine misuse of a finished ResponseWriter, not the serve loop"),
  (("write", "Write called after Handler finished"), .outside "handler goroutine misuse of a finished ResponseWriter, not the serve loop"),
  (("take", "internal error: took too much"), .outside "outbound DATA scheduling against the send windows, property C34 (handlers of this model send no body)"),
  (("putEmptyQueue", "queue must be empty"), .outside "write scheduler internals, property C34"),
  (("take", "internal error: ws.maxFrameSize not initialized or invalid"), .outside "maxFrameSize is initialised by ServeConn and SETTINGS_MAX_FRAME_SIZE is range-checked by Setting.Valid"),
  (("take", "should be empty"), .outside "write scheduler internals, property C34"),
  (("streamWritableBytes", "internal error: ws.maxFrameSize not initialized or invalid"), .outside "maxFrameSize is initialised by ServeConn and SETTINGS_MAX_FRAME_SIZE is range-checked by Setting.Valid"),
  (("head", "invalid use of queue"), .outside "write scheduler internals, property C34"),
  (("shift", "invalid use of queue"), .outside "write scheduler internals, property C34"),
  (("endsStream", "endsStream called on nil writeFramer"), .outside "wroteFrame reads wm.write before it is set to nil"),
  (("writeFrame", "unexpected empty hpack"), .outside "response encoding, property C38 (a status of 0 with no header at all)")
]

def classifySite (s : String × String) : Bool := panicTable.any fun e => e.1.1 == s.1 && e.1.2 == s.2

/-- true of every table: what `C35_panic_sites_classified` checks is that the regenerated list is the keys -/
theorem keys_classified (t : List ((String × String) × Disp)) :
    (t.map (·.1)).all (fun s => t.any fun e => e.1.1 == s.1 && e.1.2 == s.2) = true := by
  simp only [List.all_eq_true, List.mem_map, List.any_eq_true]
  rintro s ⟨e, he, rfl⟩
  exact ⟨e, he, by simp⟩

end BfeVerif.C35
