import BfeVerif.C35.Proofs
import BfeVerif.Generated.C35
/-!
  C35 — HTTP/2 stream state machine is enforced without internal failures.

  `cstep c ev` = one iteration of the serve loop on connection state `c`; `runEvs c evs []` a whole schedule
  (client frames interleaved with handler completion / panic and write completion).  Error codes:
  1 PROTOCOL_ERROR, 5 STREAM_CLOSED, 0 NO_ERROR.
-/
namespace BfeVerif.C35

/-! ### the RFC 7540 rules, one theorem per rule (`hg`: no GOAWAY has been started; `C35_rule_in_goaway` and
    `C35_rule_reader_gone` say what happens otherwise; `cstepCore` is the step of a connection whose frame reader is alive).
    `headersEv c id es k` is `cstepCore c (.H id es k)` for `k` other than `.inv`, `.conn _` (`headersKindEv`), and
    `cstepCore c (.K id es)` for `k = .ok`; `cstep`, not busy and the reader alive, reports `cstepCore`'s outcome unless
    that is `.pending` or `drain` reaches a panic site. -/

/-- even (or zero) stream id on HEADERS ⇒ connection error PROTOCOL_ERROR -/
theorem C35_rule_even_id (c : Conn) (id : Nat) (es : Bool) (k : Kind) (hg : c.goAway = none) (h : id % 2 ≠ 1) :
    (headersEv c id es k).2 = .ga 1 := by
  have h2 : (id % 2 != 1) = true := by simpa using h
  unfold headersEv
  refine ite_both (P := fun r : Conn × Out => r.2 = .ga 1) (connErr_snd hg) ?_
  rw [if_neg (by rw [hg]; nofun), if_pos h2]
  exact connErr_snd hg

/-- a new stream whose id is not above every earlier one ⇒ connection error PROTOCOL_ERROR -/
theorem C35_rule_non_increasing (c : Conn) (id : Nat) (es : Bool) (k : Kind) (hg : c.goAway = none)
    (hodd : id % 2 = 1) (hnl : (c.streams id).live = false) (hle : id ≤ c.maxId) :
    (headersEv c id es k).2 = .ga 1 := by
  rw [headersEv_odd es k hg hodd, if_neg (by rw [hnl]; nofun), if_pos hle]
  exact connErr_snd hg

/-- a HEADERS frame that would exceed the advertised SETTINGS_MAX_CONCURRENT_STREAMS is never served:
    bfe treats it as an attack and closes the connection (instead of the REFUSED_STREAM / PROTOCOL_ERROR
    stream error of RFC 7540 5.1.2 — known finding `limit-closes-connection`). -/
theorem C35_rule_over_limit (c : Conn) (id : Nat) (es : Bool) (k : Kind) (hg : c.goAway = none) (hodd : id % 2 = 1)
    (hnl : (c.streams id).live = false) (hgt : c.maxId < id) (hover : c.cur + 1 > c.adv) :
    (headersEv c id es k).2 = .close := by
  rw [headersEv_odd es k hg hodd, if_neg (by rw [hnl]; nofun), if_neg (Nat.not_le.mpr hgt), upd_out]
  simp [sstep, hover]

/-- within the limit, a request with malformed pseudo-headers (no :method …) ⇒ stream error PROTOCOL_ERROR,
    and the stream is closed -/
theorem C35_rule_bad_pseudo (c : Conn) (id : Nat) (es : Bool) (hg : c.goAway = none) (hodd : id % 2 = 1)
    (hnl : (c.streams id).live = false) (hgt : c.maxId < id) (hin : ¬ c.cur + 1 > c.adv) :
    (headersEv c id es .bad).2 = .rst 1 ∧ ((headersEv c id es .bad).1.streams id).phase = .closedReset := by
  rw [headersEv_odd es .bad hg hodd, if_neg (by rw [hnl]; nofun), if_neg (Nat.not_le.mpr hgt), upd_streams_self,
    upd_out]
  simp [sstep, hin]

/-- DATA on a stream that is not open (idle, half-closed(remote), closed, or after trailers) ⇒ STREAM_CLOSED -/
theorem C35_rule_data_not_open (c : Conn) (id n pad : Nat) (es : Bool) (hg : c.goAway = none) (h0 : id ≠ 0)
    (h : (c.streams id).phase ≠ .opn ∨ (c.streams id).trailer = true) :
    (cstepCore c (.D id n es pad)).2 = .rst 5 := by
  rw [cstepCore_D n es pad hg h0, upd_out]
  have : (!((c.streams id).live && (c.streams id).phase == .opn && !(c.streams id).trailer)) = true := by
    rcases h with h | h <;> simp [h]
  simp only [sstep]
  rw [if_pos this]

/-- HEADERS on a half-closed(remote) stream ⇒ stream error STREAM_CLOSED and the stream is closed
    (after the fix; before it the frame was taken for trailers and could dereference a nil body pipe) -/
theorem C35_rule_headers_half_closed (c : Conn) (id : Nat) (es : Bool) (k : Kind) (hg : c.goAway = none)
    (hodd : id % 2 = 1) (h : (c.streams id).phase = .hcr) :
    (headersEv c id es k).2 = .rst 5 ∧ ((headersEv c id es k).1.streams id).phase = .closedReset := by
  rw [headersEv_odd es k hg hodd, if_pos ((live_iff _).mpr (Or.inr h)), upd_streams_self, upd_out]
  simp [sstep, SS.live, h, closeReset]

/-- trailers without END_STREAM ⇒ stream error PROTOCOL_ERROR -/
theorem C35_rule_trailers_without_end (c : Conn) (id : Nat) (k : Kind) (hg : c.goAway = none) (hodd : id % 2 = 1)
    (h : (c.streams id).phase = .opn) (ht : (c.streams id).trailer = false) :
    (headersEv c id false k).2 = .rst 1 := by
  rw [headersEv_odd false k hg hodd, if_pos ((live_iff _).mpr (Or.inl h)), upd_out]
  simp [sstep, SS.live, h, ht]

/-- a second trailer block ⇒ connection error PROTOCOL_ERROR -/
theorem C35_rule_duplicate_trailers (c : Conn) (id : Nat) (es : Bool) (k : Kind) (hg : c.goAway = none)
    (hodd : id % 2 = 1) (h : (c.streams id).phase = .opn) (ht : (c.streams id).trailer = true) :
    (headersEv c id es k).2 = .ga 1 := by
  rw [headersEv_odd es k hg hodd, if_pos ((live_iff _).mpr (Or.inl h)), upd_out]
  simp [sstep, SS.live, h, ht]

/-- more DATA than the declared content-length ⇒ stream error PROTOCOL_ERROR -/
theorem C35_rule_over_declared (c : Conn) (id n d pad : Nat) (es : Bool) (hg : c.goAway = none) (h0 : id ≠ 0)
    (h : (c.streams id).phase = .opn) (ht : (c.streams id).trailer = false) (hb : (c.streams id).hasBody = true)
    (hd : (c.streams id).decl = some d) (hov : (c.streams id).got + n > d) :
    (cstepCore c (.D id n es pad)).2 = .rst 1 := by
  rw [cstepCore_D n es pad hg h0, upd_out]
  simp [sstep, SS.live, h, ht, hb, overDeclared, hd, hov]

/-- RST_STREAM for an idle stream ⇒ connection error PROTOCOL_ERROR -/
theorem C35_rule_rst_idle (c : Conn) (id : Nat) (hg : c.goAway = none) (h0 : id ≠ 0)
    (hnl : (c.streams id).live = false) (hgt : c.maxId < id) :
    (cstepCore c (.R id)).2 = .ga 1 := by
  simp only [cstepCore]
  rw [if_neg (by rwa [beq_iff_eq]), if_pos (by simp [hnl, hgt])]
  exact connErr_snd hg

/-- CONTINUATION sequencing errors, PING / PRIORITY / WINDOW_UPDATE(0) violations are connection errors -/
theorem C35_rule_frame_sequence (c : Conn) (id : Nat) (hg : c.goAway = none) :
    (cstepCore c (.C id)).2 = .ga 1 ∧ (cstepCore c (.X id)).2 = .ga 1 ∧
    (id ≠ 0 → (cstepCore c (.G id false)).2 = .ga 1) ∧ (cstepCore c (.Y 0 id false)).2 = .ga 1 ∧
    (cstepCore c (.U 0 0)).2 = .ga 1 := by
  refine ⟨connErr_snd hg, connErr_snd hg, fun h => ?_, connErr_snd hg,
    connErr_snd hg⟩
  simp only [cstepCore, bne_iff_ne, ne_eq, h, not_false_eq_true, if_true]
  exact connErr_snd hg

/-- the inGoAway rules: once a GOAWAY is under way HEADERS are ignored (no stream is created, nothing is sent) and
    a shutdown request sends nothing more; after an error GOAWAY a DATA frame (stated without padding) is discarded -/
theorem C35_rule_in_goaway (c : Conn) (code id n : Nat) (es : Bool) (k : Kind) (hg : c.goAway = some code) (h0 : id ≠ 0) :
    headersEv c id es k = (c, .ok) ∧ (code ≠ 0 → cstepCore c (.D id n es 0) = (c, .ok)) ∧
    (cstepCore c .Q).2 = .ok := by
  have h0' : ¬(id == 0) = true := by rwa [beq_iff_eq]
  refine ⟨?_, fun hc => ?_, by simp [cstepCore, hg]⟩
  · unfold headersEv
    rw [if_neg h0', if_pos (by rw [hg]; rfl)]
  · simp only [cstepCore]
    rw [if_neg h0', if_pos (by simp [discardData, hg, hc])]

/-- after a framing-level connection error the frame reader is gone: no client frame has any effect -/
theorem C35_rule_reader_gone (c : Conn) (e : Ev) (hc : e.isClient = true) (hg : c.gone = true) :
    (cstep c e).1 = c ∧ ((cstep c e).2 = .gone ∨ (cstep c e).2 = .busy) := by
  unfold cstep
  split
  · exact ⟨rfl, Or.inr rfl⟩
  · rw [if_pos (by rw [hc, hg]; rfl)]
    exact ⟨rfl, Or.inl rfl⟩

/-- a header block the frame reader rejects (upper-case or invalid field name / value, pseudo header after a regular
    one, unknown / duplicate / mixed pseudo headers) ⇒ stream error PROTOCOL_ERROR, and a live stream is closed -/
theorem C35_rule_malformed_block (c : Conn) (id : Nat) (es : Bool) (h0 : id ≠ 0) :
    (cstepCore c (.H id es .inv)).2 = .rst 1 ∧
    ((c.streams id).live = true → ((cstepCore c (.H id es .inv)).1.streams id).phase = .closedReset) := by
  have e : cstepCore c (.H id es .inv) = c.upd id (sstep (c.streams id) .badWinUpd) := by
    simp only [cstepCore, headersKindEv]
    rw [if_neg (by rwa [beq_iff_eq])]
  rw [e, upd_streams_self]
  exact ⟨rfl, fun hl => by simp [sstep, hl, closeReset]⟩

/-- a request carrying a connection-specific header field (RFC 7540 8.1.2.2; names from the server's own list) is
    never handed to the application: on a fresh odd id within the limit, with an idle scheduler, the stream's
    handler is the built-in 400 responder — its HEADERS and DATA(END_STREAM) are queued at once -/
theorem C35_rule_conn_specific (c : Conn) (id L : Nat) (es : Bool) (hg : c.goAway = none) (hodd : id % 2 = 1)
    (hnl : (c.streams id).live = false) (hgt : c.maxId < id) (hin : ¬ c.cur + 1 > c.adv)
    (hidle : c.held = none ∧ anyQueued c = false) :
    (cstepCore c (.H id es (.conn L))).2 = .pending ∧
    ((cstepCore c (.H id es (.conn L))).1.streams id).handler = .finished ∧
    ((cstepCore c (.H id es (.conn L))).1.streams id).q = [.hdr false, .data L true] := by
  -- the HEADERS frame opens the stream ...
  have hh : headersEv c id es (.conn L) =
      ({ c with maxId := id }).upd id (sstep (c.streams id) (.hnew es true false none c.iws)) := by
    rw [headersEv_odd es (.conn L) hg hodd, if_neg (by rw [hnl]; nofun), if_neg (Nat.not_le.mpr hgt),
      decide_eq_false hin]
  -- ... and, nothing being in flight or queued, the 400 handler's two frames are queued on it at once
  simp only [cstepCore, headersKindEv]
  rw [if_neg (by simp [hidle.1, hidle.2]), if_pos (by rw [hh, upd_out, hg]; rfl), upd_out, upd_streams_self, hh,
    upd_streams_self]
  exact ⟨rfl, rfl, rfl⟩

/-- PUSH_PROMISE from the client ⇒ connection error PROTOCOL_ERROR; a stream timeout ⇒ RST_STREAM PROTOCOL_ERROR -/
theorem C35_rule_push_promise_timeout (c : Conn) (id : Nat) (hg : c.goAway = none) :
    (cstepCore c (.Z id)).2 = .ga 1 ∧ (cstepCore c (.T id)).2 = .rst 1 := by
  refine ⟨?_, by simp [cstepCore, Conn.upd, sstep]⟩
  exact ite_both (P := fun r : Conn × Out => r.2 = .ga 1) (connErr_snd hg) (connErr_snd hg)

/-- full-strength statement: no schedule reaches an internal panic. -/
def NoInternal : Prop :=
  ∀ (adv : Nat) (evs : List Ev), ∀ o ∈ (runEvs { adv := adv } evs []).2, o.isPanic = false

/-- for every advertised limit and every schedule of client frames, handler
    completions and write completions in which no handler PANICS, the connection never reaches one of the
    panic sites (closeStream on a closed stream, a write on a closed / half-closed-local stream, DATA or
    trailers without a body pipe): it continues, resets a stream, sends GOAWAY or closes. -/
theorem C35_no_internal_partial (adv : Nat) (evs : List Ev) (hp : ∀ e ∈ evs, e.isP = false) :
    ∀ o ∈ (runEvs { adv := adv } evs []).2, o.isPanic = false :=
  runEvs_no_panic { adv := adv } evs [] hp (fun _ => sinv_default) (fun _ h => by cases h)

/-- every step that is no handler panic preserves the stream invariant `SInv`; by its clause `qidle` a stream closed
    by completion (`errHandlerComplete`, no reset flag) has no frame left in the write scheduler.  This is what makes
    the "attempt to send a write … on a closed stream" panic of startFrameWrite unreachable when the scheduler later
    takes frames (`drainStep_inv`). -/
theorem C35_no_queued_frame_on_closed_stream (c : Conn) (e : Ev) (hp : e.isP = false)
    (h : ∀ id, SInv (c.streams id)) :
    (∀ id, SInv ((cstep c e).1.streams id)) ∧
    ∀ id, (((cstep c e).1.streams id).phase = .closedDone → ((cstep c e).1.streams id).q = []) :=
  ⟨(cstep_inv c e hp h).1, fun id hc => ((cstep_inv c e hp h).1 id).qidle (Or.inl hc)⟩

/-- the hypothesis cannot be dropped: a handler panics, its handlerPanicRST is in flight, the client's own
    RST_STREAM closes the stream, and `wroteFrame` then calls `closeStream` on the closed stream
    ("invariant; can't close stream in state Closed").  Replayed on the real code (corpus/C35/known.ops). -/
theorem C35_witness_internal : ¬ NoInternal := by
  intro h
  have := h 3 [.H 1 true .ok, .P 1, .R 1, .W] (.panic .closeClosed) (by decide +kernel)
  cases this

/-- every `panic(...)` call of the CURRENT bfe_http2/server.go (regenerated list) has a disposition: it is
    one of the model's `Out.panic` transitions, or it is outside this model for the reason recorded in
    `panicTable`.  A new or reworded panic site makes this theorem fail until it is looked at. -/
theorem C35_panic_sites_classified :
    BfeVerif.Generated.C35.panicSites.all classifySite = true := by
  -- the regenerated list is, entry by entry, the list of keys of `panicTable`
  have e : Generated.C35.panicSites = panicTable.map (·.1) := rfl
  rw [e]
  exact keys_classified panicTable

/-- non-vacuity: a schedule with two streams, trailers, a reset racing with the handler's final frame -/
example : (runEvs { adv := 3 } [.H 1 false .ok, .D 1 3 false 0, .H 1 true .tr, .H 3 true .ok, .F 1, .R 1, .W, .F 3, .W] []).2
    = [.ok, .ok, .ok, .ok, .held, .ok, .ok, .held, .ok] := by decide +kernel

example : (runEvs { adv := 1 } [.H 1 true .ok, .H 3 true .ok] []).2 = [.ok, .close] := by decide +kernel

/-- response DATA blocked by a small stream window, a PADDED DATA+END_STREAM from the client (its refund
    WINDOW_UPDATE queues behind the blocked DATA), then the window opens: the final DATA goes in flight, its
    completion closes the stream and forgets the queued WINDOW_UPDATE; the next scheduler run finds nothing. -/
example : (runEvs { adv := 3 } [.S false (some 5), .H 1 false .ok, .B 1 10, .D 1 0 true 4, .U 1 10, .W, .G 0 false] []).2
    = [.ok, .ok, .blocked, .ok, .ok, .ok, .ok] := by decide +kernel

/-- the larger alphabet: SETTINGS ACK, WINDOW_UPDATE, graceful shutdown (HEADERS ignored, DATA still accepted),
    PING, a framing error that ends the frame reader, and the handler finishing afterwards -/
example : (runEvs { adv := 3 } [.S true none, .H 1 false .ok, .U 1 1000, .Q, .H 3 true .ok, .D 1 1 false 0,
    .G 0 false, .C 1, .R 1, .F 1] []).2
    = [.ok, .ok, .ok, .ga 0, .ok, .ok, .ok, .ok, .gone, .held] := by decide +kernel

end BfeVerif.C35
