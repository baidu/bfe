import BfeVerif.C28.Proofs
/-!
  C28 — keep-alive connections stay in sync.

  Full statement (does NOT hold for the code, see `C28_witness_bad_chunk`):
    `∀ ka segs scs, clientOK segs scs → ∀ (p,i) ∈ (serve ka segs scs).starts, rfcStart segs (contList segs scs) i = some p`
  i.e. whenever conn.serve reads another request, it starts reading exactly where RFC 7230 says the
  previous message ended; when that end cannot be determined the connection must have been closed.
-/
namespace BfeVerif.C28

def Resync (ka : Bool) (segs : List Seg) (scs : List Script) : Prop :=
  ∀ e ∈ (serve ka segs scs).starts, rfcStart segs (contList segs scs) e.2 = some e.1

/-- For every stream without an undecodable chunked body and every handler
    script, each request the loop hands to the handler starts at the RFC end of its predecessor
    (this includes `Expect: 100-continue` requests whose body the client legitimately omitted:
    chunkWriter.writeHeader closes after them, fixes/C28-expect-close.md). -/
theorem C28_resync_partial (ka : Bool) (segs : List Seg) (scs : List Script)
    (hnb : noBad segs = true) (hc : clientOK segs scs = true) : Resync ka segs scs :=
  (serve_run ka segs scs).resync hnb hc

/-- The full statement fails: after a chunked body whose size line is invalid the post-handler drain
    error is ignored and the loop parses whatever follows as the next request. -/
theorem C28_witness_bad_chunk :
    ¬ (∀ ka segs scs, clientOK segs scs = true → Resync ka segs scs) := by
  intro h
  have := h true
    [.req { method := 2, proto11 := true, conn := 0, expect := .no, sent := true, body := .bad [] },
     .req { method := 0, proto11 := true, conn := 0, expect := .no, sent := true, body := .none }] [] (by decide +kernel)
    (61, 1) (by decide +kernel)   -- 61 = the POST's header (57 bytes) + `ZZ\r\n`
  revert this
  decide +kernel

/-- fixes/C28-expect-close.md as a statement about the response writer: a request that expected `100 Continue` and
    never got it always ends with closeAfterReply, whatever the handler does. -/
theorem C28_expect_closes (rq : BfeVerif.C27.Req) (ka : Bool) (script : List BfeVerif.C27.Act)
    (h1 : rq.expecter = true) (h2 : rq.wroteContinue = false) :
    (BfeVerif.C27.respond rq ka script).close = true :=
  BfeVerif.C27.respond_close_of_unanswered rq ka script h1 h2

/-- The order / once / in-order-bytes part of `C28_transcript_partial` below holds for EVERY stream and client
    (also with undecodable bodies and misbehaving clients); only the offsets need the hypotheses. -/
theorem C28_transcript_order (ka : Bool) (segs : List Seg) (scs : List Script) :
    ∃ n tail, n ≤ segs.length ∧
      (serve ka segs scs).starts.map Prod.snd = List.range n ∧
      (serve ka segs scs).bytes = blocks ka n segs scs ++ tail ∧
      TailOk ka (segs.drop n) tail := by
  simpa only [List.range_eq_range'] using (serve_run ka segs scs).transcript

/-- Requests are handed to the handler in stream order, none twice, none skipped:
    the message numbers are 0,1,2,… -/
theorem C28_order_once (ka : Bool) (segs : List Seg) (scs : List Script) :
    ∃ n, (serve ka segs scs).starts.map Prod.snd = List.range n := by
  obtain ⟨n, _, _, hs, _⟩ := C28_transcript_order ka segs scs
  exact ⟨n, hs⟩

/-- **C28 over whole pipelined transcripts.**  For every connection (any pipelined messages, any handler
    scripts) without an undecodable chunked body and with a conformant client there is a handled prefix of
    `n` messages such that
    * exactly the messages 0 … n-1 are handed to the handler, in this order, each once, each at its
      RFC 7230 start offset (`rfcStart`),
    * the bytes sent are one `serveOne` block per handled request, in order, followed by nothing or by the
      single error reply (400 / 413 / 414 / 417) to message `n`, after which nothing more is read. -/
theorem C28_transcript_partial (ka : Bool) (segs : List Seg) (scs : List Script)
    (hnb : noBad segs = true) (hc : clientOK segs scs = true) :
    ∃ n tail, n ≤ segs.length ∧
      (serve ka segs scs).starts.map Prod.snd = List.range n ∧
      (∀ e ∈ (serve ka segs scs).starts, rfcStart segs (contList segs scs) e.2 = some e.1) ∧
      (serve ka segs scs).bytes = blocks ka n segs scs ++ tail ∧
      TailOk ka (segs.drop n) tail := by
  obtain ⟨n, tail, hn, hs, hb, ht⟩ := C28_transcript_order ka segs scs
  exact ⟨n, tail, hn, hs, C28_resync_partial ka segs scs hnb hc, hb, ht⟩

/-- No request is read after a message whose end the loop's own reader reports as an error reply
    (400 / 413 / 414): the loop stops.  This is the `TailOk` clause above for these three, on `serveFrom` with its
    accumulator `o`. -/
theorem C28_stop_after_error (ka : Bool) (pos i : Nat) (rest : List Seg) (scs : List Script) (o : Out) :
    (serveFrom ka pos i (.garbage :: rest) scs o).starts = o.starts ∧
    (serveFrom ka pos i (.longUri :: rest) scs o).starts = o.starts ∧
    (serveFrom ka pos i (.longHdr :: rest) scs o).starts = o.starts := by
  simp [serveFrom]

/-- What a byte-at-a-time reader (anything defined by a `step` function)
    returns, and what it leaves unread, depends only on the CONCATENATION of the segments the client's bytes
    arrive in.  The serve-loop model `serve` reads descriptors, not segments, so its output is the same for
    every segmentation by construction; this theorem is the byte-level counterpart, and the correspondence
    run ties both to the code with the segmented `l` / `1` / `r<seed>` cases. -/
theorem C28_segmentation_independent {σ ρ : Type} (step : σ → UInt8 → σ ⊕ ρ) (eof : σ → ρ)
    (fuel : Nat) (s : σ) (segs : List BfeVerif.C27.Bytes) :
    ((runSeg step eof fuel s segs).1, (runSeg step eof fuel s segs).2.flatten) =
    ((runSeg step eof fuel s [segs.flatten]).1, (runSeg step eof fuel s [segs.flatten]).2.flatten) := by
  induction fuel generalizing s segs with
  | zero => simp [runSeg]
  | succ f ih =>
    simp only [runSeg, nextByte_flatten segs]
    cases nextByte segs with
    | none => rfl
    | some p =>
      dsimp only [Option.map]
      cases step s p.1 with
      | inl s' => simpa using ih s' p.2
      | inr r => simp

/-! Non-vacuity: a header line (`CL:5`, for `Content-Length: 5`) that ends exactly where a segment ends (the
    situation of seeded/C28-c), and one cut twice in the middle, read back as the same line. -/
example : runSeg lineStep (fun a => a.reverse) 100 [] [[67, 76, 58, 53, 13, 10], [88, 58, 49, 13, 10]]
        = ([67, 76, 58, 53], [[], [88, 58, 49, 13, 10]]) := by decide +kernel
example : (runSeg lineStep (fun a => a.reverse) 100 [] [[67, 76], [58, 53, 13], [10, 88, 58, 49, 13, 10]]).1
        = [67, 76, 58, 53] := by decide +kernel

/-! Non-vacuity: a three-request pipelined stream (POST with chunked body + trailer read partly by the
    handler, an Expect request whose body is omitted, a GET) satisfies the hypotheses; the first two
    are handled, and the loop closes after the unanswered Expect. -/
example : noBad [.req ⟨2, true, 0, .no, true, .chunked [3, 4] true, false, false⟩, .req ⟨2, true, 0, .cont, false, .len 28, false, true⟩,
                 .req ⟨0, true, 0, .no, true, .none, false, false⟩] = true := by decide +kernel
example : clientOK [.req ⟨2, true, 0, .no, true, .chunked [3, 4] true, false, false⟩, .req ⟨2, true, 0, .cont, false, .len 28, false, true⟩,
                    .req ⟨0, true, 0, .no, true, .none, false, false⟩] [⟨.part 2, .respond 200 false false true 2 0⟩] = true := by decide +kernel
example : (serve true [.req ⟨2, true, 0, .no, true, .chunked [3, 4] true, false, false⟩, .req ⟨2, true, 0, .cont, false, .len 28, false, true⟩,
                       .req ⟨0, true, 0, .no, true, .none, false, false⟩] [⟨.part 2, .respond 200 false false true 2 0⟩]).starts
          = [(0, 0), (87, 1)] := by decide +kernel

/-! Waiting client: the body (and everything after it) is held back until the server answers.  The
    hypotheses are met, and the loop closes after the unanswered Expect — nothing after message 0 is read. -/
example : clientOK [.req ⟨2, true, 0, .cont, false, .len 28, false, true⟩, .req ⟨0, true, 0, .no, true, .none, false, false⟩]
                   [⟨.no, .respond 200 false false true 2 0⟩] = true := by decide +kernel
example : (serve true [.req ⟨2, true, 0, .cont, false, .len 28, false, true⟩, .req ⟨0, true, 0, .no, true, .none, false, false⟩]
                      [⟨.no, .respond 200 false false true 2 0⟩]).starts = [(0, 0)] := by decide +kernel
/-- … and when the handler asks for the body (`100 Continue` is sent) the waiting client sends it and
    the next request is read at its RFC start 71 + 28. -/
example : (serve true [.req ⟨2, true, 0, .cont, false, .len 28, false, true⟩, .req ⟨0, true, 0, .no, true, .none, false, false⟩]
                      [⟨.all, .respond 200 false false true 2 0⟩]).starts = [(0, 0), (99, 1)] := by decide +kernel

end BfeVerif.C28
