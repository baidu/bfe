import BfeVerif.C27.Expect
import BfeVerif.C28.Model
/-! The serve loop is opened once (`Run`, `serveFrom_run`), and each property is one induction over `Run`.
    Apart from that, at the end: reading byte by byte over segments (`runSeg`), which `serve` does not do. -/
namespace BfeVerif.C28
open BfeVerif.C27 (respond Bytes render Act respond_close_of_unanswered)

def noBad : List Seg → Bool
  | [] => true
  | .req r :: t => (match r.body with | .bad _ => false | _ => true) && noBad t
  | _ :: t => noBad t

/-- client conformance: a body is held back only after `Expect: 100-continue` on HTTP/1.1, and then
    either by a waiting client (sends it once `100 Continue` arrives) or, pipelining on, only when the
    server (handler) never asks for it by reading (which sends `100 Continue`).  The oracle's
    `clientViolation = false` (Model.lean) implies it and excludes more; no theorem relates the two. -/
def clientOK : List Seg → List Script → Bool
  | [], _ => true
  | .req r :: t, scs =>
    (r.sent || (r.expect == .cont && r.proto11 && (r.waits || !(scs.headD defaultScript).reads))) && clientOK t scs.tail
  | _ :: t, scs => clientOK t scs.tail

/-- the reply conn.serve gives to a message it does not hand to the handler (`none`: it is handed over) -/
def unhandledReply (ka : Bool) : Seg → Option Bytes
  | .garbage => some reply400
  | .longUri => some reply414
  | .longHdr => some reply413
  | .req r =>
    let expecter := r.expect == .cont && r.proto11
    if r.expect == .cont && !clNonZero r.body then
      let rq : BfeVerif.C27.Req := { isHead := r.method == 1, proto11 := r.proto11, conn := connStr r.conn,
                                      clNonZero := false, bodyLeft := 0, expecter := expecter,
                                      graceful := r.graceful }
      some (render (respond rq ka [Act.set "Connection" "close", Act.writeHeader 400]))
    else if r.expect == .unknown then
      let rq : BfeVerif.C27.Req := { isHead := r.method == 1, proto11 := r.proto11, conn := connStr r.conn,
                                      clNonZero := clNonZero r.body, bodyLeft := bodyDecoded r.body,
                                      graceful := r.graceful }
      some (render (respond rq ka [Act.set "Connection" "close", Act.writeHeader 417]))
    else none

/-- one `serveOne` block (optional `100 Continue` + at most one final response) for each of the first `n`
    messages, in order; it ends at a message that is not a request (that the first `n` are requests, and were
    handed to the handler, is what `Run` says, not this) -/
def blocks (ka : Bool) : Nat → List Seg → List Script → Bytes
  | n + 1, .req r :: t, scs => (serveOne ka r (scs.headD defaultScript)).1 ++ blocks ka n t scs.tail
  | _, _, _ => []

/-- the tail after the handled prefix: nothing, or the one error reply to the first unhandled message -/
def TailOk (ka : Bool) (rest : List Seg) (tail : Bytes) : Prop :=
  tail = [] ∨ ∃ s t, rest = s :: t ∧ unhandledReply ka s = some tail

theorem serveOne_closes_unanswered (ka : Bool) (r : ReqD) (sc : Script)
    (he : (r.expect == .cont && r.proto11) = true) (hw : wroteCont r sc = false) :
    (serveOne ka r sc).2 = false := by
  unfold serveOne
  dsimp only
  cases sc.act with
  | closeDirect | finish => rfl
  | respond st fc fk fl len split =>
    dsimp only
    rw [respond_close_of_unanswered _ _ _ he hw]
    rfl

theorem serveOne_open_onWire (ka : Bool) (r : ReqD) (sc : Script)
    (hc : (r.sent || (r.expect == .cont && r.proto11 && (r.waits || !sc.reads))) = true)
    (ho : (serveOne ka r sc).2 = true) : onWire r (wroteCont r sc) = true := by
  unfold onWire
  cases hs : r.sent with
  | true => rfl
  | false =>
    rw [hs, Bool.false_or, Bool.and_eq_true] at hc
    cases hwc : wroteCont r sc with
    | false => rw [serveOne_closes_unanswered ka r sc hc.1 hwc] at ho; cases ho
    | true =>
      -- `100 Continue` is only sent when the handler reads, so the client is a waiting one
      obtain ⟨⟨_, hr⟩, _⟩ : ((_ ∧ sc.reads = true) ∧ _) := by simpa only [wroteCont, Bool.and_eq_true] using hwc
      rw [hr] at hc
      simpa using hc.2

theorem rfcStartFrom_here (pos i : Nat) (s : Seg) (t : List Seg) (conts : List Bool) :
    rfcStartFrom pos i (s :: t) conts i = some pos := by
  rw [rfcStartFrom, if_pos (beq_self_eq_true i)]

theorem rfcStartFrom_ge {segs : List Seg} {conts : List Bool} {pos i k p : Nat}
    (h : rfcStartFrom pos i segs conts k = some p) : i ≤ k := by
  refine Nat.le_of_not_lt fun hlt => ?_
  unfold rfcStartFrom at h
  rw [if_neg (by simpa using Nat.ne_of_lt hlt)] at h
  cases segs with
  | nil => cases h
  | cons s t =>
    dsimp only at h
    cases hl : rfcLen i (hd conts) s with
    | none => rw [hl] at h; cases h
    | some l => rw [hl] at h; dsimp only at h; rw [if_pos hlt] at h; cases h

theorem rfcStartFrom_cons {pos i k l p : Nat} {s : Seg} {t : List Seg} {conts : List Bool}
    (hl : rfcLen i (hd conts) s = some l) (h : rfcStartFrom (pos + l) (i + 1) t conts.tail k = some p) :
    rfcStartFrom pos i (s :: t) conts k = some p := by
  have hk : i < k := rfcStartFrom_ge h
  rw [rfcStartFrom, if_neg (by simpa using Nat.ne_of_gt hk)]
  simpa only [hl, if_neg (Nat.not_lt_of_gt hk)] using h

theorem rfcLen_req (i : Nat) (c : Bool) (r : ReqD) (hb : (match r.body with | .bad _ => false | _ => true) = true)
    (hw : onWire r c = true) : rfcLen i c (.req r) = some (hdrLen i r + bodyWire r.body) := by
  unfold rfcLen
  cases h : r.body with
  | bad ss => rw [h] at hb; cases hb
  | _ => simp only [h, hw, if_true]

/-- what conn.serve adds to its output on the rest of the stream; one constructor for each way a round of the loop can go -/
inductive Run (ka : Bool) : Nat → Nat → List Seg → List Script → Out → Prop
  | eof {pos i scs} : Run ka pos i [] scs {}
  | reply {pos i s t scs b} : unhandledReply ka s = some b → Run ka pos i (s :: t) scs { bytes := b }
  | last {pos i r t scs} : unhandledReply ka (.req r) = none → (serveOne ka r (scs.headD defaultScript)).2 = false →
      Run ka pos i (.req r :: t) scs ⟨[(pos, i)], (serveOne ka r (scs.headD defaultScript)).1⟩
  | more {pos i r t scs res} : unhandledReply ka (.req r) = none → (serveOne ka r (scs.headD defaultScript)).2 = true →
      Run ka (pos + hdrLen i r + bodyWire r.body) (i + 1) t scs.tail res →
      Run ka pos i (.req r :: t) scs ⟨(pos, i) :: res.starts, (serveOne ka r (scs.headD defaultScript)).1 ++ res.bytes⟩

/-- the accumulator `o` is only ever appended to -/
theorem serveFrom_run (ka : Bool) (segs : List Seg) (pos i : Nat) (scs : List Script) :
    ∃ res, Run ka pos i segs scs res ∧
      ∀ o, serveFrom ka pos i segs scs o = ⟨o.starts ++ res.starts, o.bytes ++ res.bytes⟩ := by
  induction segs generalizing pos i scs with
  | nil => exact ⟨_, .eof, fun o => by simp [serveFrom]⟩
  | cons s t ih =>
    cases s with
    | garbage | longUri | longHdr => exact ⟨_, .reply rfl, fun o => by simp [serveFrom]⟩
    | req r =>
      simp only [serveFrom]
      -- `unhandledReply` makes the same two tests
      by_cases h1 : (r.expect == .cont && !clNonZero r.body) = true
      · exact ⟨_, .reply (if_pos h1), fun o => by rw [if_pos h1, List.append_nil]⟩
      · by_cases h2 : (r.expect == .unknown) = true
        · exact ⟨_, .reply ((if_neg h1).trans (if_pos h2)), fun o => by rw [if_neg h1, if_pos h2, List.append_nil]⟩
        · have hu : unhandledReply ka (.req r) = none := (if_neg h1).trans (if_neg h2)
          by_cases hopen : (serveOne ka r (scs.headD defaultScript)).2 = true
          · obtain ⟨res, run, hres⟩ := ih (pos + hdrLen i r + bodyWire r.body) (i + 1) scs.tail
            exact ⟨_, .more hu hopen run, fun o => by
              rw [if_neg h1, if_neg h2, if_pos hopen, hres, List.append_assoc, List.append_assoc]; rfl⟩
          · exact ⟨_, .last hu (eq_false_of_ne_true hopen), fun o => by rw [if_neg h1, if_neg h2, if_neg hopen]⟩

theorem serve_run (ka : Bool) (segs : List Seg) (scs : List Script) : Run ka 0 0 segs scs (serve ka segs scs) := by
  obtain ⟨res, run, h⟩ := serveFrom_run ka segs 0 0 scs
  rwa [serve, h, List.nil_append, List.nil_append]

/-- `C28_resync_partial` loaded for the induction: the loop started at message `i`, offset `pos` -/
theorem Run.resync {ka : Bool} {segs : List Seg} {pos i : Nat} {scs : List Script} {res : Out}
    (run : Run ka pos i segs scs res) (hnb : noBad segs = true) (hck : clientOK segs scs = true) :
    ∀ e ∈ res.starts, rfcStartFrom pos i segs (contList segs scs) e.2 = some e.1 := by
  induction run with
  | eof | reply => exact fun _ h => nomatch h
  | last => exact List.forall_mem_singleton.mpr (rfcStartFrom_here ..)
  | @more pos i r t scs res _ hopen _ ih =>
    rw [noBad, Bool.and_eq_true] at hnb
    rw [clientOK, Bool.and_eq_true] at hck
    -- the loop went on, so the body was on the wire, and the message has the RFC length the loop skipped
    have hlen := rfcLen_req i _ r hnb.1 (serveOne_open_onWire ka r _ hck.1 hopen)
    refine List.forall_mem_cons.mpr ⟨rfcStartFrom_here .., fun e he => rfcStartFrom_cons hlen ?_⟩
    rw [← Nat.add_assoc]
    exact ih hnb.2 hck.2 e he

theorem Run.transcript {ka : Bool} {segs : List Seg} {pos i : Nat} {scs : List Script} {res : Out}
    (run : Run ka pos i segs scs res) :
    ∃ n tail, n ≤ segs.length ∧ res.starts.map Prod.snd = List.range' i n ∧
      res.bytes = blocks ka n segs scs ++ tail ∧ TailOk ka (segs.drop n) tail := by
  induction run with
  | eof => exact ⟨0, [], Nat.le_refl _, rfl, rfl, Or.inl rfl⟩
  | @reply _ _ s t _ b hu => exact ⟨0, b, Nat.zero_le _, rfl, by simp [blocks], Or.inr ⟨s, t, rfl, hu⟩⟩
  | last => exact ⟨1, [], by simp, rfl, by simp [blocks], Or.inl rfl⟩
  | more _ _ _ ih =>
    obtain ⟨n, tail, hn, hs, hb, ht⟩ := ih
    exact ⟨n + 1, tail, Nat.succ_le_succ hn, by simp [hs, List.range'_succ], by simp [hb, blocks], ht⟩

/-- one segment = what one Read on the connection returns; empty segments are skipped -/
def nextByte : List Bytes → Option (UInt8 × List Bytes)
  | [] => none
  | [] :: t => nextByte t
  | (b :: s) :: t => some (b, s :: t)

/-- `step` goes on in a new state or stops with a result; returns the result and the unread rest -/
def runSeg {σ ρ : Type} (step : σ → UInt8 → σ ⊕ ρ) (eof : σ → ρ) : Nat → σ → List Bytes → ρ × List Bytes
  | 0, s, segs => (eof s, segs)
  | fuel + 1, s, segs =>
    match nextByte segs with
    | none => (eof s, [])
    | some (b, rest) =>
      match step s b with
      | .inl s' => runSeg step eof fuel s' rest
      | .inr r => (r, rest)

theorem nextByte_flatten (segs : List Bytes) :
    nextByte [segs.flatten] = (nextByte segs).map fun p => (p.1, [p.2.flatten]) := by
  induction segs with
  | nil => rfl
  | cons h t ih =>
    cases h with
    | nil => simpa [nextByte] using ih
    | cons b s => simp [nextByte]

/-- a line reader (bytes up to LF, a CR before it dropped), for the examples of `runSeg` in Props.lean -/
def lineStep (acc : Bytes) (b : UInt8) : Bytes ⊕ Bytes :=
  if b == 10 then .inr (match acc with | 13 :: t => t.reverse | _ => acc.reverse) else .inl (b :: acc)

end BfeVerif.C28
