import BfeVerif.C05.Model
/-! C05 — each algorithm returns within a bounded number of reads; simpleBalance, the one real loop, by the distance of
  the cursor to its starting point (`simpleLoop_ret`).  At the end the two inputs on which `simpleLoopOld` does not return. -/
namespace BfeVerif.C05

/-- the call returned a backend of the list or the error "all backend is down"; in particular not `panic`, not `diverge` -/
def Good (n : Nat) (r : Res) : Prop := r.out = .err 0 ∨ ∃ i, i < n ∧ r.out = .ok i

theorem wf_zero (bs : List B) : Wf bs 0 := by
  unfold Wf; omega

theorem getD_mem {α : Type} {l : List α} {j : Nat} (h : j < l.length) (d : α) : l.getD j d ∈ l := by
  rw [List.getD_eq_getElem?_getD, List.getElem?_eq_getElem h]
  exact List.getElem_mem h

theorem getB_mem {bs : List B} {i : Nat} (h : i < bs.length) : getB bs i ∈ bs := getD_mem h _

/-- number of loop iterations until the cursor is back at `s` -/
def dist (next s n : Nat) : Nat := if next < s then s - next else n - next + s

theorem moveToNext_lt {next n : Nat} (h : next < n) : moveToNext next n < n := by
  unfold moveToNext; split <;> omega

theorem dist_step {next s n : Nat} (h1 : next < n) (h2 : s < n) (h3 : moveToNext next n ≠ s) :
    dist (moveToNext next n) s n + 1 = dist next s n := by
  unfold dist moveToNext at *
  grind  -- cases `next + 1 ≥ n`, `next < s`, `next' < s`, each linear

theorem dist_pos {next s n : Nat} (h1 : next < n) : 1 ≤ dist next s n := by
  unfold dist; split <;> omega

theorem dist_self {s n : Nat} (h2 : s < n) : dist s s n = n := by
  unfold dist; split <;> omega

theorem resetW_cur_eq_w (bs : List B) : ∀ b ∈ resetW bs, b.cur = b.w := by
  intro b hb
  obtain ⟨a, _, rfl⟩ := List.mem_map.mp hb
  rfl

-- where `cur = w`, a backend that is not returned (`hb`) does not clear the flag: its `cur > 0` is the flag's `w > 0`
theorem allDown_kept {av allDown : Bool} {b : B} (hb : ¬(av = true ∧ b.cur > 0)) (hc : b.cur = b.w)
    (ha : allDown = true) : (if av = true ∧ b.w > 0 then false else allDown) = true := by
  rw [if_neg (hc ▸ hb)]; exact ha

/-- what `simpleLoop_ret` says of a result; a structure so that its induction can weaken the read bound alone (`Ret.mono`) -/
structure Ret (n tmax : Nat) (r : Res) : Prop where
  good : Good n r
  time : r.t ≤ tmax
  len : r.bs.length = n
  next : r.next < n

theorem Ret.mono {n tmax tmax' : Nat} {r : Res} (h : Ret n tmax r) (hle : tmax ≤ tmax') : Ret n tmax' r :=
  { h with time := Nat.le_trans h.time hle }

/-- `dist` iterations up to the wrap-around at `s`, `extra` after it.  On a calm list (flag true, `current = weight`
    everywhere) no reset happens and `extra = 0` is enough; a reset leaves a calm list with cursor `= s = 0`, hence
    `dist = n` (`dist_self`), so otherwise `extra = n` is. -/
theorem simpleLoop_ret (E : Env) (fuel : Nat) (bs : List B) (s next : Nat) (allDown : Bool) (t extra : Nat)
    (h1 : next < bs.length) (h2 : s < bs.length)
    (hx : bs.length ≤ extra ∨ (allDown = true ∧ ∀ b ∈ bs, b.cur = b.w))
    (hf : dist next s bs.length + extra ≤ fuel) :
    Ret bs.length (t + dist next s bs.length + extra) (simpleLoop E fuel bs s next allDown t) := by
  -- `dist ≥ 1`: for the `omega`s of the cases that stop; the last argument of `ih`
  have hd := @dist_pos next s _ h1
  fun_induction simpleLoop E fuel bs s next allDown t generalizing extra with
  | case1 => omega  -- out of fuel
  | case2 => omega  -- cursor out of range
  | case3 _ _ _ next _ t =>  -- backend `next` returned
    exact ⟨Or.inr ⟨next, h1, rfl⟩, by show t + 1 ≤ _; omega, List.length_set, moveToNext_lt h1⟩
  | case4 _ _ _ _ t =>  -- all-down error
    exact ⟨Or.inl rfl, by show t + 1 ≤ _; omega, rfl, h2⟩
  | case5 _ bs _ _ _ _ _ _ hb _ _ had ih =>
    -- a reset: `hb : ¬(avail ∧ cur > 0)` and `had`: flag cleared, so the list was not calm
    have hn : bs.length ≤ extra :=
      hx.resolve_right fun ⟨ha, hinv⟩ => had (allDown_kept hb (hinv _ (getB_mem h1)) ha)
    have hl : (resetW bs).length = bs.length := List.length_map _
    rw [hl, dist_self (by omega)] at ih
    exact (ih 0 (by omega) (by omega) (Or.inr ⟨rfl, resetW_cur_eq_w bs⟩) (by omega) (by omega)).mono (by omega)
  | case6 _ bs s _ _ _ _ _ _ hb _ next' hz ih =>  -- plain step; `hz : next' ≠ s`
    have hs : dist next' s bs.length + 1 = dist _ s bs.length := dist_step h1 h2 hz
    have hx' := hx.imp_right fun ⟨ha, hinv⟩ => And.intro (allDown_kept hb (hinv _ (getB_mem h1)) ha) hinv
    exact (ih extra (moveToNext_lt h1) h2 hx' (by omega) (dist_pos (moveToNext_lt h1))).mono (by omega)

theorem smoothLoop_spec (E : Env) (ptrs : List Nat) (bs : List B) (best : Option Nat) (total mx : Int) (t : Nat) :
    (smoothLoop E ptrs bs best total mx t).1.length = bs.length ∧
    (smoothLoop E ptrs bs best total mx t).2.2.2 = t + ptrs.length ∧
    (∀ i, (smoothLoop E ptrs bs best total mx t).2.1 = some i → i ∈ ptrs ∨ best = some i) := by
  fun_induction smoothLoop E ptrs bs best total mx t with
  | case1 => exact ⟨rfl, rfl, fun i h => Or.inr h⟩
  | case2 _ _ _ _ _ _ _ _ _ ih =>
    obtain ⟨a, b, c⟩ := ih
    exact ⟨a, by rw [b, List.length_cons]; omega, fun i h => (c i h).imp_left (List.mem_cons_of_mem _)⟩
  | case3 _ _ _ _ _ _ _ _ _ _ ih =>
    obtain ⟨a, b, c⟩ := ih
    refine ⟨by rw [a, List.length_set], by rw [b, List.length_cons]; omega, fun i h => ?_⟩
    rcases c i h with h | h
    · exact Or.inl (List.mem_cons_of_mem _ h)
    · split at h
      · cases h; exact Or.inl List.mem_cons_self
      · exact Or.inr h

theorem smooth_spec (E : Env) (ptrs : List Nat) (bs : List B) (next t : Nat)
    (hp : ∀ i ∈ ptrs, i < bs.length) :
    Good bs.length (smooth E ptrs bs next t) ∧ (smooth E ptrs bs next t).t = t + ptrs.length ∧
    (smooth E ptrs bs next t).bs.length = bs.length ∧ (smooth E ptrs bs next t).next = next := by
  obtain ⟨a, b, c⟩ := smoothLoop_spec E ptrs bs none 0 0 t
  unfold smooth
  generalize smoothLoop E ptrs bs none 0 0 t = r at a b c ⊢
  rcases r with ⟨bs', _ | i, total, t'⟩
  · exact ⟨Or.inl rfl, b, a, rfl⟩
  · have hi : i ∈ ptrs := (c i rfl).resolve_right (fun h => by cases h)
    exact ⟨Or.inr ⟨i, hp i hi, rfl⟩, b, List.length_set.trans a, rfl⟩

-- step of `lcPass1_spec`; 3 reads per element: one Avail, two ConnNum
theorem lcPass1_spec_cons {p : Nat} {rest : List Nat} {best best' : Option Nat} {t t' : Nat} {r : Option Nat × Bool × Nat}
    (ht : t' ≤ t + 3) (hb : best' = best ∨ best' = some p)
    (ih : r.2.2 ≤ t' + 3 * rest.length ∧ ∀ k, r.1 = some k → k ∈ rest ∨ best' = some k) :
    r.2.2 ≤ t + 3 * (p :: rest).length ∧ ∀ k, r.1 = some k → k ∈ p :: rest ∨ best = some k := by
  refine ⟨by rw [List.length_cons]; omega, fun k h => ?_⟩
  rcases ih.2 k h with h | h
  · exact Or.inl (List.mem_cons_of_mem _ h)
  · rcases hb with rfl | rfl
    · exact Or.inr h
    · cases h; exact Or.inl List.mem_cons_self

theorem lcPass1_spec (E : Env) (bs : List B) (ptrs : List Nat) (best : Option Nat) (single : Bool) (t : Nat) :
    (lcPass1 E bs ptrs best single t).2.2 ≤ t + 3 * ptrs.length ∧
    (∀ k, (lcPass1 E bs ptrs best single t).1 = some k → k ∈ ptrs ∨ best = some k) := by
  fun_induction lcPass1 E bs ptrs best single t with
  | case1 => exact ⟨Nat.le_add_right _ _, fun k h => Or.inr h⟩
  -- `p` skipped / the first candidate / better than the best so far / a tie / worse
  | case2 _ _ _ _ t _ _ ih => exact lcPass1_spec_cons (Nat.le_add_right (t + 1) 2) (Or.inl rfl) ih
  | case3 _ _ _ t _ _ ih => exact lcPass1_spec_cons (Nat.le_add_right (t + 1) 2) (Or.inr rfl) ih
  | case4 _ _ _ _ _ _ _ _ _ ih => exact lcPass1_spec_cons (Nat.le_refl _) (Or.inr rfl) ih
  | case5 _ _ _ _ _ _ _ _ _ _ ih => exact lcPass1_spec_cons (Nat.le_refl _) (Or.inl rfl) ih
  | case6 _ _ _ _ _ _ _ _ _ _ ih => exact lcPass1_spec_cons (Nat.le_refl _) (Or.inl rfl) ih

theorem lcPass2_spec (E : Env) (bs : List B) (k : Nat) (ptrs : List Nat) (t : Nat) :
    (lcPass2 E bs k ptrs t).2 ≤ t + 3 * ptrs.length ∧ (lcPass2 E bs k ptrs t).1.Sublist ptrs := by
  fun_induction lcPass2 E bs k ptrs t with
  | case1 => exact ⟨Nat.le_add_right _ _, .slnil⟩
  | case2 _ _ _ _ _ ih => exact ⟨by have := ih.1; rw [List.length_cons]; omega, ih.2.cons _⟩
  | case3 _ rest t _ _ _ q ih =>
    have : q.2 ≤ t + 3 + 3 * rest.length := ih.1
    refine ⟨by rw [List.length_cons]; omega, ?_⟩
    split
    · exact ih.2.cons_cons _
    · exact ih.2.cons _

theorem leastConns_spec (E : Env) (bs : List B) (ptrs : List Nat) (t : Nat) :
    (leastConns E bs ptrs t).2 ≤ t + 6 * ptrs.length ∧
    (∀ c, (leastConns E bs ptrs t).1 = some c → c.Sublist ptrs) := by
  obtain ⟨a, b⟩ := lcPass1_spec E bs ptrs none true t
  unfold leastConns
  generalize lcPass1 E bs ptrs none true t = r at a b ⊢
  obtain ⟨best, single, t1⟩ := r
  dsimp only at a b
  have ht : t1 ≤ t + 6 * ptrs.length := by omega
  cases best with
  | none => exact ⟨ht, fun c h => by cases h⟩
  | some k =>
    cases single with
    | true =>
      refine ⟨ht, fun c hc => ?_⟩
      cases hc
      exact List.singleton_sublist.mpr ((b k rfl).resolve_right (fun h => by cases h))
    | false =>
      obtain ⟨a2, b2⟩ := lcPass2_spec E bs k ptrs t1
      refine ⟨by dsimp only; omega, fun c hc => ?_⟩
      cases hc; exact b2

theorem mem_allPtrs {bs : List B} {i : Nat} (h : i ∈ allPtrs bs) : i < bs.length := by
  simpa [allPtrs] using h

theorem length_allPtrs (bs : List B) : (allPtrs bs).length = bs.length := List.length_range

theorem wlcSmooth_eq (E : Env) (bs : List B) (next t : Nat) :
    wlcSmooth E bs next t = wlcSimpleWith (fun _ c bs next t => smooth E c bs next t) E 0 bs next t := rfl

/-- the head that WlcSimple and WlcSmooth share (`wlcSmooth_eq`); `c` may be empty, and `c.length ≤ bs.length` bounds the
    reads `rb` may add -/
theorem wlcSimpleWith_cases (rb : Nat → List Nat → List B → Nat → Nat → Res) (E : Env) (rnd : Nat)
    (bs : List B) (next t : Nat) :
    ∃ t1, t1 ≤ t + 6 * bs.length ∧
      ((∃ out, Good bs.length ⟨out, bs, next, t1⟩ ∧ wlcSimpleWith rb E rnd bs next t = ⟨out, bs, next, t1⟩) ∨
       ∃ c, c.length ≤ bs.length ∧ (∀ i ∈ c, i < bs.length) ∧ wlcSimpleWith rb E rnd bs next t = rb rnd c bs next t1) := by
  obtain ⟨a, b⟩ := leastConns_spec E bs (allPtrs bs) t
  rw [length_allPtrs] at a
  unfold wlcSimpleWith
  generalize leastConns E bs (allPtrs bs) t = r at a b ⊢
  rcases r with ⟨_ | c, t1⟩
  · exact ⟨t1, a, Or.inl ⟨_, Or.inl rfl, rfl⟩⟩
  · refine ⟨t1, a, ?_⟩
    have hc : ∀ i ∈ c, i < bs.length := fun i hi => mem_allPtrs ((b c rfl).subset hi)
    dsimp only
    by_cases h1 : c.length = 1
    · rw [if_pos h1]
      exact Or.inl ⟨_, Or.inr ⟨_, hc _ (getD_mem (by omega) _), rfl⟩, rfl⟩
    · rw [if_neg h1]
      exact Or.inr ⟨c, length_allPtrs bs ▸ (b c rfl).length_le, hc, rfl⟩

theorem insertB_length (b : B) : ∀ l : List B, (insertB b l).length = l.length + 1 := by
  intro l
  induction l with
  | nil => rfl
  | cons x xs ih => unfold insertB; split <;> simp [ih]

theorem sortById_length : ∀ l : List B, (sortById l).length = l.length := by
  intro l
  induction l with
  | nil => rfl
  | cons x xs ih => simp [sortById, insertB_length, ih]

-- third clause: non-empty candidates give `GetHash` a modulus `≠ 0`
theorem stickyCands_spec (E : Env) (bs : List B) (ptrs : List Nat) (t : Nat) :
    (stickyCands E bs ptrs t).2.1 = ((stickyCands E bs ptrs t).1.map fun i => (getB bs i).w).sum ∧
    (stickyCands E bs ptrs t).2.2 = t + ptrs.length ∧
    ((stickyCands E bs ptrs t).1.length : Int) ≤ (stickyCands E bs ptrs t).2.1 ∧
    (stickyCands E bs ptrs t).1.Sublist ptrs := by
  fun_induction stickyCands E bs ptrs t with
  | case1 => exact ⟨rfl, rfl, Int.le_refl _, .slnil⟩
  | case2 _ _ _ _ _ h ih =>  -- a candidate: weight `≥ 1`
    obtain ⟨a, hb, c, d⟩ := ih
    exact ⟨congrArg (_ + ·) a, by rw [hb, List.length_cons]; omega,
      by rw [List.length_cons, Int.natCast_succ, Int.add_comm]; exact Int.add_le_add h.2 c, d.cons_cons _⟩
  | case3 _ _ _ _ _ _ ih =>
    obtain ⟨a, b, c, d⟩ := ih
    exact ⟨a, by rw [b, List.length_cons]; omega, c, d.cons _⟩

theorem stickyPick_some (bs : List B) (c : List Nat) (v : Int)
    (h0 : 0 ≤ v) (h1 : v < (c.map fun i => (getB bs i).w).sum) : ∃ i, i ∈ c ∧ stickyPick bs c v = some i := by
  fun_induction stickyPick bs c v with
  | case1 => exact absurd h1 (Int.not_lt.mpr h0)
  | case2 p => exact ⟨p, List.mem_cons_self, rfl⟩
  | case3 _ _ _ _ hv ih =>
    obtain ⟨i, hi, he⟩ := ih (Int.not_lt.mp hv) (Int.sub_left_lt_of_lt_add h1)
    exact ⟨i, List.mem_cons_of_mem _ hi, he⟩

-- A{conf weight 1, down}, B{conf weight -1, up}; `w` and `cur` hold conf weight × 100
def oldBs : List B := [⟨0, 100, 100⟩, ⟨1, -100, -100⟩]
def oldEnv : Env := { av := fun _ id => id == 1, cn := fun _ _ => 0 }

-- cursor at 0 / at 1.  At 1, B is up with `w ≠ 0`: the flag is cleared and the wrap resets, back to cursor 0 with flag false
theorem simpleLoopOld_seq_diverges : ∀ fuel : Nat,
    (∀ flag t, (simpleLoopOld oldEnv fuel oldBs 0 0 flag t).out = .diverge) ∧
    (∀ flag t, (simpleLoopOld oldEnv fuel oldBs 0 1 flag t).out = .diverge) := by
  intro fuel
  induction fuel with
  | zero => exact ⟨fun _ _ => rfl, fun _ _ => rfl⟩
  | succ fuel ih =>
    refine ⟨fun flag t => ?_, fun flag t => ?_⟩
    · rw [simpleLoopOld]
      simpa [oldBs, oldEnv, getB, moveToNext] using ih.2 flag (t + 1)
    · rw [simpleLoopOld]
      simpa [oldBs, oldEnv, getB, moveToNext, resetW] using ih.1 false (t + 1)

-- `current` exhausted, up at read 0 only
def oldBs2 : List B := [⟨0, 100, 0⟩]
def oldEnv2 : Env := { av := fun t _ => t == 0, cn := fun _ _ => 0 }

-- after the first wrap: the list is reset, the flag false, every later read says "down"
theorem simpleLoopOld_conc_after_reset : ∀ (fuel t : Nat), 1 ≤ t →
    (simpleLoopOld oldEnv2 fuel (resetW oldBs2) 0 0 false t).out = .diverge := by
  intro fuel
  induction fuel with
  | zero => intro _ _; rfl
  | succ fuel ih =>
    intro t ht
    rw [simpleLoopOld]
    have h0 : (t == 0) = false := by simp; omega
    simpa [oldBs2, oldEnv2, getB, moveToNext, resetW, h0] using ih (t + 1) (by omega)

end BfeVerif.C05
