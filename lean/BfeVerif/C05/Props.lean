import BfeVerif.C05.Proofs
import BfeVerif.Generated.C05
/-!
  C05 — balancer calls are total and terminate under concurrent change.

  Each theorem quantifies over EVERY environment `E : Env`, i.e. over every sequence of values the
  `Avail()` / `ConnNum()` reads of one call can return (every interleaving of SetAvail, Inc/DecConnNum and
  health checks with the call), over every backend list (all shapes: empty, negative/zero weights, arbitrary
  `current`), every cursor, hash and random draw.
-/
namespace BfeVerif.C05

/-- simpleBalance (as fixed): for every read stream the loop returns within `2·n` reads — fuel `2·n` is never
    exhausted — with a backend or the all-down error, and leaves a well-formed state. -/
theorem C05_simple_total (E : Env) (bs : List B) (next t fuel : Nat)
    (hwf : Wf bs next) (hfuel : fuel ≥ 2 * bs.length) :
    Good bs.length (simple E fuel bs next t) ∧
    (simple E fuel bs next t).t ≤ t + 2 * bs.length ∧
    (simple E fuel bs next t).bs.length = bs.length ∧
    Wf (simple E fuel bs next t).bs (simple E fuel bs next t).next := by
  unfold simple
  by_cases h0 : bs.length = 0
  · simp only [h0, if_true]
    exact ⟨Or.inl rfl, by omega, trivial, Or.inl h0⟩
  · simp only [h0, if_false]
    have hn : next < bs.length := hwf.resolve_left h0
    have r := simpleLoop_ret E fuel bs (s := next) (next := next) true t (extra := bs.length) hn hn
      (Or.inl (Nat.le_refl _)) (by rw [dist_self hn]; omega)
    rw [dist_self hn] at r
    exact ⟨r.good, by have := r.time; omega, r.len, Or.inr (by rw [r.len]; exact r.next)⟩

/-- record of the defect that was fixed (sequential): with A{weight 1, down}, B{weight −1, up} the OLD loop
    never returns, whatever the fuel — it spins holding the BalanceRR mutex. -/
theorem C05_simple_old_witness (fuel : Nat) :
    (simpleOld oldEnv fuel oldBs 0 0).out = .diverge :=
  (simpleLoopOld_seq_diverges fuel).1 true 0

/-- record of the defect (concurrent, positive weights only): one backend with exhausted `current` that is
    available at the first read and down afterwards — the OLD loop never returns. -/
theorem C05_simple_old_witness_concurrent (fuel : Nat) :
    (simpleOld oldEnv2 fuel oldBs2 0 0).out = .diverge := by
  unfold simpleOld
  cases fuel with
  | zero => rfl
  | succ fuel =>
    rw [simpleLoopOld]
    simpa [oldBs2, oldEnv2, getB, moveToNext, resetW] using simpleLoopOld_conc_after_reset fuel 1 (by omega)

/-- the OLD code indexed `backends[0]` of an empty list -/
theorem C05_simple_old_witness_empty (E : Env) (fuel : Nat) :
    (simpleOld E (fuel + 1) [] 0 0).out = .panic "index out of range" := by
  simp [simpleOld, simpleLoopOld]

/-- on the same three witnesses the fixed code answers -/
example : (simple oldEnv 4 oldBs 0 0).out = .err 0 := by decide +kernel
example : (simple oldEnv2 2 oldBs2 0 0).out = .err 0 := by decide +kernel
example : (simple oldEnv 0 [] 0 0).out = .err 0 := by decide
example : Wf [⟨0, 100, 0⟩, ⟨1, 200, 0⟩] 1 := Or.inr (by decide)
/-- non-vacuity: the reset branch is taken and a backend is returned in the 2nd pass -/
example :
    (simple { av := fun _ _ => true, cn := fun _ _ => 0 } 4 [⟨0, 100, 0⟩, ⟨1, 200, 0⟩] 1 0).out = .ok 0 ∧
    (simple { av := fun _ _ => true, cn := fun _ _ => 0 } 4 [⟨0, 100, 0⟩, ⟨1, 200, 0⟩] 1 0).t = 3 := by decide +kernel

/-- smoothBalance: one pass, exactly `n` Avail reads, a member of the list or all-down; no panic path -/
theorem C05_smooth_total (E : Env) (bs : List B) (next t : Nat) :
    Good bs.length (smooth E (allPtrs bs) bs next t) ∧
    (smooth E (allPtrs bs) bs next t).t = t + bs.length ∧
    (smooth E (allPtrs bs) bs next t).bs.length = bs.length ∧
    (smooth E (allPtrs bs) bs next t).next = next := by
  have h := smooth_spec E (allPtrs bs) bs next t fun _ => mem_allPtrs
  rwa [length_allPtrs] at h

/-- stickyBalance: for every read stream and every hash it returns a member or all-down after exactly `n` reads;
    in particular `GetHash` never divides by zero and the "never come here" error (`err 1`) is unreachable -/
theorem C05_sticky_total (E : Env) (hash : Nat) (bs : List B) (next t : Nat) :
    Good bs.length (sticky E hash bs next t) ∧
    (sticky E hash bs next t).t = t + bs.length ∧
    (sticky E hash bs next t).bs.length = bs.length ∧
    (sticky E hash bs next t).next = next := by
  have hl := sortById_length bs
  unfold sticky
  dsimp only
  generalize sortById bs = bs' at hl ⊢
  obtain ⟨a, b, hpos, c⟩ := stickyCands_spec E bs' (allPtrs bs') t
  rw [length_allPtrs, hl] at b
  generalize stickyCands E bs' (allPtrs bs') t = p at a b hpos c ⊢
  obtain ⟨cands, total, t1⟩ := p
  dsimp only at a b hpos c ⊢
  subst b
  by_cases h0 : cands.length = 0
  · rw [if_pos h0]; exact ⟨Or.inl rfl, rfl, hl, rfl⟩
  · rw [if_neg h0]
    -- `hpos`: the modulus of `GetHash` is at least the number of candidates
    have hz : ¬ total.toNat = 0 := by omega
    rw [if_neg hz]
    have hlt := Nat.mod_lt hash (Nat.pos_of_ne_zero hz)
    obtain ⟨i, hi, he⟩ := stickyPick_some bs' cands (Int.ofNat (hash % total.toNat))
      (Int.natCast_nonneg _) (by rw [← a, Int.ofNat_eq_natCast]; omega)
    rw [he]
    exact ⟨Or.inr ⟨i, by rw [← hl]; exact mem_allPtrs (c.subset hi), rfl⟩, rfl, hl, rfl⟩

/-- WlcSmooth: total for every read stream (an EMPTY candidate list, possible under concurrent change, ends in the
    all-down error of smoothBalance); at most `7·n` reads -/
theorem C05_wlc_smooth_total (E : Env) (bs : List B) (next t : Nat) :
    Good bs.length (wlcSmooth E bs next t) ∧
    (wlcSmooth E bs next t).t ≤ t + 7 * bs.length ∧
    (wlcSmooth E bs next t).bs.length = bs.length ∧
    (wlcSmooth E bs next t).next = next := by
  rw [wlcSmooth_eq]
  obtain ⟨t1, ht, ⟨out, g, h⟩ | ⟨c, hlen, hc, h⟩⟩ := wlcSimpleWith_cases _ E 0 bs next t <;> rw [h]
  · exact ⟨g, by show t1 ≤ _; omega, rfl, rfl⟩
  · obtain ⟨g, ht2, hl, hn⟩ := smooth_spec E c bs next t1 hc
    exact ⟨g, by omega, hl, hn⟩

/-- WlcSimple (with the guard added to randomBalance): total for every read stream and random draw; ≤ `6·n` reads -/
theorem C05_wlc_simple_total (E : Env) (rnd : Nat) (bs : List B) (next t : Nat) :
    Good bs.length (wlcSimple E rnd bs next t) ∧
    (wlcSimple E rnd bs next t).t ≤ t + 6 * bs.length ∧
    (wlcSimple E rnd bs next t).bs = bs ∧
    (wlcSimple E rnd bs next t).next = next := by
  unfold wlcSimple
  obtain ⟨t1, ht, ⟨out, g, h⟩ | ⟨c, _, hc, h⟩⟩ := wlcSimpleWith_cases randomBalance E rnd bs next t <;> rw [h]
  · exact ⟨g, ht, rfl, rfl⟩
  · unfold randomBalance
    by_cases h0 : c.length = 0
    · rw [if_pos h0]; exact ⟨Or.inl rfl, ht, rfl, rfl⟩
    · rw [if_neg h0]
      exact ⟨Or.inr ⟨_, hc _ (getD_mem (Nat.mod_lt rnd (Nat.pos_of_ne_zero h0)) 0), rfl⟩, ht, rfl, rfl⟩

/-- two equal backends, always available; ONE IncConnNum on backend 0 at read 6: reads 0-3 are the first pass, 4 the
    Avail of the second, 5 and 6 the two ConnNum reads of `compLCWeight(best,best)` -/
def wlcEnv : Env := { av := fun _ _ => true, cn := fun t id => if id == 0 && decide (6 ≤ t) then 1 else 0 }
def wlcBs : List B := [⟨0, 100, 100⟩, ⟨1, 100, 100⟩]

/-- record of the defect that was fixed: the IncConnNum between those two reads empties the candidate list and the OLD
    randomBalance divides by zero -/
theorem C05_wlc_simple_old_witness (rnd : Nat) :
    (wlcSimpleOld wlcEnv rnd wlcBs 0 0).out = .panic "integer divide by zero" := by
  have h : leastConns wlcEnv wlcBs (allPtrs wlcBs) 0 = (some [], 10) := by decide +kernel
  simp [wlcSimpleOld, wlcSimpleWith, randomBalanceOld, h]

/-- the same schedule through the fixed code / through WlcSmooth: a (spurious but harmless) all-down error -/
example : (wlcSimple wlcEnv 5 wlcBs 0 0).out = .err 0 := by decide +kernel
example : (wlcSmooth wlcEnv wlcBs 0 0).out = .err 0 := by decide +kernel
/-- non-vacuity: ties give several candidates and a pick among them -/
example : (wlcSimple { av := fun _ _ => true, cn := fun _ _ => 0 } 5 wlcBs 0 0).out = .ok 1 := by decide +kernel
example : (sticky { av := fun _ _ => true, cn := fun _ _ => 0 } 150 wlcBs 0 0).out = .ok 1 := by decide +kernel
example : (smooth { av := fun _ id => id == 1, cn := fun _ _ => 0 } (allPtrs wlcBs) wlcBs 0 0).out = .ok 1 := by decide +kernel

/-- BalanceRR.Balance with any algorithm number: total, list length kept, state stays well-formed -/
theorem C05_balance_total (algo : Nat) (E : Env) (hash rnd : Nat) (bs : List B) (next : Nat) (hwf : Wf bs next) :
    Good bs.length (balance algo E hash rnd bs next) ∧
    (balance algo E hash rnd bs next).t ≤ 7 * bs.length ∧
    (balance algo E hash rnd bs next).bs.length = bs.length ∧
    Wf (balance algo E hash rnd bs next).bs (balance algo E hash rnd bs next).next := by
  -- `0 + ..`: the shape the `*_total` bounds have at `t := 0`
  have fin : ∀ (r : Res) (k : Nat), k ≤ 7 → Good bs.length r → r.t ≤ 0 + k * bs.length → r.bs.length = bs.length →
      (r.next = next ∨ Wf r.bs r.next) →
      Good bs.length r ∧ r.t ≤ 7 * bs.length ∧ r.bs.length = bs.length ∧ Wf r.bs r.next := by
    intro r k hk a b c d
    refine ⟨a, Nat.le_trans b (Nat.zero_add _ ▸ Nat.mul_le_mul_right _ hk), c, d.elim (fun d => ?_) id⟩
    unfold Wf at *; rw [c, d]; exact hwf
  unfold balance
  split
  · obtain ⟨a, b, c, d⟩ := C05_simple_total E bs next 0 (simpleFuel bs) hwf (Nat.le_refl _)
    exact fin _ 2 (by decide) a b c (Or.inr d)
  · obtain ⟨a, b, c, d⟩ := C05_sticky_total E hash bs next 0
    exact fin _ 1 (by decide) a (by rw [b, Nat.one_mul]; exact Nat.le_refl _) c (Or.inl d)
  · obtain ⟨a, b, c, d⟩ := C05_wlc_simple_total E rnd bs next 0
    exact fin _ 6 (by decide) a b (congrArg List.length c) (Or.inl d)
  · obtain ⟨a, b, c, d⟩ := C05_wlc_smooth_total E bs next 0
    exact fin _ 7 (by decide) a b c (Or.inl d)
  · obtain ⟨a, b, c, d⟩ := C05_smooth_total E bs next 0
    exact fin _ 1 (by decide) a (by rw [b, Nat.one_mul]; exact Nat.le_refl _) c (Or.inl d)

/-- Update leaves a well-formed state (brr.next = 0) whatever the new conf, including the empty one -/
theorem C05_update_wf (bs : List B) (conf : List (Nat × Int)) : Wf (update bs conf) 0 :=
  wf_zero _

/-- one atomic step of a schedule at critical-section granularity: a Balance call (with ITS OWN adversarial read
    stream, hash, random draw) or an Update -/
inductive Step where
  | bal (algo : Nat) (E : Env) (hash rnd : Nat)
  | upd (conf : List (Nat × Int))

/-- that Update leaves `brr.next = 0` is put in HERE (the `0` of the `upd` case): `update` returns the list only -/
def AllGood : List Step → List B → Nat → Prop
  | [], _, _ => True
  | .upd conf :: rest, bs, _ => AllGood rest (update bs conf) 0
  | .bal algo E hash rnd :: rest, bs, next =>
    Good bs.length (balance algo E hash rnd bs next) ∧
    AllGood rest (balance algo E hash rnd bs next).bs (balance algo E hash rnd bs next).next

/-- every history of Balance / Update steps from any initial conf: no call panics or fails to return -/
theorem C05_history_total (ws : List Int) (h : List Step) : AllGood h (initList ws) 0 := by
  suffices gen : ∀ (bs : List B) (next : Nat), Wf bs next → AllGood h bs next from gen _ _ (wf_zero _)
  induction h with
  | nil => intro _ _ _; trivial
  | cons s rest ih =>
    intro bs next hwf
    cases s with
    | upd conf => exact ih _ _ (C05_update_wf bs conf)
    | bal algo E hash rnd =>
      obtain ⟨a, _, _, d⟩ := C05_balance_total algo E hash rnd bs next hwf
      exact ⟨a, ih _ _ d⟩

/-- one operation on an unlocked balancer returns and leaves it unlocked — in particular a REJECTED reload
    (`confTotal conf ≤ 0`) does -/
theorem C05_gslb_step_releases (g : G) (o : GOp) (h : g.locked = false) :
    (gStep g o).1 ≠ .hang ∧ (gStep g o).2.locked = false := by
  cases o with
  | bal => simp [gStep, gBalance, h, gUnlock]
  | other => simp [gStep, gSimpleOp, h, gUnlock]
  | reload c =>
    simp only [gStep, gReload, h]
    by_cases hc : confTotal c ≤ 0 <;> simp [hc, gUnlock]

/-- a rejected Reload leaves the balancer exactly as it was -/
theorem C05_gslb_rejected_reload_harmless (g : G) (c : List (Nat × Int)) (h : g.locked = false)
    (hc : confTotal c ≤ 0) : gReload c g = (.ret "rej", g) := by
  have : gUnlock (gLock g) = g := by cases g; simp_all [gUnlock, gLock]
  simp [gReload, h, hc, this]

/-- **every gslb operation returns, with the lock released**: in every history of Balance / Reload (valid or
    rejected) / BackendReload / SetGslbBasic / SetSlowStart operations on a balancer produced by `Init`, no
    operation blocks on the gslb mutex and the mutex is free at the end -/
theorem C05_gslb_total (conf : List (Nat × Int)) (g : G) (hg : gInit conf = some g) (ops : List GOp) :
    (∀ r ∈ (gRun ops g).1, r ≠ .hang) ∧ (gRun ops g).2.locked = false := by
  have h0 : g.locked = false := by
    unfold gInit at hg
    split at hg
    · cases hg
    · cases hg; rfl
  clear hg
  induction ops generalizing g with
  | nil => exact ⟨fun _ h => absurd h List.not_mem_nil, h0⟩
  | cons o rest ih =>
    obtain ⟨h1, h2⟩ := C05_gslb_step_releases g o h0
    obtain ⟨h3, h4⟩ := ih (gStep g o).2 h2
    exact ⟨List.forall_mem_cons.mpr ⟨h1, h3⟩, h4⟩

/-- a balancer whose mutex was left locked (what a return path without Unlock produces) blocks every later operation -/
theorem C05_gslb_locked_hangs (g : G) (o : GOp) (h : g.locked = true) : (gStep g o).1 = .hang := by
  cases o <;> simp [gStep, gBalance, gSimpleOp, gReload, h]

example : (gInit [(1, 60), (2, 40)]).map (fun g => (gRun [.reload [(1, 0), (2, 0)], .bal, .reload [(2, 5)], .other] g).1)
    = some [.ret "rej", .ret "ret", .ret "ok", .ret "ret"] := by decide +kernel

/-- **every function of bfe_balance (bal_table.go), bal_gslb, bal_slb and backend that takes a mutex releases it at
    every way out** — each return statement, including the error returns, and the end of the body (facts regenerated from
    the CURRENT source by extract/c05.go).  With `C05_gslb_total` (operations whose every path releases never block one
    another) this is the for-all version of "every operation returns with the lock released". -/
theorem C05_lock_released_on_every_exit :
    ∀ e ∈ BfeVerif.Generated.C05.lockExits, e.2 = true := by decide +kernel

/-- non-vacuity: the table lists the functions the property is about (`≥ 30`: the extractor did not truncate it) -/
theorem C05_lock_table_covers :
    (["bfe_balance/bal_slb/bal_rr.go:BalanceRR.Update", "bfe_balance/bal_slb/bal_rr.go:BalanceRR.simpleBalance",
      "bfe_balance/bal_slb/bal_rr.go:BalanceRR.smoothBalance", "bfe_balance/bal_slb/bal_rr.go:BalanceRR.stickyBalance",
      "bfe_balance/bal_slb/bal_rr.go:BalanceRR.leastConnsSimpleBalance",
      "bfe_balance/bal_slb/bal_rr.go:BalanceRR.leastConnsSmoothBalance",
      "bfe_balance/bal_slb/bal_rr.go:BalanceRR.checkSlowStart",
      "bfe_balance/bal_gslb/bal_gslb.go:BalanceGslb.Balance", "bfe_balance/bal_gslb/bal_gslb.go:BalanceGslb.Reload",
      "bfe_balance/bal_gslb/bal_gslb.go:BalanceGslb.BackendReload",
      "bfe_balance/bal_table.go:BalTable.BalTableReload", "bfe_balance/bal_table.go:BalTable.Lookup",
      "bfe_balance/backend/bfe_backend.go:BfeBackend.Avail", "bfe_balance/backend/bfe_backend.go:BfeBackend.ConnNum"].all
      fun f => BfeVerif.Generated.C05.lockExits.any fun e => e.1 == f) = true ∧
    BfeVerif.Generated.C05.lockCount ≥ 30 := by
  refine ⟨?_, by decide⟩
  -- `x == x` as a local fact, so that the `ReflBEq String` instance is found once and not at every matching row
  have hb : ∀ s : String, (s == s) = true := fun s => beq_self_eq_true s
  simp only [Generated.C05.lockExits, List.all_cons, List.all_nil, List.any_cons, hb,
    Bool.or_true, Bool.true_or, Bool.and_self]

end BfeVerif.C05
