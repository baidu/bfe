import BfeVerif.C16.Proofs
/-!
  C16 — condition expressions evaluate with the documented precedence.

  `wellParen t pe` = "pe is the tree the grammar with precedence table `t` assigns to `print pe`" (for `docTable`:
  the documented grammar
  `() > ! > && > ||`, binary operators left-associative).  Every way of writing an expression with or
  without redundant parentheses is `print pe` for a `pe` with `wellParen docTable pe` (informal: no theorem states it).
  `codeTable` is computed from the `%left/%right` lines extracted from cond.y on every run.
  That the parser decides as the generated LALR automaton does is checked by the correspondence run, not proved.

  FULL STATEMENT (C16), false on the current tree (see `C16_witness`):
      ∀ pe env, wellParen docTable pe → evalTokens codeTable env (print pe) = some (eval env pe)
-/
namespace BfeVerif.C16

def DocumentedEvaluation (t : Table) : Prop :=
  ∀ (pe : PE) (env : Nat → Bool), wellParen docTable pe = true →
    evalTokens t env (print pe) = some (eval env pe)

/-- The parser parameterised by ANY table implements exactly the grammar that table denotes:
    parsing the printing of a tree that is well-parenthesised for `t` gives back that tree (with its
    parenthesis nodes), for every nesting depth and operator mix. -/
theorem C16_roundtrip (t : Table) (pe : PE) (hw : wellParen t pe = true) :
    parseTop t (print pe) = some pe := by
  have h := parseExpr_print_append t pe hw none [] 1 (pe, []) (fits_none t pe) rfl
    (fun n hn => loop_done t hn rfl) _ (Nat.le_refl _)
  rw [List.append_nil] at h
  rw [parseTop, h]

/-- C16 holds for the documented table: if cond.y declared `||` below `&&` below `!`, every expression
    would evaluate as documented. -/
theorem C16_doc_table : DocumentedEvaluation docTable := by
  intro pe env hw
  rw [evalTokens, C16_roundtrip docTable pe hw]
  rfl

/-- On any table where `!` binds tightest and `&&`, `||` are left-associative (whatever their mutual
    order), expressions that never put `&&` and `||` next to each other without parentheses are parsed
    into the documented tree. -/
theorem C16_partial_general (c : Table) (hc : NotTightLeftAssoc c) (pe : PE)
    (hw : wellParen docTable pe = true) (hm : noMix pe = true) :
    parseTop c (print pe) = some pe :=
  C16_roundtrip c pe (wellParen_transfer docTable_ok hc pe hw hm).1

theorem codeTable_ok : NotTightLeftAssoc codeTable :=
  ⟨fun op => by cases op <;> decide +kernel, fun op => by cases op <;> decide +kernel⟩

/-- Current tree: with the precedence lines that cond.y has NOW, every expression
    without an unparenthesised `&&`/`||` mix evaluates as documented. -/
theorem C16_partial (pe : PE) (env : Nat → Bool)
    (hw : wellParen docTable pe = true) (hm : noMix pe = true) :
    evalTokens codeTable env (print pe) = some (eval env pe) := by
  rw [evalTokens, C16_partial_general codeTable codeTable_ok pe hw hm]
  rfl

/-- the witness `p0 && p1 || p2` with p0 = p1 = false, p2 = true -/
def witness : PE := .bin false (.bin true (.atom 0) (.atom 1)) (.atom 2)
def witnessEnv : Nat → Bool := fun n => n == 2

/-- On the current tree the full statement is FALSE: `false && false || true` is
    parsed as `false && (false || true)` and evaluates to false; documented value: true. -/
theorem C16_witness : ¬ DocumentedEvaluation codeTable := by
  intro h
  exact absurd (h witness witnessEnv (by decide)) (by decide +kernel)

theorem C16_witness_tree :
    parseTop codeTable (print witness) = some (.bin true (.atom 0) (.bin false (.atom 1) (.atom 2))) := by
  decide +kernel

/-- `!` applies to the primary that follows it only (`!a && b` is `(!a) && b`), on the current tree. -/
theorem C16_not_binds_tightest (a b : PE) (op : Bool) (ha : isNB a = true) (hb : isNB b = true)
    (hwa : wellParen docTable a = true) (hwb : wellParen docTable b = true)
    (hma : noMix a = true) (hmb : noMix b = true) :
    parseTop codeTable (print (.bin op (.not a) b)) = some (.bin op (.not a) b) := by
  apply C16_roundtrip
  -- each operand is well-parenthesised for `codeTable` too, and with that `a`, which is no `bin`, ends at every operator
  obtain ⟨hwa', hea⟩ := wellParen_transfer docTable_ok codeTable_ok a hwa hma
  simp only [wellParen, endsAt, Bool.and_eq_true]
  exact ⟨⟨⟨⟨hwa', fits_of_isNB _ _ a ha⟩, (wellParen_transfer docTable_ok codeTable_ok b hwb hmb).1⟩, codeTable_ok.notTight op,
    hea op (isBin_of_isNB _ a ha)⟩, fits_of_isNB _ _ b hb⟩

/-! Non-vacuity: a deep mixed expression (`!!p0 || (p1 && p2) || p3`) that satisfies the hypotheses of `C16_partial`, and one
    (`a || b && c`) that is documented-well-parenthesised. -/
example : wellParen docTable (.bin false (.bin false (.not (.not (.atom 0))) (.paren (.bin true (.atom 1) (.atom 2)))) (.atom 3)) = true
    ∧ noMix (.bin false (.bin false (.not (.not (.atom 0))) (.paren (.bin true (.atom 1) (.atom 2)))) (.atom 3)) = true := by decide +kernel
example : wellParen docTable (.bin false (.atom 0) (.bin true (.atom 1) (.atom 2))) = true := by decide +kernel
example : wellParen docTable witness = true ∧ noMix witness = false := by decide +kernel
example : codeTable = { land := 1, lor := 2, not := 3, landLeft := true, lorLeft := true } := by decide +kernel

end BfeVerif.C16
