import BfeVerif.C16.Model
/-! C16 — proofs, in two independent parts: round trip through the parser (`parseExpr_print_append`); transfer of
  `wellParen` between tables that satisfy `NotTightLeftAssoc` (`wellParen_transfer`). -/
namespace BfeVerif.C16

/-! ### The parser's equations -/

/-- `headOp`/`opTok`: so that `loop_succ` states the two operator branches of `loop` once. -/
def headOp : List Tok → Option Bool
  | .land :: _ => some true
  | .lor :: _ => some false
  | _ => none

def opTok (op : Bool) : Tok := if op then .land else .lor

theorem headOp_opTok (op : Bool) (rest : List Tok) : headOp (opTok op :: rest) = some op := by
  cases op <;> rfl

theorem parseExpr_succ (t : Table) (n : Nat) (ctx : Option Nat) (toks : List Tok) :
    parseExpr t (n + 1) ctx toks =
      match parsePrimary t n toks with
      | none => none
      | some (lhs, rest) => loop t n ctx lhs rest := rfl

theorem parsePrimary_atom (t : Table) (n a : Nat) (rest : List Tok) :
    parsePrimary t (n + 1) (.atom a :: rest) = some (.atom a, rest) := rfl

theorem parsePrimary_not (t : Table) (n : Nat) (rest : List Tok) :
    parsePrimary t (n + 1) (.not :: rest) =
      match parseExpr t n (some t.not) rest with
      | some (e, r) => some (.not e, r)
      | none => none := rfl

theorem parsePrimary_lp (t : Table) (n : Nat) (rest : List Tok) :
    parsePrimary t (n + 1) (.lp :: rest) =
      match parseExpr t n none rest with
      | some (e, .rp :: r) => some (.paren e, r)
      | _ => none := rfl

theorem loop_succ (t : Table) (n : Nat) (ctx : Option Nat) (lhs : PE) (toks : List Tok) :
    loop t (n + 1) ctx lhs toks =
      match headOp toks with
      | none => some (lhs, toks)
      | some op =>
        if stop t ctx op then some (lhs, toks)
        else match parseExpr t n (some (t.lvl op)) toks.tail with
          | none => none
          | some (rhs, rest') => loop t n ctx (.bin op lhs rhs) rest' := by
  match toks with
  | [] => rfl
  | .atom _ :: _ => rfl
  | .not :: _ => rfl
  | .lp :: _ => rfl
  | .rp :: _ => rfl
  | .land :: _ => rfl
  | .lor :: _ => rfl

theorem print_bin (op : Bool) (l r : PE) : print (.bin op l r) = print l ++ opTok op :: print r := by
  cases op <;> rfl

/-! ### Round trip: `parseExpr` on `print pe ++ rest` -/

theorem loop_done (t : Table) {n : Nat} (hn : 0 < n) {ctx lhs rest} (h : (headOp rest).all (stop t ctx) = true) :
    loop t n ctx lhs rest = some (lhs, rest) := by
  obtain ⟨n, rfl⟩ := Nat.exists_eq_succ_of_ne_zero (Nat.ne_of_gt hn)
  rw [loop_succ]
  cases hop : headOp rest with
  | none => rfl
  | some op => rw [hop] at h; exact if_pos h

theorem loop_shift (t : Table) (n : Nat) (ctx lhs) (op : Bool) (rest) (hs : stop t ctx op = false)
    {rhs rest'} (hp : parseExpr t n (some (t.lvl op)) rest = some (rhs, rest')) :
    loop t (n + 1) ctx lhs (opTok op :: rest) = loop t n ctx (.bin op lhs rhs) rest' := by
  rw [loop_succ, headOp_opTok]
  show (if stop t ctx op = true then _ else _) = _
  rw [if_neg (ne_true_of_eq_false hs), List.tail_cons, hp]

theorem all_and {α} {p q : α → Bool} {o : Option α} (h : o.all (fun a => p a && q a) = true) :
    o.all p = true ∧ o.all q = true := by
  cases o with
  | none => exact ⟨rfl, rfl⟩
  | some a => exact Bool.and_eq_true_iff.mp h

theorem fits_none (t : Table) (e : PE) : fits t none e = true := by
  induction e with
  | bin op l r ihl _ => exact ihl
  | _ => rfl

/-- `a`: the node's share of the fuel `n`.  `n = k + 1 + 1`: a successor each for `parseExpr_succ` and `parsePrimary_*`;
    `c ≤ k`: for the operand (if any); `m ≤ k + 1`: for the caller's `loop`. -/
theorem fuel_node {a m c n : Nat} (h : a + m ≤ n) (ha : c + 2 ≤ a) : ∃ k, n = k + 1 + 1 ∧ c ≤ k ∧ m ≤ k + 1 :=
  ⟨n - 2, by lia⟩

/-- Round trip in continuation form: what `loop` makes of `pe` and `rest`, `parseExpr` makes of `print pe ++ rest`.  `R` is
    arbitrary, so the lemma also serves the left operand of a `bin`, whose loop goes on shifting; the loop is GIVEN from fuel
    `m` on, so no monotonicity in the fuel is needed.  `fits`: left spine of `pe`; the `endsAt` hypothesis: its right edge.
    Fuel, as `parseTop` gives it, is three per token: an atom uses two (`parseExpr`, `parsePrimary`), `!` and `( )` a third for
    the operand's `loop` to return (`loop_done`: ≥ 1), a binary operator one for the `loop` step that shifts it and one for the
    right operand's `loop` to return. -/
theorem parseExpr_print_append (t : Table) : ∀ pe, wellParen t pe = true → ∀ ctx rest m R,
    fits t ctx pe = true → (headOp rest).all (endsAt t · pe) = true →
    (∀ n, m ≤ n → loop t n ctx pe rest = some R) →
    ∀ n, 3 * (print pe).length + m ≤ n → parseExpr t n ctx (print pe ++ rest) = some R := by
  intro pe
  induction pe with
  | atom a =>
    intro _ ctx rest m R _ _ hl n hn
    obtain ⟨n, rfl, _, hnm⟩ := fuel_node (c := 0) hn (Nat.le_succ 2)
    show parseExpr t (n + 1 + 1) ctx (Tok.atom a :: rest) = some R
    rw [parseExpr_succ, parsePrimary_atom]
    exact hl _ hnm
  | not e ih =>
    intro hw ctx rest m R _ he hl n hn
    rw [wellParen, Bool.and_eq_true] at hw
    obtain ⟨hc, hee⟩ := all_and he
    obtain ⟨n, rfl, hne, hnm⟩ := fuel_node (c := 3 * (print e).length + 1) hn (Nat.le_refl _)
    show parseExpr t (n + 1 + 1) ctx (Tok.not :: (print e ++ rest)) = some R
    rw [parseExpr_succ, parsePrimary_not,
      ih hw.1 (some t.not) rest 1 (e, rest) hw.2 hee (fun k hk => loop_done t hk hc) n hne]
    exact hl _ hnm
  | paren e ih =>
    intro hw ctx rest m R _ _ hl n hn
    rw [wellParen] at hw
    rw [print, List.length_append, List.length_cons] at hn
    obtain ⟨n, rfl, hne, hnm⟩ := fuel_node (c := 3 * (print e).length + 1) hn (Nat.le_add_right _ 3)
    have h1 : parseExpr t n none (print e ++ ([Tok.rp] ++ rest)) = some (e, Tok.rp :: rest) :=
      ih hw none (Tok.rp :: rest) 1 (e, Tok.rp :: rest) (fits_none t e) rfl
        (fun k hk => loop_done t hk rfl) n hne
    show parseExpr t (n + 1 + 1) ctx (Tok.lp :: (print e ++ [Tok.rp] ++ rest)) = some R
    rw [parseExpr_succ, parsePrimary_lp, List.append_assoc, h1]
    exact hl _ hnm
  | bin op l r ihl ihr =>
    intro hw ctx rest m R hf he hl n hn
    simp only [wellParen, Bool.and_eq_true] at hw
    obtain ⟨⟨⟨hwl, hwr⟩, hel⟩, hfr⟩ := hw
    rw [fits, Bool.and_eq_true, Bool.not_eq_true'] at hf
    obtain ⟨hc, her⟩ := all_and he
    rw [print_bin, List.length_append, List.length_cons] at hn
    rw [print_bin, List.append_assoc, List.cons_append]
    -- the left operand's loop shifts `op` (1), parses `r` (its fuel `+ 1`) and goes on as the caller's loop (`m`)
    refine ihl hwl ctx _ (3 * (print r).length + 1 + m + 1) R hf.2 ?_ (fun k hk => ?_) n (by omega)
    · rw [headOp_opTok]; exact hel
    obtain ⟨k, rfl⟩ := Nat.exists_eq_add_of_le' (Nat.le_trans (Nat.le_add_left 1 _) hk)
    have hk : 3 * (print r).length + 1 + m ≤ k := Nat.le_of_succ_le_succ hk
    rw [loop_shift t k ctx l op _ hf.1 (ihr hwr (some (t.lvl op)) rest 1 (r, rest) hfr her
      (fun j hj => loop_done t hj hc) k (Nat.le_trans (Nat.le_add_right _ m) hk))]
    exact hl _ (Nat.le_trans (Nat.le_add_left m _) hk)

/-! ### Transfer of `wellParen` between tables -/

/-- NB = no `bin` node: what `!` and a right operand take without parentheses. -/
def isNB : PE → Bool
  | .bin _ _ _ => false
  | _ => true

theorem fits_of_isNB (t : Table) (ctx) (e : PE) (h : isNB e = true) : fits t ctx e = true := by
  cases e with
  | bin => cases h
  | _ => rfl

theorem isBin_of_isNB (o : Bool) (e : PE) (h : isNB e = true) : isBin o e = false := by
  cases e with
  | bin => cases h
  | _ => rfl

theorem eq_of_isBin_not {o o2 : Bool} {l r : PE} (h : isBin (!o) (.bin o2 l r) = false) : o2 = o := by
  cases o <;> cases o2 <;> first | rfl | cases h

/-- `notTight`: a pending `!` is reduced before a binary operator is shifted; `leftAssoc`: `stop` at equal level is `left`. -/
structure NotTightLeftAssoc (c : Table) : Prop where
  notTight : ∀ op, stop c (some c.not) op = true
  leftAssoc : ∀ op, stop c (some (c.lvl op)) op = true

theorem docTable_ok : NotTightLeftAssoc docTable :=
  ⟨fun op => by cases op <;> decide, fun op => by cases op <;> decide⟩

theorem not_child_NB {c : Table} (hc : NotTightLeftAssoc c) (e : PE)
    (h : fits c (some c.not) e = true) : isNB e = true := by
  cases e with
  | bin o l r => rw [fits, hc.notTight o] at h; cases h
  | _ => rfl

theorem right_child_NB {c : Table} (hc : NotTightLeftAssoc c) (o : Bool) (r : PE)
    (h : fits c (some (c.lvl o)) r = true) (hm : isBin (!o) r = false) : isNB r = true := by
  cases r with
  | bin o2 l2 r2 =>
    obtain rfl := eq_of_isBin_not hm
    rw [fits, hc.leftAssoc o2] at h
    cases h
  | _ => rfl

/-- The second conjunct is what the induction needs of a left operand: the rules open at the right edge of `pe` end before
    every operator that `noMix` lets follow `pe` (a `!` by `notTight`, the root's own operator by `leftAssoc`). -/
theorem wellParen_transfer {d c : Table} (hd : NotTightLeftAssoc d) (hc : NotTightLeftAssoc c) :
    ∀ pe, wellParen d pe = true → noMix pe = true →
      wellParen c pe = true ∧ ∀ op, isBin (!op) pe = false → endsAt c op pe = true := by
  intro pe
  induction pe with
  | atom a => exact fun _ _ => ⟨rfl, fun _ _ => rfl⟩
  | paren e ih => exact fun hw hm => ⟨(ih hw hm).1, fun _ _ => rfl⟩
  | not e ih =>
    intro hw hm
    rw [wellParen, Bool.and_eq_true] at hw
    have hnb := not_child_NB hd e hw.2
    obtain ⟨hwe, hee⟩ := ih hw.1 hm
    refine ⟨?_, fun op _ => ?_⟩
    · rw [wellParen, hwe, fits_of_isNB c _ e hnb]; rfl
    · rw [endsAt, hc.notTight op, hee op (isBin_of_isNB _ e hnb)]; rfl
  | bin op l r ihl ihr =>
    intro hw hm
    simp only [wellParen, noMix, Bool.and_eq_true, Bool.not_eq_true'] at hw hm
    obtain ⟨⟨⟨hwl, hwr⟩, _⟩, hfr⟩ := hw
    obtain ⟨⟨⟨hml, hmr⟩, hnl⟩, hnr⟩ := hm
    obtain ⟨hwl, hel⟩ := ihl hwl hnl
    obtain ⟨hwr, her⟩ := ihr hwr hnr
    refine ⟨?_, fun o ho => ?_⟩
    · rw [wellParen, hwl, hwr, hel op hml, fits_of_isNB c _ r (right_child_NB hd op r hfr hmr)]; rfl
    · obtain rfl := eq_of_isBin_not ho
      rw [endsAt, hc.leftAssoc, her _ hmr]; rfl

end BfeVerif.C16
