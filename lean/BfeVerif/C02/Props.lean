import BfeVerif.C02.Proofs
/-!
  C02 — hash based / sticky selection is deterministic, weight-partitioned and independent of the
  configuration order.  `walk` is the loop shared by `stickyBalance` and `subClusterBalance`
  (`value -= weight; if value < 0`).  Every statement holds for an arbitrary hash value `h`
  (murmur3 is not assumed to have any property).
  `walkPos`, `cum`, `Sorted`, `subCands` in the statements are defined in Proofs.lean.
-/
namespace BfeVerif.C02

/-- ties `walkPos` (of `C02_partition`, `C02_share`) to the model's `walk` -/
theorem C02_walk_is_walkPos {α : Type} (cs : List (α × Int)) (v : Int) :
    walk cs v = (walkPos cs v).bind fun i => cs[i]?.map (·.1) := walk_eq_walkPos cs v

/-- **Partition**: with positive weights, target `i` is chosen exactly for the residues in `[c_i, c_{i+1})`. -/
theorem C02_partition {α : Type} (cs : List (α × Int)) (hpos : ∀ p ∈ cs, 0 < p.2) (r : Int) (hr : 0 ≤ r) (i : Nat) :
    walkPos cs r = some i ↔ i < cs.length ∧ cum cs i ≤ r ∧ r < cum cs (i + 1) :=
  walkPos_iff cs hpos r hr i

/-- **Exact share**: out of the `W` residues `0..W-1`, exactly `w_i` select target `i`. -/
theorem C02_share {α : Type} (cs : List (α × Int)) (hpos : ∀ p ∈ cs, 0 < p.2) (i : Nat) (hi : i < cs.length) :
    ((List.range (sumW cs).toNat).filter (fun r : Nat => decide (walkPos cs (r : Int) = some i))).length
      = (cs[i].2).toNat := by
  obtain ⟨a, ha⟩ := Int.eq_ofNat_of_zero_le (cum_nonneg cs hpos i)
  obtain ⟨b, hb⟩ := Int.eq_ofNat_of_zero_le (cum_nonneg cs hpos (i + 1))
  have hc1 := cum_succ cs i hi
  have hle := cum_le_total cs hpos (i + 1)
  -- by the partition theorem these are the naturals in `[c_i, c_{i+1})`, and `c_{i+1} ≤ W`
  have hcongr : ∀ r ∈ List.range (sumW cs).toNat,
      decide (walkPos cs (r : Int) = some i) = decide (a ≤ r ∧ r < b) := by
    intro r _
    rw [decide_eq_decide, walkPos_iff cs hpos r (Int.natCast_nonneg r) i, ha, hb]
    omega
  rw [List.filter_congr hcongr, filter_range_interval (by omega)]
  omega

/-- **Totality**: the `/* never come here */` return of `stickyBalance` is dead. -/
theorem C02_total {α : Type} (cs : List (α × Int)) (r : Int) (hr : 0 ≤ r) (hlt : r < sumW cs) :
    ∃ k, walk cs r = some k := walk_total cs r hr hlt

/-- The subtractive walk of the code equals the interval search the driver uses as oracle. -/
theorem C02_walk_eq_interval {α : Type} (cs : List (α × Int)) (r : Int) (hr : 0 ≤ r) :
    walk cs r = intervalPick cs 0 r := by
  rw [← intervalPick_add_eq_walk cs 0 r hr, Int.zero_add]

/-- `sort.Sort` is unstable: with distinct keys its result is determined all the same. -/
theorem C02_sorted_unique {α : Type} (key : α → String) (l s : List α) (hp : s.Perm l)
    (hs : Sorted key s) (hnd : (l.map key).Nodup) : s = isort key l :=
  sorted_unique key s (isort key l) (hp.trans (isort_perm key l).symm) hs (isort_sorted key l)
    ((hp.map key).nodup_iff.mpr hnd)

/-- **Order independence (instances)**: configurations listing the same backends (distinct `AddrInfo`) in
    different orders select the same backend. -/
theorem C02_sticky_perm (bs1 bs2 : List Bk) (h : Nat) (hperm : bs1.Perm bs2) (hnd : (bs1.map (·.addr)).Nodup) :
    sticky bs1 h = sticky bs2 h :=
  congrArg (stickyOn · h) (isort_eq_of_perm Bk.addr hperm hnd)

/-- the same for whatever sorted lists the (unstable) sort produces -/
theorem C02_sticky_order_independent (bs1 bs2 s1 s2 : List Bk) (h : Nat)
    (hperm : bs1.Perm bs2) (hnd : (bs1.map (·.addr)).Nodup)
    (hp1 : s1.Perm bs1) (hs1 : Sorted (·.addr) s1) (hp2 : s2.Perm bs2) (hs2 : Sorted (·.addr) s2) :
    stickyOn s1 h = stickyOn s2 h :=
  congrArg (stickyOn · h) (sorted_unique Bk.addr s1 s2 (hp1.trans (hperm.trans hp2.symm)) hs1 hs2
    ((hp1.map _).nodup_iff.mpr hnd))

/-- `stickyBalance` never reaches its "stickyBalance fail" return, reports "all backend is down" exactly when
    no backend is available with weight > 0, and otherwise returns the backend whose interval contains `h mod W`. -/
theorem C02_sticky_spec (s : List Bk) (h : Nat) :
    (stickyOn s h = .down ↔ candidates s = []) ∧ stickyOn s h ≠ .unreachable ∧
    (candidates s ≠ [] →
      ∃ b, stickyOn s h = .ok b ∧
        intervalPick (candidates s) 0 ((h : Int) % sumW (candidates s)) = some b) := by
  unfold stickyOn
  by_cases he : candidates s = []
  · simp [he]
  · obtain ⟨hr0, k, _, hk, _⟩ := walk_getHash_some_mem _ (candidates_pos s) he h
    have hemp : (candidates s).isEmpty = false := by simpa using he
    -- the `match` reduces by `hk`; the constructors differ
    simp only [hemp, hk, he]
    exact ⟨⟨fun hd => (nomatch hd), False.elim⟩, fun hu => (nomatch hu),
      fun _ => ⟨k, rfl, by rw [← hk, C02_walk_eq_interval _ _ hr0]; rfl⟩⟩

/-- **Partition (sub-clusters)**: after `Init`, `subClusterBalance` (with its `single` shortcut) returns what the
    walk over the positive-weight sub-clusters in name order selects; it never errs. -/
theorem C02_sub_partition (sorted : List Sub) (g : Gslb) (hg : gslbInitOn sorted = some g) (h : Nat) :
    ∃ s, subBalance g h = some s ∧ walk (subCands sorted) (getHash h g.total) = some s ∧ 0 < s.w ∧ s ∈ sorted := by
  obtain ⟨htot, rfl⟩ := gslbInitOn_eq_some hg
  rw [← sumW_subCands] at htot
  obtain ⟨_, s, w, hs, hw⟩ := walk_getHash_some_mem _ (subCands_pos sorted) (fun h0 => htot (h0 ▸ rfl)) h
  rw [sumW_subCands] at hs htot
  obtain ⟨hmem, hpos, _⟩ := mem_cands hw
  refine ⟨s, ?_, hs, of_decide_eq_true hpos, hmem⟩
  rw [subBalance, if_neg htot]
  split
  · -- `single`: the only positive-weight sub-cluster is both the walk's answer and the one `avail` indexes
    rename_i hsingle
    obtain ⟨x, hx, hav⟩ := gslbInitOn_single hg hsingle
    rw [hav]
    have : (s, w) ∈ [(x, x.w)] := by rwa [subCands, hx] at hw
    rw [(Prod.mk.inj (List.mem_singleton.mp this)).1]
  · exact walkSub_of_walk sorted _ none s hs

/-- **Order independence (sub-clusters)**: `Init` builds the same balancer from any iteration order of the
    configuration map (whose keys are the names). -/
theorem C02_gslb_order_independent (c1 c2 : List Sub) (hperm : c1.Perm c2) (hnd : (c1.map (·.name)).Nodup) :
    gslbInit c1 = gslbInit c2 := by
  rw [gslbInit, isort_eq_of_perm Sub.name hperm hnd]
  rfl

/-- The decision table of `getHashKey`, one line per strategy. -/
theorem C02_key_table (r : ReqKeys) :
    rawKey .clientIpOnly r = r.ip ∧ rawKey .requestURI r = r.uri ∧
    rawKey .clientIdOnly r = (keyByHeader r).getD [] ∧
    ((keyByHeader r).getD [] = [] → rawKey .clientIdPreferred r = r.ip) ∧
    ((keyByHeader r).getD [] ≠ [] → rawKey .clientIdPreferred r = (keyByHeader r).getD []) := by
  refine ⟨rfl, rfl, rfl, ?_, ?_⟩
  · intro h; simp [rawKey, h]
  · intro h
    have : ((keyByHeader r).getD []).length ≠ 0 := fun h0 => h (List.eq_nil_of_length_eq_zero h0)
    simp [rawKey, this]

/-- `ClientIdPreferred` ("use CLIENTID to hash, otherwise use CLIENTIP") at full strength: the id may be absent
    **or empty**. -/
def PreferredFallsBack : Prop :=
  ∀ r : ReqKeys, (keyByHeader r).getD [] = [] → r.ip ≠ [] → hashKey .clientIdPreferred r = some r.ip

/-- holds because `getHashKey` tests `len(hashKey) == 0` (fixes/C02-preferred-empty-id.md): a test `hashKey == nil`
    fails it on a request carrying the id cookie with an EMPTY value (`[]byte("")` is non-nil), the request of
    corpus/C02/witness.ops. -/
theorem C02_preferred_fallback : PreferredFallsBack := by
  intro r h hip
  unfold hashKey
  have : r.ip.length ≠ 0 := fun h0 => hip (List.eq_nil_of_length_eq_zero h0)
  simp [rawKey, h, this]

/-- that request: empty id cookie, known client IP -/
example : hashKey .clientIdPreferred ⟨[], true, some [], [1, 2, 3, 4], []⟩ = some [1, 2, 3, 4] := by decide

/-- The key is a function of the strategy's own inputs only. -/
theorem C02_key_depends_only (r r' : ReqKeys) :
    (r.ip = r'.ip → hashKey .clientIpOnly r = hashKey .clientIpOnly r') ∧
    (r.uri = r'.uri → hashKey .requestURI r = hashKey .requestURI r') ∧
    (keyByHeader r = keyByHeader r' → hashKey .clientIdOnly r = hashKey .clientIdOnly r') ∧
    (keyByHeader r = keyByHeader r' → r.ip = r'.ip → hashKey .clientIdPreferred r = hashKey .clientIdPreferred r') :=
  -- in the first three lines `h` is the equation of raw keys once `rawKey` is unfolded
  ⟨fun h => hashKey_congr h, fun h => hashKey_congr h, fun h => hashKey_congr (congrArg (·.getD []) h),
    fun h h' => hashKey_congr (by simp only [rawKey, h, h'])⟩

/-! ### non-vacuity -/
def exCs : List (String × Int) := [("a", 3), ("b", 1), ("c", 2)]
example : (List.range 6).map (fun r : Nat => walk exCs r) =
    [some "a", some "a", some "a", some "b", some "c", some "c"] := by decide +kernel
example : walk exCs 6 = none := by decide
def exBs : List Bk := [⟨"10.0.0.2:80", 200, true⟩, ⟨"10.0.0.1:80", 100, true⟩, ⟨"10.0.0.3:80", 300, false⟩]
example : sticky exBs 150 = .ok ⟨"10.0.0.2:80", 200, true⟩ := by decide +kernel
example : sticky exBs.reverse 150 = sticky exBs 150 := by decide +kernel
example : (gslbInit [⟨"b", 30⟩, ⟨"a", 70⟩, ⟨"z", 0⟩]).map (fun g => (subBalance g 69, subBalance g 70)) =
    some (some ⟨"a", 70⟩, some ⟨"b", 30⟩) := by decide +kernel

end BfeVerif.C02
