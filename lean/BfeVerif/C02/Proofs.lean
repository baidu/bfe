import BfeVerif.C02.Model
/-!
  C02 — proofs.  The walk answers on every residue `0 ≤ r < sumW cs` (`walk_total`), and with positive weights it answers
  position `i` exactly on the residues in `[cum cs i, cum cs (i+1))` (`walkPos_iff`).  `isort` gives a sorted permutation,
  and with distinct keys there is only one (`sorted_unique`), so whatever `sort.Sort` does it yields `isort`'s list.
  `walkSub`, the loop of `subClusterBalance`, is `walk` over `subCands` (`walkSub_of_walk`).
-/
namespace BfeVerif.C02

/-- the walk, returning the position instead of the element -/
def walkPos {α : Type} : List (α × Int) → Int → Option Nat
  | [], _ => none
  | (_, w) :: rest, v => if v - w < 0 then some 0 else (walkPos rest (v - w)).map (· + 1)

/-- cumulative weight `c_i` of the first `i` entries -/
def cum {α : Type} (cs : List (α × Int)) (i : Nat) : Int := sumW (cs.take i)

theorem sumW_nil {α : Type} : sumW ([] : List (α × Int)) = 0 := rfl

variable {α : Type}

theorem sumW_cons (p : α × Int) (cs : List (α × Int)) : sumW (p :: cs) = p.2 + sumW cs :=
  List.sum_cons

theorem sumW_append (a b : List (α × Int)) : sumW (a ++ b) = sumW a + sumW b := by
  simp only [sumW, List.map_append, List.sum_append]

theorem sumW_nonneg (cs : List (α × Int)) (hpos : ∀ p ∈ cs, 0 < p.2) : 0 ≤ sumW cs := by
  induction cs with
  | nil => exact Int.le_refl 0
  | cons p cs ih =>
    have := hpos p List.mem_cons_self
    have := ih fun q hq => hpos q (List.mem_cons_of_mem _ hq)
    rw [sumW_cons]
    omega

theorem sumW_pos (cs : List (α × Int)) (hpos : ∀ p ∈ cs, 0 < p.2) (hne : cs ≠ []) : 0 < sumW cs := by
  obtain ⟨p, cs, rfl⟩ := List.exists_cons_of_ne_nil hne
  have := hpos p List.mem_cons_self
  have := sumW_nonneg cs fun q hq => hpos q (List.mem_cons_of_mem _ hq)
  rw [sumW_cons]
  omega

theorem cum_zero (cs : List (α × Int)) : cum cs 0 = 0 := rfl

theorem cum_succ_cons (p : α × Int) (cs : List (α × Int)) (j : Nat) :
    cum (p :: cs) (j + 1) = p.2 + cum cs j := sumW_cons p _

theorem cum_succ (cs : List (α × Int)) (i : Nat) (hi : i < cs.length) :
    cum cs (i + 1) = cum cs i + cs[i].2 := by
  rw [cum, List.take_add_one, sumW_append, List.getElem?_eq_getElem hi]
  -- `sumW [x]` is `x.2 + 0`
  exact congrArg _ (Int.add_zero _)

theorem cum_nonneg (cs : List (α × Int)) (hpos : ∀ p ∈ cs, 0 < p.2) (i : Nat) : 0 ≤ cum cs i :=
  sumW_nonneg _ fun p hp => hpos p (List.mem_of_mem_take hp)

theorem cum_le_total (cs : List (α × Int)) (hpos : ∀ p ∈ cs, 0 < p.2) (i : Nat) :
    cum cs i ≤ sumW cs := by
  have h := sumW_append (cs.take i) (cs.drop i)
  rw [List.take_append_drop] at h
  have := sumW_nonneg (cs.drop i) fun p hp => hpos p (List.mem_of_mem_drop hp)
  unfold cum
  omega

theorem walk_eq_walkPos (cs : List (α × Int)) (v : Int) :
    walk cs v = (walkPos cs v).bind fun i => cs[i]?.map (·.1) := by
  induction cs generalizing v with
  | nil => rfl
  | cons p cs ih =>
    rw [walk, walkPos]
    split
    · rfl
    · rw [ih]
      cases walkPos cs (v - p.2) <;> rfl

theorem walk_mem (cs : List (α × Int)) (v : Int) (k : α) (h : walk cs v = some k) :
    ∃ w, (k, w) ∈ cs := by
  rw [walk_eq_walkPos] at h
  obtain ⟨i, _, hi⟩ := Option.bind_eq_some_iff.mp h
  obtain ⟨p, hp, rfl⟩ := Option.map_eq_some_iff.mp hi
  exact ⟨p.2, List.mem_of_getElem? hp⟩

theorem walkPos_iff (cs : List (α × Int)) (hpos : ∀ p ∈ cs, 0 < p.2) (r : Int) (hr : 0 ≤ r) (i : Nat) :
    walkPos cs r = some i ↔ i < cs.length ∧ cum cs i ≤ r ∧ r < cum cs (i + 1) := by
  induction cs generalizing r i with
  | nil => simp [walkPos]
  | cons p cs ih =>
    have hpos' : ∀ q ∈ cs, 0 < q.2 := fun q hq => hpos q (List.mem_cons_of_mem _ hq)
    rw [walkPos, cum_succ_cons, List.length_cons]
    cases i with
    | zero =>
      rw [cum_zero, cum_zero]
      split
      · simp only [true_iff]; omega
      · simp only [Option.map_eq_some_iff, Nat.add_eq_zero_iff, Nat.one_ne_zero, and_false, exists_false, false_iff]
        omega
    | succ j =>
      have := cum_nonneg cs hpos' j
      rw [cum_succ_cons]
      split
      · simp only [Option.some.injEq, Nat.zero_ne_add_one, false_iff]; omega
      · simp only [Option.map_eq_some_iff, Nat.add_right_cancel_iff, exists_eq_right]
        rw [ih hpos' _ (by omega)]
        omega

/-- unlike `walkPos_iff` this needs no positive weights -/
theorem walkPos_total (cs : List (α × Int)) (r : Int) (hr : 0 ≤ r) (hlt : r < sumW cs) :
    ∃ i, walkPos cs r = some i ∧ i < cs.length := by
  induction cs generalizing r with
  | nil => exact absurd hlt (Int.not_lt.mpr hr)
  | cons p cs ih =>
    rw [walkPos]
    rw [sumW_cons] at hlt
    split
    · exact ⟨0, rfl, Nat.zero_lt_succ _⟩
    · obtain ⟨i, hi, hl⟩ := ih (r - p.2) (by omega) (by omega)
      exact ⟨i + 1, by rw [hi]; rfl, Nat.succ_lt_succ hl⟩

theorem intervalPick_add_eq_walk (cs : List (α × Int)) (acc v : Int) (hv : 0 ≤ v) :
    intervalPick cs acc (acc + v) = walk cs v := by
  induction cs generalizing acc v with
  | nil => rfl
  | cons p cs ih =>
    rw [walk, intervalPick]
    by_cases h : v - p.2 < 0
    · rw [if_pos h, if_pos (by omega)]
    · rw [if_neg h, if_neg (by omega), ← ih (acc + p.2) (v - p.2) (by omega)]
      congr 1
      omega

theorem walk_total (cs : List (α × Int)) (r : Int) (hr : 0 ≤ r) (hlt : r < sumW cs) :
    ∃ k, walk cs r = some k := by
  obtain ⟨i, hi, hl⟩ := walkPos_total cs r hr hlt
  exact ⟨cs[i].1, by rw [walk_eq_walkPos, hi, Option.bind_some, List.getElem?_eq_getElem hl]; rfl⟩

theorem walk_getHash_some_mem (cs : List (α × Int)) (hpos : ∀ p ∈ cs, 0 < p.2) (hne : cs ≠ []) (h : Nat) :
    0 ≤ getHash h (sumW cs) ∧ ∃ k w, walk cs (getHash h (sumW cs)) = some k ∧ (k, w) ∈ cs :=
  have hW := sumW_pos cs hpos hne
  have hr0 : 0 ≤ getHash h (sumW cs) := Int.emod_nonneg _ (Int.ne_of_gt hW)
  have ⟨k, hk⟩ := walk_total cs _ hr0 (Int.emod_lt_of_pos _ hW)
  ⟨hr0, k, (walk_mem cs _ k hk).elim fun w hw => ⟨w, hk, hw⟩⟩

theorem filter_range_interval {W a b : Nat} (hbW : b ≤ W) :
    ((List.range W).filter fun r => decide (a ≤ r ∧ r < b)).length = b - a := by
  have : ((List.range W).filter fun r => decide (a ≤ r ∧ r < b)).Perm (List.range' a (b - a)) :=
    (List.perm_ext_iff_of_nodup (List.nodup_range.filter _) List.nodup_range').mpr fun r => by
      rw [List.mem_filter, List.mem_range, List.mem_range'_1, decide_eq_true_eq]
      omega
  rw [this.length_eq, List.length_range']

def Sorted {α : Type} (key : α → String) (l : List α) : Prop := l.Pairwise fun x y => key x ≤ key y

/-- so that core's `merge` lemmas apply to `ins` -/
theorem ins_eq_merge (key : α → String) (x : α) (l : List α) :
    ins key x l = [x].merge l fun a b => decide (key a ≤ key b) := by
  induction l with
  | nil => exact (List.merge_right _).symm
  | cons y ys ih =>
    rw [ins, ih, List.cons_merge_cons, List.nil_merge]
    simp only [decide_eq_true_eq]

theorem ins_perm (key : α → String) (x : α) (l : List α) : (ins key x l).Perm (x :: l) :=
  ins_eq_merge key x l ▸ List.merge_perm_append _

theorem ins_sorted (key : α → String) (x : α) (l : List α) (h : Sorted key l) :
    Sorted key (ins key x l) := by
  rw [ins_eq_merge]
  -- `pairwise_merge` speaks of a `Bool`-valued order
  refine (List.pairwise_merge (le := fun a b => decide (key a ≤ key b))
    (fun _ _ _ hab hbc => decide_eq_true (String.le_trans (of_decide_eq_true hab) (of_decide_eq_true hbc)))
    (fun a b => ?_) [x] l (List.pairwise_singleton _ _) (h.imp decide_eq_true)).imp of_decide_eq_true
  rw [Bool.or_eq_true, decide_eq_true_eq, decide_eq_true_eq]
  exact String.le_total _ _

theorem ins_map {β : Type} {k : α → String} {k' : β → String} (f : α → β) (hk : ∀ x, k' (f x) = k x)
    (x : α) (l : List α) : (ins k x l).map f = ins k' (f x) (l.map f) := by
  rw [ins_eq_merge, ins_eq_merge,
    List.map_merge (s := fun a b => decide (k' a ≤ k' b)) fun a _ b _ => by rw [hk, hk]]
  rfl

theorem isort_cons (key : α → String) (x : α) (l : List α) :
    isort key (x :: l) = ins key x (isort key l) := rfl

theorem isort_perm (key : α → String) (l : List α) : (isort key l).Perm l := by
  induction l with
  | nil => exact .refl _
  | cons x xs ih => exact (ins_perm key x _).trans (ih.cons x)

theorem isort_sorted (key : α → String) (l : List α) : Sorted key (isort key l) := by
  induction l with
  | nil => exact .nil
  | cons x xs ih => exact ins_sorted key x _ ih

/-- for C03, whose sub-cluster list projects (`toSubs`) onto this one's -/
theorem isort_map {β : Type} (k : α → String) (k' : β → String) (f : α → β) (hk : ∀ x, k' (f x) = k x)
    (l : List α) : (isort k l).map f = isort k' (l.map f) := by
  induction l with
  | nil => rfl
  | cons x xs ih => rw [isort_cons, ins_map f hk, ih, List.map_cons, isort_cons]

/-- both lists are strictly sorted, and a strict order is antisymmetric -/
theorem sorted_unique (key : α → String) (l1 l2 : List α) (hp : l1.Perm l2)
    (h1 : Sorted key l1) (h2 : Sorted key l2) (hnd : (l1.map key).Nodup) : l1 = l2 :=
  List.Perm.eq_of_pairwise (le := fun a b => key a ≤ key b ∧ key a ≠ key b)
    (fun _ _ _ _ hab hba => absurd (String.le_antisymm hab.1 hba.1) hab.2)
    (h1.and (List.pairwise_map.mp hnd)) (h2.and (List.pairwise_map.mp ((hp.map key).nodup_iff.mp hnd))) hp

theorem isort_eq_of_perm (key : α → String) {l1 l2 : List α} (hp : l1.Perm l2)
    (hnd : (l1.map key).Nodup) : isort key l1 = isort key l2 :=
  sorted_unique key _ _ ((isort_perm key l1).trans (hp.trans (isort_perm key l2).symm))
    (isort_sorted key l1) (isort_sorted key l2) (((isort_perm key l1).map key).nodup_iff.mpr hnd)

theorem posW_cons (s : Sub) (l : List Sub) : posW (s :: l) = if 0 < s.w then s :: posW l else posW l := by
  simp only [posW, List.filter_cons, decide_eq_true_eq]

/-- what the loop of `subClusterBalance` effectively walks: the positive weights, in list order -/
def subCands (subs : List Sub) : List (Sub × Int) := (posW subs).map fun s => (s, s.w)

/-- the shape of `candidates`, `subCands` and the candidate list of C03's `stickyBe` -/
theorem mem_cands {β : Type} {l : List β} {t : β → Bool} {wt : β → Int} {p : β × Int}
    (hp : p ∈ (l.filter t).map fun b => (b, wt b)) : p.1 ∈ l ∧ t p.1 = true ∧ p.2 = wt p.1 := by
  obtain ⟨b, hb, rfl⟩ := List.mem_map.mp hp
  exact ⟨(List.mem_filter.mp hb).1, (List.mem_filter.mp hb).2, rfl⟩

theorem cands_pos {β : Type} {l : List β} {t : β → Bool} {wt : β → Int} (hpos : ∀ b, t b = true → 0 < wt b) :
    ∀ p ∈ (l.filter t).map fun b => (b, wt b), 0 < p.2 := fun _ hp =>
  have ⟨_, ht, hw⟩ := mem_cands hp
  hw ▸ hpos _ ht

theorem candidates_pos (s : List Bk) : ∀ p ∈ candidates s, 0 < p.2 :=
  cands_pos fun _ ht => of_decide_eq_true (Bool.and_eq_true_iff.mp ht).2

theorem subCands_pos (subs : List Sub) : ∀ p ∈ subCands subs, 0 < p.2 :=
  cands_pos fun _ => of_decide_eq_true

theorem sumW_subCands (subs : List Sub) : sumW (subCands subs) = ((posW subs).map (·.w)).sum := by
  rw [sumW, subCands, List.map_map]
  rfl

theorem walkSub_of_walk (l : List Sub) (r : Int) (last : Option Sub) (s : Sub)
    (h : walk (subCands l) r = some s) : walkSub l r last = some s := by
  induction l generalizing r last with
  | nil => exact nomatch h
  | cons x rest ih =>
    rw [subCands, posW_cons] at h
    rw [walkSub]
    by_cases hx : 0 < x.w
    · rw [if_pos hx, List.map_cons, walk] at h
      rw [if_neg (Int.not_le.mpr hx)]
      split
      · rwa [if_pos ‹_›] at h
      · rw [if_neg ‹_›] at h
        exact ih _ _ h
    · rw [if_neg hx] at h
      rw [if_pos (Int.not_lt.mp hx)]
      exact ih r _ h

theorem lastPos_of_posW_nil {l : List Sub} (h : posW l = []) (i acc : Nat) : lastPos l i acc = acc := by
  induction l generalizing i with
  | nil => rfl
  | cons s rest ih =>
    rw [posW_cons] at h
    split at h
    · exact nomatch h
    · rw [lastPos, if_neg ‹_›, ih h]

theorem lastPos_append (pre : List Sub) {s : Sub} {post : List Sub} (hs : 0 < s.w) (hp : posW post = [])
    (i acc : Nat) : lastPos (pre ++ s :: post) i acc = i + pre.length := by
  induction pre generalizing i acc with
  | nil => rw [List.nil_append, lastPos, if_pos hs, lastPos_of_posW_nil hp]; rfl
  | cons a pre ih => rw [List.cons_append, lastPos, ih, List.length_cons, Nat.add_assoc, Nat.add_comm 1]

/-- in `single` mode `avail` indexes the only positive-weight sub-cluster -/
theorem getElem?_lastPos_single {l : List Sub} {x : Sub} (h : posW l = [x]) : l[lastPos l 0 0]? = some x := by
  -- nothing about `pre` is needed: `lastPos` keeps the LAST positive position
  obtain ⟨pre, post, rfl, _, hx, hp⟩ := List.filter_eq_cons_iff.mp h
  rw [lastPos_append pre (of_decide_eq_true hx) hp, Nat.zero_add, List.getElem?_append_right (Nat.le_refl _),
    Nat.sub_self]
  rfl

theorem gslbInitOn_eq_some {sorted : List Sub} {g : Gslb} (hg : gslbInitOn sorted = some g) :
    ((posW sorted).map (·.w)).sum ≠ 0 ∧
    g = { subs := sorted, total := ((posW sorted).map (·.w)).sum, single := (posW sorted).length == 1,
          avail := lastPos sorted 0 0 } := by
  rw [gslbInitOn] at hg
  split at hg
  · exact nomatch hg
  · exact ⟨‹_›, (Option.some.inj hg).symm⟩

theorem gslbInitOn_single {sorted : List Sub} {g : Gslb} (hg : gslbInitOn sorted = some g) (hs : g.single = true) :
    ∃ x, posW sorted = [x] ∧ sorted[g.avail]? = some x := by
  obtain ⟨_, rfl⟩ := gslbInitOn_eq_some hg
  obtain ⟨x, hx⟩ := List.length_eq_one_iff.mp (eq_of_beq hs)
  exact ⟨x, hx, getElem?_lastPos_single hx⟩

theorem hashKey_congr {s : Strategy} {r r' : ReqKeys} (h : rawKey s r = rawKey s r') :
    hashKey s r = hashKey s r' := by
  unfold hashKey
  rw [h]

end BfeVerif.C02
