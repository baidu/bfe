/-!
  C41 — how the ClientHello reaches `readClientHello`: `(*Conn).readHandshake` (bfe_tls/conn.go) appends the payloads of
  successive handshake records to the buffer `hand` until the 4-byte header and the declared body are there, and hands
  out exactly those bytes.  Core-only.
-/
namespace BfeVerif.C41

/-- the 24-bit length in bytes 1..3 of a handshake header -/
def declLen (b : List UInt8) : Nat :=
  match b.take 4 with
  | [_, x, y, z] => x.toNat * 65536 + y.toNat * 256 + z.toNat
  | _ => 0

/-- `hand` holds a complete message: return it and what stays buffered -/
def complete (hand : List UInt8) : Option (List UInt8 × List UInt8) :=
  if 4 ≤ hand.length ∧ 4 + declLen hand ≤ hand.length then
    some (hand.take (4 + declLen hand), hand.drop (4 + declLen hand))
  else none

/-- `readHandshake` over the payloads of the handshake records still to come -/
def readHandshake : List (List UInt8) → List UInt8 → Option (List UInt8 × List UInt8)
  | [], hand => complete hand
  | r :: rs, hand =>
    match complete hand with
    | some x => some x
    | none => readHandshake rs (hand ++ r)

theorem declLen_prefix (hand x : List UInt8) (h : 4 ≤ hand.length) : declLen (hand ++ x) = declLen hand := by
  unfold declLen
  rw [List.take_append_of_le_length h]

theorem complete_append {msg : List UInt8} (tail : List UInt8) (hm : 4 ≤ msg.length)
    (hw : msg.length = 4 + declLen msg) : complete (msg ++ tail) = some (msg, tail) := by
  unfold complete
  rw [declLen_prefix msg tail hm, ← hw, if_pos ⟨by rw [List.length_append]; omega, by simp⟩,
    List.take_left' rfl, List.drop_left' rfl]

theorem complete_of_prefix {hand x msg tail : List UInt8} (hm : 4 ≤ msg.length) (hw : msg.length = 4 + declLen msg)
    (he : hand ++ x = msg ++ tail) {m r : List UInt8} (hc : complete hand = some (m, r)) : m = msg := by
  unfold complete at hc
  split at hc
  · rename_i hcond
    have hd : declLen hand = declLen msg := by
      rw [← declLen_prefix hand x hcond.1, he, declLen_prefix msg tail hm]
    have hle : msg.length ≤ hand.length := by rw [hw, ← hd]; exact hcond.2
    cases hc
    rw [hd, ← hw, ← List.take_append_of_le_length hle (l₂ := x), he, List.take_left' rfl]
  · cases hc

end BfeVerif.C41
