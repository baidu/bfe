import BfeVerif.C41.Model
/-! Lemmas for C41 (core Lean only): what a successful result of each function of the negotiation model (Model.lean)
    guarantees. -/
namespace BfeVerif.C41
open BfeVerif.Generated.C41

/-- what the grade demands of the protocol version (ssllabs rule quoted in common.go) -/
def GradeAllows (grade : String) (v : Nat) : Prop :=
  (grade = gradeA → versionTLS10 ≤ v) ∧ (grade = gradeAPlus → versionTLS12 ≤ v)

/-- the client-certificate part of the resumption decision -/
def ClientCertOk (clientAuth : Nat) (st : Session) : Prop :=
  ((clientAuth = requireAnyClientCert ∨ clientAuth = requireAndVerifyClientCert) → st.hasCerts = true) ∧
  (clientAuth = noClientCert → st.hasCerts = false)

/-- the client's ECC extensions, where present, are compatible with the server's curves / point format
    (RFC 4492 §4: a client that sends neither extension accepts any curve; not under SSL 3.0) -/
def EccCompat (cfg : Config) (h : Hello) (v : Nat) : Prop :=
  (supportedCurveOf cfg h = true ∨ h.curves = []) ∧ (supportedPointOf h = true ∨ h.points = []) ∧
  ((h.curves = [] ∨ h.points = []) → versionSSL30 < v)

variable {cfg : Config} {rule : Option Rule} {h : Hello} {lk : Lookups} {p : Params} {st : Session}
  {v ver ca id : Nat} {e ec ch : Bool} {rc : RC4Mode} {s suite : Suite} {sup : List Nat}
  {try_ : Nat → Option (Suite × Nat)} {sel : Option (Suite × Nat × Nat)} {Q : Suite → Prop}

/-- one step along a chain of `if bad then error else ...`; unified against the head `ite` only, where a `split` would
    simplify the whole chain at every step -/
theorem ite_error_eq_ok {ε α : Type} {c : Prop} [Decidable c] {e : ε} {x : Except ε α} {a : α}
    (h : (if c then .error e else x) = .ok a) : ¬ c ∧ x = .ok a := by
  split at h
  · cases h
  · exact ⟨‹_›, h⟩

theorem mutualVersion_eq_some_iff {x : Nat} :
    mutualVersion cfg x = some v ↔ cfg.minVersion ≤ x ∧ v = min x cfg.maxVersion := by
  unfold mutualVersion
  rw [Option.ite_none_left_eq_some, Nat.not_lt]
  refine and_congr_right fun _ => ?_
  split
  · rw [Nat.min_eq_right (Nat.le_of_lt ‹_›), Option.some.injEq, eq_comm]
  · rw [Nat.min_eq_left (Nat.not_lt.mp ‹_›), Option.some.injEq, eq_comm]

theorem checkVersionGrade_spec {v' : Nat} {g : String} (h : checkVersionGrade v g = some v') :
    v' = v ∧ GradeAllows g v := by
  simp only [checkVersionGrade, Bool.and_eq_true, beq_iff_eq, decide_eq_true_eq, Option.ite_none_left_eq_some,
    not_and, Nat.not_lt, Option.some.injEq] at h
  obtain ⟨hA, hAPlus, rfl⟩ := h
  exact ⟨rfl, hA, hAPlus⟩

theorem lookupSuite_spec (h : lookupSuite id = some s) : s ∈ table ∧ s.id = id :=
  ⟨List.mem_of_find?_eq_some h, by simpa using List.find?_some h⟩

theorem tryLoop_spec {i j : Nat} (h : tryLoop id ver e ec ch rc sup i = some (s, j)) :
    id ∈ sup ∧ s ∈ table ∧ s.id = id ∧ suiteOk s ver e ec ch rc = true := by
  induction sup generalizing i with
  | nil => cases h
  | cons a rest ih =>
    have continue_ {i} h := (ih (i := i) h).imp_left (List.mem_cons_of_mem a)
    unfold tryLoop at h
    split at h
    · rename_i hid
      split at h
      · exact continue_ h
      · rename_i cand hl
        split at h
        · rename_i hok
          cases h
          exact ⟨by simp [beq_iff_eq.mp hid], (lookupSuite_spec hl).1, (lookupSuite_spec hl).2, hok⟩
        · exact continue_ h
    · exact continue_ h

theorem tryCipherSuite_spec {j : Nat} (h : tryCipherSuite id sup ver e ec ch rc = some (s, j)) :
    id ∈ sup ∧ s ∈ table ∧ s.id = id ∧ suiteOk s ver e ec ch rc = true :=
  tryLoop_spec h

theorem mem_suites_of_mem_preference_supported (hp : id ∈ preferenceList cfg h)
    (hs : id ∈ supportedList cfg h) : id ∈ h.suites ∧ id ∈ cfg.cipherSuites := by
  unfold preferenceList at hp
  unfold supportedList at hs
  cases hps : cfg.preferServer <;> simp only [hps, if_true, Bool.false_eq_true, if_false] at hp hs
  · exact ⟨hp, hs⟩
  · exact ⟨hs, hp⟩

theorem tryCipherSuite_of_mem_preference {j : Nat} (hp : id ∈ preferenceList cfg h)
    (ht : tryCipherSuite id (supportedList cfg h) v e ec ch rc = some (s, j)) :
    s.id ∈ h.suites ∧ s.id ∈ cfg.cipherSuites ∧ s ∈ table ∧ suiteOk s v e ec ch rc = true := by
  obtain ⟨hs, htab, rfl, hok⟩ := tryCipherSuite_spec ht
  obtain ⟨hcl, hsrv⟩ := mem_suites_of_mem_preference_supported hp hs
  exact ⟨hcl, hsrv, htab, hok⟩

theorem pickLoop_eq (try_ : Nat → Option (Suite × Nat)) (ids : List Nat) :
    pickLoop try_ ids none = (ids.findSome? try_).map (·.1) := by
  induction ids with
  | nil => rfl
  | cons a rest ih =>
    unfold pickLoop
    rcases ht : try_ a with _ | ⟨s, j⟩ <;> simp only [List.findSome?_cons, ht, ih, Option.map_some]

theorem pickLoopEcdhe_eq (try_ : Nat → Option (Suite × Nat)) (ids : List Nat) (cur : Option Suite) :
    pickLoopEcdhe try_ ids cur = pickLoop try_ (ids.filter checkSuiteECDHE.contains) cur := by
  induction ids generalizing cur with
  | nil => rfl
  | cons a rest ih =>
    unfold pickLoopEcdhe
    cases hc : checkSuiteECDHE.contains a
    · simp only [hc, List.filter_cons, ih, Bool.not_false, if_true, Bool.false_eq_true, if_false]
    · simp only [hc, List.filter_cons, ih, Bool.not_true, Bool.false_eq_true, if_false, if_true, pickLoop]

theorem findSome?_map_fst_eq_some {ids : List Nat}
    (h : (ids.findSome? try_).map (·.1) = some s) : ∃ id ∈ ids, ∃ j, try_ id = some (s, j) := by
  obtain ⟨⟨s', j⟩, hf, rfl⟩ := Option.map_eq_some_iff.mp h
  obtain ⟨id, hm, ht⟩ := List.exists_of_findSome?_eq_some hf
  exact ⟨id, hm, j, ht⟩

theorem equivStep_inv {serverOrder : Nat} (hq : ∀ s j, try_ id = some (s, j) → Q s) (hsel : ∀ t ∈ sel, Q t.1) :
    ∀ t ∈ equivStep try_ serverOrder id sel, Q t.1 := by
  unfold equivStep
  split -- `match try_ id`
  · rename_i s clientOrder ht
    have new : ∀ t ∈ some (s, serverOrder, clientOrder), Q t.1 := fun t h => by cases h; exact hq s _ ht
    split -- `match sel`
    · exact new
    · split -- same priority and earlier in the client's list?
      · exact new
      · exact hsel
  · exact hsel

/-- for an arbitrary `Q`, so that no case distinction on where the current selection came from is needed -/
theorem equivLoop_inv {l : List (Nat × Nat)} (hq : ∀ p ∈ l, ∀ s j, try_ p.2 = some (s, j) → Q s)
    (hsel : ∀ t ∈ sel, Q t.1) : ∀ t ∈ equivLoop try_ l sel, Q t.1 := by
  induction l generalizing sel with
  | nil => exact hsel
  | cons a rest ih =>
    have hstep := equivStep_inv (serverOrder := a.1) (hq a List.mem_cons_self) hsel
    have hrest := fun p hp => hq p (List.mem_cons_of_mem _ hp)
    unfold equivLoop
    generalize equivStep try_ a.1 a.2 sel = sel' at hstep
    rcases sel' with _ | ⟨s, so, co⟩
    · exact ih hrest hstep
    · dsimp only
      split
      · exact hstep
      · exact ih hrest hstep

theorem negotiateEquivalent_spec {prio ids : List Nat}
    (h : negotiateEquivalent try_ prio ids = some s) : ∃ id ∈ ids, ∃ j, try_ id = some (s, j) := by
  obtain ⟨t, ht, rfl⟩ := Option.map_eq_some_iff.mp h
  exact equivLoop_inv (Q := fun s => ∃ id ∈ ids, ∃ j, try_ id = some (s, j)) (sel := none)
    (fun p hp s j hj => ⟨p.2, (List.of_mem_zip hp).2, j, hj⟩) (fun _ h => nomatch h) t ht

theorem find?_contains {α : Type} [BEq α] [LawfulBEq α] {l c : List α} {a : α} (h : l.find? c.contains = some a) :
    a ∈ l ∧ a ∈ c :=
  ⟨List.mem_of_find?_eq_some h, by simpa using List.find?_some h⟩

theorem mutualProtocol_eq (c s : List String) : mutualProtocol c s = s.find? c.contains := by
  induction s with
  | nil => rfl
  | cons a rest ih =>
    unfold mutualProtocol
    cases hc : c.contains a <;> simp only [hc, List.find?_cons, ih, Bool.false_eq_true, if_false, if_true]

theorem mutualProtocol_spec {c s : List String} {p : String} (h : mutualProtocol c s = some p) :
    p ∈ s ∧ p ∈ c :=
  find?_contains (mutualProtocol_eq c s ▸ h)

theorem alpnChoice_spec (h : Hello) (protos : List String) :
    alpnChoice h protos = "" ∨ (alpnChoice h protos ∈ h.alpn ∧ alpnChoice h protos ∈ protos) := by
  unfold alpnChoice
  split
  · split
    · rename_i p hm
      exact Or.inr (mutualProtocol_spec hm).symm
    · exact Or.inl rfl
  · exact Or.inl rfl

theorem validateHttp2_fst (a c : String) (suite : Suite) (v : Nat) :
    (validateHttp2 a c suite v).1 = a ∨
    (a = "h2" ∧ (validateHttp2 a c suite v).1 = "http/1.1" ∧
      (http2Accepted.contains suite.id = false ∨ v < versionTLS12)) := by
  unfold validateHttp2
  split
  · rename_i ha
    split
    · rename_i hbad
      exact Or.inr ⟨beq_iff_eq.mp ha, rfl, by simpa using hbad⟩
    · exact Or.inl rfl
  · exact Or.inl rfl

theorem resumeClientCertOk_spec (h : resumeClientCertOk ca st = true) :
    ClientCertOk ca st := by
  simp only [resumeClientCertOk, Bool.not_and, Bool.not_or, Bool.not_not, Bool.and_eq_true, Bool.or_eq_true,
    Bool.not_eq_eq_eq_not, Bool.not_true, beq_eq_false_iff_ne, ne_eq] at h
  obtain ⟨hreq, hnone⟩ := h -- one disjunction per `!(.. && ..)` clause of the model
  exact ⟨fun hn => hreq.resolve_left fun hh => hn.elim hh.1 hh.2, fun hn => hnone.resolve_right (not_not_intro hn)⟩

theorem resumeVersionOk_same (hf : resumeRequiresSameVersion = true) (hv : resumeVersionOk cfg h v st = true) :
    v = st.vers := by
  unfold resumeVersionOk at hv
  simp only [hf, if_true, Bool.and_eq_true, beq_iff_eq] at hv
  exact hv.1

theorem sessionLookup_none (cfg : Config) (h : Hello) : sessionLookup cfg h { ticket := none, cache := none } = none := by
  simp only [sessionLookup, ite_self]

theorem checkForResumption_spec (hf : resumeRequiresSameVersion = true)
    (hr : checkForResumption cfg h lk v ca e ec ch rc = some (suite, st)) :
    sessionLookup cfg h lk = some st ∧ st.vers = v ∧ st.suite = suite.id ∧ ClientCertOk ca st ∧
    suite.id ∈ h.suites ∧ suite.id ∈ cfg.cipherSuites ∧ suite ∈ table ∧ suiteOk suite v e ec ch rc = true := by
  unfold checkForResumption at hr
  split at hr; · cases hr
  rename_i st' hl
  obtain ⟨hv, hr⟩ := Option.ite_none_left_eq_some.mp hr
  obtain ⟨hs, hr⟩ := Option.ite_none_left_eq_some.mp hr
  split at hr; · cases hr
  rename_i suite' j ht
  obtain ⟨hc, hr⟩ := Option.ite_none_left_eq_some.mp hr
  cases hr
  obtain ⟨hm, htab, hid, hok⟩ := tryCipherSuite_spec ht
  cases resumeVersionOk_same hf (by simpa using hv)
  exact ⟨hl, rfl, hid.symm, resumeClientCertOk_spec (by simpa using hc), hid ▸ by simpa using hs, hid ▸ hm, htab, hok⟩

theorem suiteOk_spec (h : suiteOk s ver e ec ch rc = true) :
    (s.has suiteECDHE = true → e = true) ∧ s.has suiteECDSA = ec ∧
    (s.has suiteTLS12 = true → versionTLS12 ≤ ver) ∧ (s.has suiteChacha20 = true → ch = true) ∧
    (s.has suiteRC4 = true → rc ≠ .disable) ∧ (rc = .only → s.has suiteRC4 = true) := by
  simp only [suiteOk, Bool.not_and, Bool.not_not, Bool.and_eq_true, Bool.or_eq_true, Bool.not_eq_eq_eq_not,
    Bool.not_true, beq_iff_eq, decide_eq_false_iff_not, Nat.not_lt, beq_eq_false_iff_ne, ne_eq] at h
  -- the six clauses of `suiteOk` in its order; each `!(a && b)` has become `a = false ∨ b = false`
  obtain ⟨⟨⟨⟨⟨hecdhe, hecdsa⟩, htls12⟩, hchacha⟩, hrc4off⟩, hrc4only⟩ := h
  exact ⟨fun hb => hecdhe.resolve_left (by simp [hb]), hecdsa, fun hb => htls12.resolve_right (by simp [hb]),
    fun hb => hchacha.resolve_left (by simp [hb]), fun hb => hrc4off.resolve_left (by simp [hb]),
    fun hr => hrc4only.resolve_right (not_not_intro hr)⟩

theorem checkEllipticMayOk_spec
    (hm : checkEllipticMayOk v (supportedCurveOf cfg h) (supportedPointOf h) h = true) : EccCompat cfg h v := by
  simp only [checkEllipticMayOk, Bool.and_eq_true, List.isEmpty_iff, Bool.if_false_right, Bool.decide_and,
    Bool.and_true, Bool.if_true_left, Bool.decide_eq_true, Bool.if_false_left, Bool.not_eq_eq_eq_not, Bool.not_true,
    decide_eq_false_iff_not, Nat.not_le, Bool.or_eq_true, decide_eq_true_eq] at hm
  -- now `hm : versionSSL30 < v ∧ (A ∨ B ∨ C)`; A, B, C: the conditions of the three `if`s that answer `true`
  obtain ⟨hv, ⟨hc, hp⟩ | ⟨hp, hc⟩ | ⟨hc, hp⟩⟩ := hm
  · exact ⟨.inl hc, .inr hp, fun _ => hv⟩
  · exact ⟨.inr hc, .inl hp, fun _ => hv⟩
  · exact ⟨.inr hc, .inr hp, fun _ => hv⟩

theorem ellipticOk_compat
    (he : (supportedCurveOf cfg h && supportedPointOf h) = true) : EccCompat cfg h v := by
  simp only [Bool.and_eq_true] at he
  refine ⟨Or.inl he.1, Or.inl he.2, ?_⟩
  rintro (hc | hp) -- impossible: nothing is supported out of an empty list
  · simp [supportedCurveOf, hc] at he
  · simp [supportedPointOf, hp] at he

theorem firstPick_spec
    (hf : firstPick cfg h v e ec ch rc = some s) :
    ∃ id ∈ preferenceList cfg h, ∃ j, tryCipherSuite id (supportedList cfg h) v e ec ch rc = some (s, j) := by
  unfold firstPick at hf
  split at hf
  · exact negotiateEquivalent_spec hf
  · exact findSome?_map_fst_eq_some (pickLoop_eq _ _ ▸ hf)

theorem fallbackPick_spec
    (hf : fallbackPick cfg h v ec ch rc = some s) :
    EccCompat cfg h v ∧
    ∃ id ∈ preferenceList cfg h, ∃ j, tryCipherSuite id (supportedList cfg h) v true ec ch rc = some (s, j) := by
  unfold fallbackPick at hf
  split at hf
  · rename_i hmay
    obtain ⟨id, hid, hj⟩ := findSome?_map_fst_eq_some (pickLoop_eq _ _ ▸ pickLoopEcdhe_eq _ _ _ ▸ hf)
    exact ⟨checkEllipticMayOk_spec hmay, id, (List.mem_filter.mp hid).1, hj⟩
  · cases hf

section
variable (cfg : Config) (h : Hello) (lk : Lookups) (v ca : Nat) (e ec ch : Bool) (rc : RC4Mode) (suite : Suite)

/-- the three ways `readClientHello` can succeed; the indices are the `resume`, `ecdheNoExt` and `sess` fields of the result -/
inductive Outcome : Bool → Bool → Option Session → Prop
  | resumed (st : Session) (hc : checkForResumption cfg h lk v ca e ec ch rc = some (suite, st)) :
      Outcome true false (some st)
  | full (hf : firstPick cfg h v e ec ch rc = some suite) : Outcome false false none
  | fullNoExt (hf : fallbackPick cfg h v ec ch rc = some suite) : Outcome false true none
end

/-- every proof about a successful `readClientHello` starts here; `x`, `o` are the `ecdheNoExt` and `sess` fields -/
theorem readClientHello_ok (hr : readClientHello cfg rule h lk = .ok p) :
    ∃ v, mutualVersion cfg h.vers = some v ∧ GradeAllows (gradeOf rule) v ∧ ∃ suite r x o,
      p = mkParams cfg rule h v suite r x o ∧
      (r = false → ¬ (h.suites.contains fallbackSCSV && decide (h.vers < scsvBound cfg)) = true) ∧
      Outcome cfg h lk v (clientAuthOf cfg rule) (supportedCurveOf cfg h && supportedPointOf h) cfg.certEcdsa
        (chachaOf rule) (checkCipherGrade cfg (gradeOf rule) v) suite r x o := by
  unfold readClientHello at hr
  split at hr; · cases hr
  rename_i v0 hv0
  split at hr; · cases hr
  rename_i v hv
  obtain ⟨rfl, hg⟩ := checkVersionGrade_spec hv
  refine ⟨v, hv0, hg, ?_⟩
  dsimp only at hr
  obtain ⟨-, hr⟩ := ite_error_eq_ok hr
  obtain ⟨-, hr⟩ := ite_error_eq_ok hr
  split at hr
  · rename_i suite st hc
    cases hr
    exact ⟨suite, _, _, _, rfl, nofun, .resumed st hc⟩
  split at hr
  · rename_i suite hf
    obtain ⟨hs, hr⟩ := ite_error_eq_ok hr
    cases hr
    exact ⟨suite, _, _, _, rfl, fun _ => hs, .full hf⟩
  split at hr; · cases hr
  rename_i suite hf
  obtain ⟨hs, hr⟩ := ite_error_eq_ok hr
  cases hr
  exact ⟨suite, _, _, _, rfl, fun _ => hs, .fullNoExt hf⟩

theorem readClientHello_vers (hr : readClientHello cfg rule h lk = .ok p) :
    cfg.minVersion ≤ h.vers ∧ p.vers = min h.vers cfg.maxVersion ∧ GradeAllows (gradeOf rule) p.vers := by
  obtain ⟨v, hv, hg, suite, r, x, o, rfl, -, -⟩ := readClientHello_ok hr
  exact ⟨(mutualVersion_eq_some_iff.mp hv).1, (mutualVersion_eq_some_iff.mp hv).2, hg⟩

/-- `e'` ("ECDHE allowed") is `e` or, on the fallback path, `true` by `checkEllipticMayOk` -/
theorem Outcome.suiteOk {r x : Bool} {o : Option Session} (hf : resumeRequiresSameVersion = true)
    (he : e = true → EccCompat cfg h v) (ho : Outcome cfg h lk v ca e ec ch rc suite r x o) :
    ∃ e', (e' = true → EccCompat cfg h v) ∧
      suite.id ∈ h.suites ∧ suite.id ∈ cfg.cipherSuites ∧ suite ∈ table ∧ suiteOk suite v e' ec ch rc = true := by
  cases ho with
  | resumed st hc =>
    exact ⟨e, he, (checkForResumption_spec hf hc).2.2.2.2⟩
  | full hp =>
    obtain ⟨id, hid, j, ht⟩ := firstPick_spec hp
    exact ⟨e, he, tryCipherSuite_of_mem_preference hid ht⟩
  | fullNoExt hp =>
    obtain ⟨hecc, id, hid, j, ht⟩ := fallbackPick_spec hp
    exact ⟨true, fun _ => hecc, tryCipherSuite_of_mem_preference hid ht⟩

theorem readClientHello_resumed (hf : resumeRequiresSameVersion = true) (hr : readClientHello cfg rule h lk = .ok p)
    (hres : p.resume = true) :
    ∃ st, p.sess = some st ∧ sessionLookup cfg h lk = some st ∧ st.vers = p.vers ∧ st.suite = p.suite.id ∧
      ClientCertOk (clientAuthOf cfg rule) st := by
  obtain ⟨v, -, -, suite, r, x, o, rfl, -, ho⟩ := readClientHello_ok hr
  cases ho with
  | resumed st hc =>
    obtain ⟨hl, hv, hid, hcc, -⟩ := checkForResumption_spec hf hc
    exact ⟨st, rfl, hl, hv, hid, hcc⟩
  | full => cases hres
  | fullNoExt => cases hres

end BfeVerif.C41
