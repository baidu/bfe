import BfeVerif.Generated.C41
/-!
  C41 — which rule and which certificate govern a connection.

  * `getRule`        : `(*TLSServerRuleMap).getRule` (bfe_server/tls_server_rule.go): rule of the connection's VIP,
                       else rule whose SniConf lists the presented server name, else the default rule.
                       The two maps are Go maps built by `Update` from the rule configuration (keys are unique:
                       `checkVip` / `checkSniConf` refuse duplicates), modelled as association lists.
  * `certGet`        : `(*MultiCertMap).Get` + `(*NameCertMap).Get` (bfe_server/tls_multi_cert.go): certificate of the
                       VIP, else by server name (lower-cased, trailing dots removed): exact name first, then the
                       wildcard patterns — a Go map, iterated in unspecified order: `wildcard` is given in the order
                       the iteration happens to take —, else the default certificate.
  * `certForName`    : `(*Config).getCertificateForName` (bfe_tls/common.go), the library-level selection used when no
                       MultiCert policy is installed.
  * `keyExchangeCurve`: the curve `generateServerKeyExchange` picks (first server preference the client lists).

  Core-only.
-/
namespace BfeVerif.C41
open BfeVerif.Generated.C41

def lowerAscii (s : String) : String := String.ofList (s.toList.map Char.toLower)

def dropTrailingDots (cs : List Char) : List Char := (cs.reverse.dropWhile (· == '.')).reverse

/-- `strings.ToLower` followed by the loop that strips trailing dots -/
def normName (s : String) : String := String.ofList (dropTrailingDots (s.toList.map Char.toLower))

/-- `tls_rule_conf.MatchHostnames` -/
def matchHostnames (pattern host : String) : Bool :=
  if pattern.isEmpty || host.isEmpty then false
  else
    let pp := pattern.splitOn "."
    let hp := host.splitOn "."
    pp.length == hp.length && (pp.zip hp).all fun p => p.1 == "*" || p.1 == p.2

def lookup {α : Type} (l : List (String × α)) (k : String) : Option α := (l.find? fun p => p.1 == k).map (·.2)

structure RuleTable (α : Type) where
  vip : List (String × α)        -- vipRuleMap as configured (VipConf entries)
  sni : List (String × α)        -- SniConf entries as configured
  dflt : α                       -- what getDefaultRule builds

/-- key under which `Update` stores a configured name -/
def sniLoadKey (name : String) : String := if sniRuleLookupNormalised then lowerAscii name else name
/-- key `getRuleBySni` looks up for the presented server name -/
def sniLookupKey (name : String) : String := if sniRuleLookupNormalised then normName name else name

def getRule {α : Type} (t : RuleTable α) (vip : Option String) (sni : String) : α :=
  match vip.bind (lookup t.vip) with
  | some r => r
  | none =>
    match lookup (t.sni.map fun p => (sniLoadKey p.1, p.2)) (sniLookupKey sni) with
    | some r => r
    | none => t.dflt

structure CertTable where
  vip : List (String × String)        -- vip → certificate name
  normal : List (String × String)     -- exact DNS name → certificate name
  wildcard : List (String × String)   -- wildcard pattern → certificate name, in map-iteration order
  dflt : String

def nameCertGet (t : CertTable) (serverName : String) : Option String :=
  let n := normName serverName
  match lookup t.normal n with
  | some c => some c
  | none => (t.wildcard.find? fun p => matchHostnames p.1 n).map (·.2)

def certGet (t : CertTable) (vip : Option String) (sni : String) : String :=
  match vip.bind (lookup t.vip) with
  | some c => c
  | none =>
    match (if sni.isEmpty then none else nameCertGet t sni) with
    | some c => c
    | none => t.dflt

/-- the candidates `labels[i] = "*"` produces, cumulatively: `*.b.c`, `*.*.c`, `*.*.*` -/
def starCandidates : List String → List String → List String
  | _, [] => []
  | done, _ :: rest => ".".intercalate (done ++ ["*"] ++ rest) :: starCandidates (done ++ ["*"]) rest

/-- `getCertificateForName`: index into `Config.Certificates`; `n2c = none` is a nil NameToCertificate -/
def certForName (ncerts : Nat) (n2c : Option (List (String × Nat))) (name : String) : Nat :=
  match n2c with
  | none => 0
  | some m =>
    if ncerts == 1 then 0
    else
      let n := normName name
      match lookup m n with
      | some i => i
      | none =>
        match (starCandidates [] (n.splitOn ".")).findSome? (lookup m) with
        | some i => i
        | none => 0

/-- `generateServerKeyExchange`: first of the server's preferences that the client lists (0 = none) -/
def keyExchangeCurve (prefs clientCurves : List Nat) : Nat :=
  match prefs.find? fun c => clientCurves.contains c with
  | some c => c
  | none => 0

/-! ### client certificates (`doFullHandshake` / `processCertsFromClient`, handshake_server.go) -/

/-- what the server's checks can tell about the chain in the client's Certificate message -/
structure ClientCert where
  parses : Bool        -- every element is a parseable X.509 certificate
  revoked : Bool       -- some element is in the connection's CRL pool
  chainOk : Bool       -- x509 Verify of the leaf against the connection's CA pool for ExtKeyUsageClientAuth succeeds
  ekuListed : Bool     -- the leaf's ExtKeyUsage lists ClientAuth explicitly
  keyOk : Bool         -- the leaf's public key is RSA or ECDSA
  sigOk : Bool         -- the CertificateVerify signature over the handshake transcript verifies
deriving DecidableEq, Repr

/-- Outcome of the client-certificate part of a full handshake under the connection's policy `c.clientAuth`
    (`cc = none`: the client sent no certificate — no Certificate message when none was requested, an empty one
    otherwise).  Error = number of the alert sent. -/
def clientAuthStep (policy : Nat) (cc : Option ClientCert) : Except Nat (Option ClientCert) :=
  if policy < requestClientCert then .ok none
  else
    match cc with
    | none =>
      if policy == requireAnyClientCert || policy == requireAndVerifyClientCert then .error 42 else .ok none
    | some c =>
      if !c.parses then .error 42
      else if c.revoked then .error 44
      else if policy ≥ verifyClientCertIfGiven && !c.chainOk then .error 42
      else if policy ≥ verifyClientCertIfGiven && !c.ekuListed then .error 40
      else if !c.keyOk then .error 43
      else if !c.sigOk then .error 42
      else .ok (some c)

/-- which CA pool `getClientCAs` returns: the rule's when the rule demands client auth and has a pool, else the
    Config's (`none` = no pool at all, i.e. the platform's roots) -/
def clientCAPool (cfgPool rulePool : Option String) (ruleClientAuth : Bool) : Option String :=
  if ruleClientAuth then (match rulePool with | some p => some p | none => cfgPool) else cfgPool

theorem lookup_of_mem_nodup {α : Type} (key : String → String) (l : List (String × α)) (k : String) (v : α)
    (hnd : (l.map fun p => key p.1).Nodup) (hm : (k, v) ∈ l) :
    lookup (l.map fun p => (key p.1, p.2)) (key k) = some v := by
  induction l with
  | nil => cases hm
  | cons a rest ih =>
    rw [List.map_cons, List.nodup_cons] at hnd
    rw [lookup, List.map_cons, List.find?_cons]
    rcases List.mem_cons.mp hm with rfl | h
    · simp
    · have hne : (key a.1 == key k) = false :=
        beq_false_of_ne fun he => hnd.1 (he ▸ List.mem_map.mpr ⟨(k, v), h, rfl⟩)
      rw [hne]
      exact ih hnd.2 h

theorem lookup_none_of_forall {α : Type} (l : List (String × α)) (k : String) (h : ∀ p ∈ l, p.1 ≠ k) :
    lookup l k = none := by
  unfold lookup
  rw [List.find?_eq_none.mpr]
  · rfl
  · intro p hp; simpa using h p hp

end BfeVerif.C41
