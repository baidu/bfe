import BfeVerif.C41.Proofs
import BfeVerif.C41.Select
import BfeVerif.C41.Serve
import BfeVerif.C41.Records
import BfeVerif.C41.Reload
/-!
  C41 — TLS negotiation picks mutually supported parameters and resists downgrade.
  Property theorems only.  All are about `readClientHello` of `Model.lean`, i.e. about the decisions taken
  before any key exchange; key exchange, record protection and "application data flows" are executed by
  the harness, not modelled.

  Five facts regenerated from the source enter the proofs: `scsvUsesEffectiveMax` (the SCSV test compares
  against `maxVersion()`), `resumeRequiresSameVersion` (a session of another version is not resumed),
  `sniRuleLookupNormalised`, `serverNameSetBeforeLookups` and `sniConfDuplicateCheckFoldsCase` (the last used in
  `C41_loader_names_unique` only).  If the source loses one, the proofs below stop checking.
-/
namespace BfeVerif.C41
open BfeVerif.Generated.C41

theorem C41_fact_scsv : scsvUsesEffectiveMax = true := by decide
theorem C41_fact_resume_version : resumeRequiresSameVersion = true := by decide
theorem C41_fact_sni_normalised : sniRuleLookupNormalised = true := by decide
theorem C41_fact_server_name_first : serverNameSetBeforeLookups = true := by decide

/-- **Version, upper part and grade.** -/
theorem C41_version_upper {cfg : Config} {rule : Option Rule} {h : Hello} {lk : Lookups} {p : Params}
    (hr : readClientHello cfg rule h lk = .ok p) :
    p.vers ≤ cfg.maxVersion ∧ p.vers ≤ h.vers ∧ GradeAllows (gradeOf rule) p.vers := by
  obtain ⟨-, hv, hg⟩ := readClientHello_vers hr
  exact ⟨hv ▸ Nat.min_le_right .., hv ▸ Nat.min_le_left .., hg⟩

/-- The full statement also demands `cfg.minVersion ≤ p.vers`.  It fails for a configuration whose range is
    inverted (`MinVersion > MaxVersion`): `mutualVersion` clamps to the maximum after testing the minimum. -/
def C41_version_lower_statement : Prop :=
  ∀ (cfg : Config) (rule : Option Rule) (h : Hello) (lk : Lookups) (p : Params),
    readClientHello cfg rule h lk = .ok p → cfg.minVersion ≤ p.vers

theorem C41_version_lower_partial {cfg : Config} {rule : Option Rule} {h : Hello} {lk : Lookups} {p : Params}
    (hwf : cfg.minVersion ≤ cfg.maxVersion)
    (hr : readClientHello cfg rule h lk = .ok p) : cfg.minVersion ≤ p.vers := by
  obtain ⟨hm, hv, -⟩ := readClientHello_vers hr
  exact hv ▸ Nat.le_min.mpr ⟨hm, hwf⟩

def wCfg : Config :=
  { minVersionRaw := 0, maxVersionRaw := 0, cipherSuitesRaw := none, priority := [], preferServer := false,
    ssl3PoodleProofed := false, ticketsDisabled := false, cacheEnabled := false, nextProtos := [],
    clientAuth := 0, curvePrefsRaw := [], hasCert := true, certEcdsa := false }

def wHello : Hello :=
  { vers := 0x0303, suites := [0x002f], compression := [0], curves := [], points := [], alpn := [], npn := false,
    ticketSupported := false, ticketPresent := false, sessionIdPresent := false }

def wNoLookups : Lookups := { ticket := none, cache := none }

/-- witness (corpus/C41/known.ops): MinVersion = TLS1.2, MaxVersion = TLS1.0, hello TLS1.2 → TLS1.0 is negotiated -/
theorem C41_witness_inverted_range : ¬ C41_version_lower_statement := fun hall =>
  absurd (hall { wCfg with minVersionRaw := 0x0303, maxVersionRaw := 0x0301 } none wHello wNoLookups _ rfl) (by decide)

structure SuiteAcceptable (cfg : Config) (rule : Option Rule) (h : Hello) (v : Nat) (s : Suite) : Prop where
  inTable : s ∈ table
  ecdhe : s.has suiteECDHE = true → EccCompat cfg h v
  certType : s.has suiteECDSA = cfg.certEcdsa
  tls12 : s.has suiteTLS12 = true → versionTLS12 ≤ v
  chacha : s.has suiteChacha20 = true → chachaOf rule = true
  rc4off : s.has suiteRC4 = true → checkCipherGrade cfg (gradeOf rule) v ≠ .disable
  rc4only : checkCipherGrade cfg (gradeOf rule) v = .only → s.has suiteRC4 = true

/-- **Cipher suite**, on full and resumed handshakes alike. -/
theorem C41_suite {cfg : Config} {rule : Option Rule} {h : Hello} {lk : Lookups} {p : Params}
    (hr : readClientHello cfg rule h lk = .ok p) :
    p.suite.id ∈ h.suites ∧ p.suite.id ∈ cfg.cipherSuites ∧ SuiteAcceptable cfg rule h p.vers p.suite := by
  obtain ⟨v, -, -, suite, r, x, o, rfl, -, ho⟩ := readClientHello_ok hr
  obtain ⟨ell, hell, hc, hs, htab, hok⟩ := ho.suiteOk C41_fact_resume_version ellipticOk_compat
  obtain ⟨h1, h2, h3, h4, h5, h6⟩ := suiteOk_spec hok
  exact ⟨hc, hs, htab, fun hb => hell (h1 hb), h2, h3, h4, h5, h6⟩

def C41_alpn_statement : Prop :=
  ∀ (cfg : Config) (rule : Option Rule) (h : Hello) (lk : Lookups) (p : Params),
    readClientHello cfg rule h lk = .ok p → p.alpn ≠ "" →
    p.alpn ∈ h.alpn ∧ p.alpn ∈ nextProtosOf cfg rule

/-- **ALPN, what the code guarantees.**  The protocol in the ServerHello is either mutual, or it is the literal
    "http/1.1" that `validateHttp2Accepted` substitutes for a mutually offered "h2" when the suite or version
    is not acceptable for HTTP/2 — whether or not anybody offered "http/1.1". -/
theorem C41_alpn_partial {cfg : Config} {rule : Option Rule} {h : Hello} {lk : Lookups} {p : Params}
    (hr : readClientHello cfg rule h lk = .ok p) (hne : p.alpn ≠ "") :
    (p.alpn ∈ h.alpn ∧ p.alpn ∈ nextProtosOf cfg rule) ∨
    (p.alpn = "http/1.1" ∧ "h2" ∈ h.alpn ∧ "h2" ∈ nextProtosOf cfg rule ∧
      (http2Accepted.contains p.suite.id = false ∨ p.vers < versionTLS12)) := by
  obtain ⟨v, -, -, suite, r, x, o, rfl, -, -⟩ := readClientHello_ok hr
  simp only [mkParams] at hne ⊢
  have hch := alpnChoice_spec h (nextProtosOf cfg rule)
  generalize alpnChoice h (nextProtosOf cfg rule) = a at *
  rcases validateHttp2_fst a a suite v with he | ⟨rfl, he, hbad⟩
  · rw [he] at hne ⊢
    exact Or.inl (hch.resolve_left hne)
  · have hmut := hch.resolve_left (by decide)
    exact Or.inr ⟨he, hmut.1, hmut.2, hbad⟩

/-- The clean conclusion under the hypothesis that excludes the substitution defect. -/
theorem C41_alpn_when_http11_mutual {cfg : Config} {rule : Option Rule} {h : Hello} {lk : Lookups} {p : Params}
    (hr : readClientHello cfg rule h lk = .ok p) (hne : p.alpn ≠ "")
    (hyp : ("h2" ∈ h.alpn ∧ "h2" ∈ nextProtosOf cfg rule) → ("http/1.1" ∈ h.alpn ∧ "http/1.1" ∈ nextProtosOf cfg rule)) :
    p.alpn ∈ h.alpn ∧ p.alpn ∈ nextProtosOf cfg rule := by
  rcases C41_alpn_partial hr hne with hm | ⟨he, h1, h2, _⟩
  · exact hm
  · rw [he]; exact hyp ⟨h1, h2⟩

/-- witness (corpus/C41/known.ops): client offers only "h2" and only a CBC suite, server list is h2,http/1.1:
    the ServerHello carries "http/1.1", which the client never offered. -/
theorem C41_witness_alpn : ¬ C41_alpn_statement := fun hall =>
  absurd (hall { wCfg with nextProtos := ["h2", "http/1.1"] } none { wHello with alpn := ["h2"] } wNoLookups _
    rfl (by decide)) (by decide)

/-- The full SCSV statement (RFC 7507 §3). -/
def C41_scsv_statement : Prop :=
  ∀ (cfg : Config) (rule : Option Rule) (h : Hello) (lk : Lookups) (p : Params),
    fallbackSCSV ∈ h.suites → h.vers < cfg.maxVersion → readClientHello cfg rule h lk ≠ .ok p

/-- **SCSV, full handshakes (including a server that leaves MaxVersion at its default).**  Such a hello is
    accepted only on the resumption path; every full handshake is refused. -/
theorem C41_scsv_partial {cfg : Config} {rule : Option Rule} {h : Hello} {lk : Lookups} {p : Params}
    (hs : fallbackSCSV ∈ h.suites) (hv : h.vers < cfg.maxVersion)
    (hr : readClientHello cfg rule h lk = .ok p) : p.resume = true := by
  obtain ⟨v, -, -, suite, r, x, o, rfl, hn, -⟩ := readClientHello_ok hr
  have hscsv : (h.suites.contains fallbackSCSV && decide (h.vers < scsvBound cfg)) = true := by
    simp [scsvBound, C41_fact_scsv, hs, hv]
  cases r with
  | true => rfl
  | false => exact absurd hscsv (hn rfl)

/-- … in particular, with no session to resume the hello is refused whatever else it contains. -/
theorem C41_scsv_no_session {cfg : Config} {rule : Option Rule} {h : Hello} {p : Params}
    (hs : fallbackSCSV ∈ h.suites) (hv : h.vers < cfg.maxVersion) :
    readClientHello cfg rule h { ticket := none, cache := none } ≠ .ok p := by
  intro hr
  obtain ⟨st, -, hl, -⟩ := readClientHello_resumed C41_fact_resume_version hr (C41_scsv_partial hs hv hr)
  rw [sessionLookup_none] at hl
  cases hl

/-- witness (corpus/C41/known.ops): TLS1.0 hello with SCSV and a valid TLS1.0 ticket against a default
    (TLS1.2) server is resumed instead of refused: the SCSV test sits after `checkForResumption`. -/
theorem C41_witness_scsv_resume : ¬ C41_scsv_statement := by
  intro hall
  exact hall wCfg none
    { wHello with vers := 0x0301, suites := [0x002f, 0x5600], ticketSupported := true, ticketPresent := true }
    { ticket := some ⟨0x0301, 0x002f, false⟩, cache := none } _ (by decide) (by decide) rfl

/-- **Resumed handshakes keep version and suite of the session** (where the session comes from, ticket or cache, is C44). -/
theorem C41_resume_keeps_version {cfg : Config} {rule : Option Rule} {h : Hello} {lk : Lookups} {p : Params}
    (hr : readClientHello cfg rule h lk = .ok p) (hres : p.resume = true) :
    ∃ st, p.sess = some st ∧ sessionLookup cfg h lk = some st ∧ st.vers = p.vers ∧ st.suite = p.suite.id := by
  obtain ⟨st, hs, hl, hv, hsu, -⟩ := readClientHello_resumed C41_fact_resume_version hr hres
  exact ⟨st, hs, hl, hv, hsu⟩

/-- **The rule applied is the one configured for the connection.**  (1) A connection arriving on a configured VIP gets
    that VIP's rule whatever SNI it presents.  (2) Otherwise it gets the rule whose SniConf lists the presented server
    name — compared case-insensitively and without trailing dots, so no spelling of a configured host name escapes
    its rule (this needs the `sniRuleLookupNormalised` fact).  (3) Otherwise the default
    rule.  Names are unique after lower-casing (`checkSniConf` refuses duplicates). -/
theorem C41_rule_lookup {α : Type} (t : RuleTable α) (vip : Option String) (sni : String)
    (hnd : (t.sni.map fun p => lowerAscii p.1).Nodup) :
    (∀ v r, vip = some v → lookup t.vip v = some r → getRule t vip sni = r) ∧
    (vip.bind (lookup t.vip) = none → ∀ name r, (name, r) ∈ t.sni → lowerAscii name = normName sni →
      getRule t vip sni = r) ∧
    (vip.bind (lookup t.vip) = none → (∀ p ∈ t.sni, lowerAscii p.1 ≠ normName sni) → getRule t vip sni = t.dflt) := by
  simp only [getRule, sniLoadKey, sniLookupKey, C41_fact_sni_normalised, if_true]
  refine ⟨?_, ?_, ?_⟩
  · rintro v r rfl hl
    simp only [Option.bind_some, hl]
  · intro hnone name r hm he
    rw [hnone, ← he, lookup_of_mem_nodup lowerAscii t.sni name r hnd hm]
  · intro hnone hall
    rw [hnone, lookup_none_of_forall]
    intro p hp
    obtain ⟨q, hq, rfl⟩ := List.mem_map.mp hp
    exact hall q hq

theorem C41_rule_case_insensitive {α : Type} (t : RuleTable α) (vip : Option String) (a b : String)
    (h : normName a = normName b) : getRule t vip a = getRule t vip b := by
  unfold getRule sniLookupKey
  rw [C41_fact_sni_normalised]
  simp only [if_true, h]

/-- **The certificate matches the SNI by exact name, then by wildcard.**  VIP's certificate first; otherwise, for a
    non-empty server name (lower-cased, trailing dots removed): the certificate that carries the name exactly if there
    is one — even if wildcard patterns match too —, else a certificate one of whose wildcard patterns matches
    (whichever the map iteration meets first), else the default certificate; the default also for an empty name. -/
theorem C41_cert_lookup (t : CertTable) (vip : Option String) (sni : String) :
    (∀ v c, vip = some v → lookup t.vip v = some c → certGet t vip sni = c) ∧
    (vip.bind (lookup t.vip) = none → sni.isEmpty = false → ∀ c, lookup t.normal (normName sni) = some c →
      certGet t vip sni = c) ∧
    (vip.bind (lookup t.vip) = none → sni.isEmpty = false → lookup t.normal (normName sni) = none →
      (∃ pat, (pat, certGet t vip sni) ∈ t.wildcard ∧ matchHostnames pat (normName sni) = true) ∨
      ((∀ p ∈ t.wildcard, matchHostnames p.1 (normName sni) = false) ∧ certGet t vip sni = t.dflt)) ∧
    (vip.bind (lookup t.vip) = none → sni.isEmpty = true → certGet t vip sni = t.dflt) := by
  simp only [certGet, nameCertGet]
  refine ⟨?_, ?_, ?_, ?_⟩
  · rintro v c rfl hl
    simp only [Option.bind_some, hl]
  · intro hnone hne c hl
    simp only [hnone, hne, Bool.false_eq_true, if_false, hl]
  · intro hnone hne hl
    simp only [hnone, hne, Bool.false_eq_true, if_false, hl]
    cases hf : t.wildcard.find? (fun p => matchHostnames p.1 (normName sni)) with
    | none => exact .inr ⟨fun p hp => by simpa using List.find?_eq_none.mp hf p hp, rfl⟩
    | some p => exact .inl ⟨p.1, List.mem_of_find?_eq_some hf, by simpa using List.find?_some hf⟩
  · intro hnone he
    simp only [hnone, he, if_true]

/-- **Client certificates.**  If the client-certificate part of a full handshake succeeds under the connection's
    policy (the rule's `ClientAuth` forces RequireAndVerifyClientCert, `clientAuthOf`), then: a policy that requires a
    certificate got one; a policy that verifies got a chain that verifies against the connection's CA pool for client
    authentication and whose leaf lists the ClientAuth usage; and any accepted certificate parsed, is not revoked,
    has a usable key, and proved possession of it (CertificateVerify). -/
theorem C41_client_auth {policy : Nat} {cc r : Option ClientCert} (h : clientAuthStep policy cc = .ok r) :
    ((policy = requireAnyClientCert ∨ policy = requireAndVerifyClientCert) → ∃ c, r = some c) ∧
    (∀ c, r = some c → verifyClientCertIfGiven ≤ policy → c.chainOk = true ∧ c.ekuListed = true) ∧
    (∀ c, r = some c → cc = some c ∧ c.parses = true ∧ c.revoked = false ∧ c.keyOk = true ∧ c.sigOk = true) ∧
    (policy < requestClientCert → r = none) := by
  unfold clientAuthStep at h
  by_cases hp : policy < requestClientCert
  · rw [if_pos hp] at h
    cases h
    refine ⟨?_, (fun _ hc => nomatch hc), (fun _ hc => nomatch hc), fun _ => rfl⟩
    rintro (rfl | rfl) <;> exact absurd hp (by decide)
  · rw [if_neg hp] at h
    cases cc with
    | none =>
      obtain ⟨hq, h⟩ := ite_error_eq_ok h
      cases h
      exact ⟨fun hn => absurd (by simpa using hn) hq, (fun _ hc => nomatch hc),
        (fun _ hc => nomatch hc), fun hlt => absurd hlt hp⟩
    | some c =>
      obtain ⟨hparses, h⟩ := ite_error_eq_ok h
      obtain ⟨hrevoked, h⟩ := ite_error_eq_ok h
      obtain ⟨hchain, h⟩ := ite_error_eq_ok h
      obtain ⟨heku, h⟩ := ite_error_eq_ok h
      obtain ⟨hkey, h⟩ := ite_error_eq_ok h
      obtain ⟨hsig, h⟩ := ite_error_eq_ok h
      cases h
      simp only [Bool.and_eq_true, decide_eq_true_eq, Bool.not_eq_true', not_and, Bool.not_eq_false, ge_iff_le,
        Bool.not_eq_true] at hparses hrevoked hchain heku hkey hsig
      exact ⟨fun _ => ⟨c, rfl⟩, fun c' hc hpol => by cases hc; exact ⟨hchain hpol, heku hpol⟩,
        fun c' hc => by cases hc; exact ⟨rfl, hparses, hrevoked, hkey, hsig⟩, fun hlt => absurd hlt hp⟩

theorem C41_client_ca_pool (cfgPool rulePool : Option String) (p : String) :
    clientCAPool cfgPool (some p) true = some p ∧ clientCAPool cfgPool rulePool false = cfgPool := ⟨rfl, rfl⟩

/-- **Curves.**  Every curve an operator can configure (bfe_conf.CurvesMap) is one the ECDHE key agreement implements,
    and with such preferences the curve the key exchange picks is implemented, preferred by the server and offered by
    the client.  (A raw `Config.CurvePreferences` naming another curve id — impossible through bfe's configuration — is
    counted as supported by readClientHello and then fails closed in generateServerKeyExchange.) -/
theorem C41_curves_configurable_implemented : ∀ c ∈ configurableCurves, c ∈ implementedCurves := by decide

theorem C41_key_exchange_curve (prefs clientCurves : List Nat) (hp : ∀ c ∈ prefs, c ∈ implementedCurves)
    (h : keyExchangeCurve prefs clientCurves ≠ 0) :
    keyExchangeCurve prefs clientCurves ∈ implementedCurves ∧ keyExchangeCurve prefs clientCurves ∈ prefs ∧
    keyExchangeCurve prefs clientCurves ∈ clientCurves := by
  unfold keyExchangeCurve at h ⊢
  cases hf : prefs.find? (fun c => clientCurves.contains c) with
  | none => exact absurd (by rw [hf]) h
  | some c => exact ⟨hp c (find?_contains hf).1, find?_contains hf⟩

/-- **The negotiation is governed by the rule configured for the presented SNI / VIP.**  `readClientHello` looks the
    rule up through the Conn; because the hello's server name is stored in the Conn BEFORE that lookup (fact
    `serverNameSetBeforeLookups`), what it applies is exactly the rule `C41_rule_lookup` describes for (vip, sni). -/
theorem C41_rule_applied (t : RuleTable Rule) (cfg : Config) (vip : Option String) (sni : String) (h : Hello) (lk : Lookups) :
    serve t cfg vip sni h lk = readClientHello cfg (some (getRule t vip sni)) h lk ∧
    ∀ p, serve t cfg vip sni h lk = .ok p →
      GradeAllows (getRule t vip sni).grade p.vers ∧
      (p.suite.has suiteChacha20 = true → (getRule t vip sni).chacha20 = true) ∧
      (p.suite.has suiteRC4 = true → checkCipherGrade cfg (getRule t vip sni).grade p.vers ≠ .disable) ∧
      p.clientAuth = (if (getRule t vip sni).clientAuth then requireAndVerifyClientCert else cfg.clientAuth) ∧
      (p.alpn ≠ "" → p.alpn ∈ (getRule t vip sni).nextProtos ∨
        (p.alpn = "http/1.1" ∧ "h2" ∈ (getRule t vip sni).nextProtos)) := by
  have hs : serve t cfg vip sni h lk = readClientHello cfg (some (getRule t vip sni)) h lk := by
    unfold serve nameSeenByLookups; rw [C41_fact_server_name_first]; rfl
  refine ⟨hs, ?_⟩
  intro p hp
  rw [hs] at hp
  have hv := C41_version_upper hp
  have hsu := (C41_suite hp).2.2
  refine ⟨hv.2.2, hsu.chacha, hsu.rc4off, ?_, ?_⟩
  · obtain ⟨v, -, -, suite, r, x, o, rfl, -, -⟩ := readClientHello_ok hp
    rfl
  · intro hne
    rcases C41_alpn_partial hp hne with hm | ⟨he, _, h2, _⟩
    · exact Or.inl hm.2
    · exact Or.inr ⟨he, h2⟩

/-- **A rejected reload changes nothing**: both maps stay exactly as they were. -/
theorem C41_reload_rejected_changes_nothing (certs : List (String × List String)) (ca : List String) (st : TlsState)
    (c : ConfFile) (h : validConf certs ca c = false) : loadStep certs ca st c = st := by
  unfold loadStep
  cases c with
  | garbage => rfl
  | noVersion => rfl
  | products ps => simp [h]

/-- **An accepted reload replaces everything**: no VIP, name, rule or certificate binding of an earlier configuration
    survives. -/
theorem C41_reload_accepted_replaces (certs : List (String × List String)) (ca : List String) (st st' : TlsState)
    (ps : List ProdConf) (h : validConf certs ca (.products ps) = true) :
    loadStep certs ca st (.products ps) = some ps ∧ loadStep certs ca st (.products ps) = loadStep certs ca st' (.products ps) := by
  unfold loadStep
  simp [h]

/-- **An accepted configuration names every host once, whatever the spelling.**  Two products cannot both claim a host name,
    not even in different letter case (the loader's duplicate test folds case: fact `sniConfDuplicateCheckFoldsCase`) — so the lower-cased keys
    that `TLSServerRuleMap.Update` stores never collide.  This is the loader's side of `C41_rule_lookup`'s uniqueness
    hypothesis; that `ruleTableOf` turns this `nodupB` into that `Nodup` is not proved. -/
theorem C41_loader_names_unique (certs : List (String × List String)) (ca : List String) (ps : List ProdConf)
    (h : validConf certs ca (.products ps) = true) :
    nodupB ((ps.flatMap fun p => p.snis).map lowerAscii) = true := by
  have hk : sniDupKey = lowerAscii := funext fun _ => if_pos (by decide)
  simp only [validConf, Bool.and_eq_true] at h
  exact hk ▸ h.1.1.2 -- the third of `validConf`'s five tests: no SNI twice

/-- **Only the last accepted configuration matters**, step by step over any history of reloads; hence every rule / certificate
    lookup and every negotiation (`ruleTableOf`, `certTableOf`, `serve`) after the history is a function of that
    configuration alone. -/
theorem C41_reload_last_accepted (certs : List (String × List String)) (ca : List String) (st : TlsState)
    (hist : List ConfFile) (c : ConfFile) :
    stateAfter certs ca st (hist ++ [c]) =
      (match c with
       | .products ps => if validConf certs ca c then some ps else stateAfter certs ca st hist
       | _ => stateAfter certs ca st hist) := by
  rw [stateAfter_append]
  unfold loadStep
  cases c <;> rfl

/-- **Segmentation does not matter.**  However the client (or the network) cuts a well-formed ClientHello message into
    handshake records — and whatever follows it —, `readHandshake` hands exactly that message to `readClientHello`.
    (TCP-level chunking below the record layer is exercised by the `rw` stream: 1-byte reads, empty reads, data+EOF.) -/
theorem C41_segmentation (recs : List (List UInt8)) (hand msg tail : List UInt8)
    (hm : 4 ≤ msg.length) (hw : msg.length = 4 + declLen msg) (he : hand ++ recs.flatten = msg ++ tail) :
    ∃ rest, readHandshake recs hand = some (msg, rest) := by
  induction recs generalizing hand with
  | nil =>
    rw [List.flatten_nil, List.append_nil] at he
    exact ⟨tail, by rw [readHandshake, he, complete_append tail hm hw]⟩
  | cons r rs ih =>
    unfold readHandshake
    cases hc : complete hand with
    | some p => exact ⟨p.2, by rw [← complete_of_prefix hm hw he hc]⟩
    | none => exact ih _ (by simpa using he)

/-! Non-vacuity (run by the kernel): a full handshake, an SCSV refusal, the ECDHE fallback, a full handshake with ALPN;
    an accepted resumption is the hello of `C41_witness_scsv_resume`. -/
example : readClientHello wCfg none wHello wNoLookups =
    .ok (mkParams wCfg none wHello 0x0303 ⟨0x002f, 0⟩ false false none) := rfl
example : readClientHello wCfg none { wHello with vers := 0x0302, suites := [0x002f, 0x5600] } wNoLookups
    = .error .inappropriateFallback := rfl
example : readClientHello wCfg none { wHello with suites := [0xc013] } wNoLookups =
    .ok (mkParams wCfg none { wHello with suites := [0xc013] } 0x0303 ⟨0xc013, 1⟩ false true none) := rfl
example : (readClientHello { wCfg with nextProtos := ["h2", "http/1.1"] } (some ⟨"A+", false, true, ["h2", "http/1.1"]⟩)
    { wHello with suites := [0xcca8, 0xc02f], curves := [23], points := [0], alpn := ["http/1.1", "h2"] } wNoLookups).toOption.map
      (fun p => (p.alpn, p.suite.id, p.resume)) = some ("h2", 0xcca8, false) := by decide +kernel
example : getRule (α := String) { vip := [], sni := [("a.example.com", "P1")], dflt := "default" } none "A.Example.COM." = "P1" := by decide +kernel
example : certGet { vip := [], normal := [("x.b.example.com", "C1")], wildcard := [("*.b.example.com", "C2")], dflt := "D" } none "X.B.example.com" = "C1" := by decide +kernel
-- (wildcard matching uses `String.splitOn`, which the kernel does not unfold: it is exercised by the `cl` stream)
example : clientAuthStep 4 none = .error 42 := rfl
example : clientAuthStep 4 (some ⟨true, false, true, true, true, true⟩) = .ok (some ⟨true, false, true, true, true, true⟩) := rfl
example : clientAuthStep 3 (some ⟨true, false, false, true, true, true⟩) = .error 42 := rfl

end BfeVerif.C41
