import BfeVerif.C41.Serve
/-!
  C41 — (re)loading the TLS configuration: `(*BfeServer).tlsConfLoad` (bfe_server/bfe_confdata_load.go) with the
  validation of `BfeTlsRuleConfCheck` / `TlsRuleConfCheck` / `checkNextProtos` / `checkVip` / `checkSniConf` /
  `CheckTlsConf` / `ClientCALoad` (bfe_config/bfe_tls_conf/tls_rule_conf), and what `MultiCertMap.Update` /
  `TLSServerRuleMap.Update` make of an accepted configuration.  A rejected file changes nothing; an accepted one replaces
  both maps entirely.  Core-only.
-/
namespace BfeVerif.C41
open BfeVerif.Generated.C41

structure ProdConf where
  name : String
  grade : String            -- as written in the file
  ca : String               -- "0" no client auth | "E" ClientAuth with empty ClientCAName | a CA name
  chacha : Bool
  protos : List String
  cert : String
  vips : List String        -- as written
  snis : List String
deriving Repr

inductive ConfFile where
  | garbage                 -- not JSON
  | noVersion               -- empty Version
  | products (ps : List ProdConf)
deriving Repr

def upperAscii (s : String) : String := String.ofList (s.toList.map Char.toUpper)

def stripPrefix (p s : String) : String := if s.startsWith p then (s.drop p.length).toString else s

/-- `net.ParseIP(vip).String()` on the address forms the harness writes -/
def canonVip (s : String) : Option String :=
  if s == "bad.ip" then none else some (lowerAscii (stripPrefix "::ffff:" s))

def knownProtos : List String := ["http/1.1", "h2", "spdy/3.1", "stream"]

def protosOk (l : List String) : Bool :=
  l.isEmpty || (l.all knownProtos.contains && l.eraseDups.length == l.length && l.contains "http/1.1")

def gradeOk (g : String) : Bool := ["A+", "A", "B", "C", ""].contains (upperAscii g)

def effGrade (g : String) : String := if upperAscii g == "" then gradeC else upperAscii g

def nodupB (l : List String) : Bool := l.eraseDups.length == l.length

/-- the key `checkSniConf` compares -/
def sniDupKey (name : String) : String := if sniConfDuplicateCheckFoldsCase then lowerAscii name else name

/-- certs: (name, DNS names); caFiles: the `<name>.crt` files present in the client CA directory -/
def validConf (certs : List (String × List String)) (caFiles : List String) : ConfFile → Bool
  | .garbage => false
  | .noVersion => false
  | .products ps =>
    ps.all (fun p => !p.cert.isEmpty && protosOk p.protos && gradeOk p.grade && p.ca != "E" &&
      p.vips.all fun v => (canonVip v).isSome) &&
    nodupB (ps.flatMap fun p => p.vips.filterMap canonVip) &&
    nodupB ((ps.flatMap fun p => p.snis).map sniDupKey) &&
    ps.all (fun p => p.ca == "0" || caFiles.contains p.ca) &&
    ps.all (fun p => match lookup certs p.cert with
      | none => false
      | some names => p.snis.all fun s => names.any fun n => matchHostnames n s)

def prodRule (p : ProdConf) : Rule :=
  { grade := effGrade p.grade, clientAuth := p.ca != "0", chacha20 := p.chacha,
    nextProtos := if p.protos.isEmpty then ["http/1.1"] else p.protos }

def defaultRule : Rule := { grade := gradeC, clientAuth := false, chacha20 := false, nextProtos := ["http/1.1"] }

/-- the server's state: the last accepted configuration, if any -/
abbrev TlsState := Option (List ProdConf)

def loadStep (certs : List (String × List String)) (caFiles : List String) (st : TlsState) (c : ConfFile) : TlsState :=
  match c with
  | .products ps => if validConf certs caFiles c then some ps else st
  | _ => st

def stateAfter (certs : List (String × List String)) (caFiles : List String) (st : TlsState) (hist : List ConfFile) : TlsState :=
  hist.foldl (loadStep certs caFiles) st

def ruleTableOf (st : TlsState) : RuleTable (Rule × String) :=
  match st with
  | none => { vip := [], sni := [], dflt := (defaultRule, "") }
  | some ps =>
    { vip := ps.flatMap fun p => p.vips.filterMap fun v => (canonVip v).map fun c => (c, (prodRule p, if p.ca == "0" then "" else p.ca)),
      sni := ps.flatMap fun p => p.snis.map fun s => (s, (prodRule p, if p.ca == "0" then "" else p.ca)),
      dflt := (defaultRule, "") }

def certTableOf (certs : List (String × List String)) (st : TlsState) : CertTable :=
  match st with
  | none => { vip := [], normal := [], wildcard := [], dflt := "none" }
  | some ps =>
    let pairs : List (String × String) := certs.flatMap fun c => c.2.map fun n => (n, c.1)
    { vip := ps.flatMap fun p => p.vips.filterMap fun v => (canonVip v).map fun c => (c, p.cert),
      normal := pairs.filter fun p => !p.1.contains '*',
      wildcard := pairs.filter fun p => p.1.contains '*',
      dflt := "D" }

theorem stateAfter_append (certs : List (String × List String)) (ca : List String) (st : TlsState) (h : List ConfFile) (c : ConfFile) :
    stateAfter certs ca st (h ++ [c]) = loadStep certs ca (stateAfter certs ca st h) c := by
  unfold stateAfter; rw [List.foldl_append]; rfl

end BfeVerif.C41
