import BfeVerif.C09.Proofs
/-!
  C09 — balancer reload keeps surviving state and releases removed targets once.

  Release discipline (proved at full strength, for EVERY history of Init + BalTableReload calls with arbitrary
  configurations, after fix C09-reload-check-first): every object ever created (table ++ grave) has been released at most
  once, objects reachable from the table are unreleased, objects that left the table were released exactly once — hence
  no close-of-closed-channel panic and no released backend can be selected.
  "The table shows the configuration" is violated by the unchanged code when the cluster table lacks a (sub-)cluster the
  gslb conf names (known findings, witness theorem below); proved is the per-sub-cluster part `C09_update_shows_conf`.
-/
namespace BfeVerif.C09

/-- Update releases each removed backend exactly once and never a kept one. -/
theorem C09_update_release_once (old : List Backend) (conf : List BConf)
    (h0 : ∀ o ∈ old, o.released = 0) :
    (∀ b ∈ (rrUpdate old conf).1, b.released = 0) ∧ (∀ b ∈ (rrUpdate old conf).2, b.released = 1) :=
  rrUpdate_release old conf h0

/-- Nothing is lost: every old backend is either kept — the SAME object, only
    its weight rewritten, so avail / failNum / connNum / name survive — or it is in the released list; and the new
    list holds only such kept objects and `mkNew` of configured entries. -/
theorem C09_update_survivor_state (old : List Backend) (conf : List BConf) :
    (∀ o ∈ old, (∃ w, { o with weight := w } ∈ (rrUpdate old conf).1) ∨ rel o ∈ (rrUpdate old conf).2) ∧
    (∀ b ∈ (rrUpdate old conf).1, (∃ o ∈ old, ∃ w, b = { o with weight := w }) ∨ (∃ c ∈ conf, b = mkNew c)) := by
  obtain ⟨h1, _, h3, h4⟩ := updLoop_spec old (confMap conf)
  refine ⟨fun o ho => (h4 o ho).imp_left fun ⟨w, hw⟩ => ⟨w, mem_rrUpdate.mpr (Or.inl hw)⟩, fun b hb => ?_⟩
  rcases mem_rrUpdate.mp hb with hb | ⟨c, hc, rfl⟩
  · obtain ⟨w, ho⟩ := h1 b hb
    exact Or.inl ⟨_, ho, b.weight, rfl⟩
  · exact Or.inr ⟨c, confMap_subset conf c (h3.subset hc), rfl⟩

/-- After Update the sub-cluster carries exactly the configured addresses (Addr:Port keys). -/
theorem C09_update_shows_conf (old : List Backend) (conf : List BConf) (k : String) :
    (∃ b ∈ (rrUpdate old conf).1, b.key = k) ↔ (∃ c ∈ conf, c.key = k) := by
  rw [← List.mem_map, ← List.mem_map, ← confMap_keys conf k]
  exact (rrUpdate_keys old conf).mem_iff

/-- The same configuration again releases nothing: after an Update, a second Update with the same backend list keeps
    every object (so a reload that repeats the configuration in use cannot lose or re-create a backend). -/
theorem C09_update_same_conf_releases_nothing (old : List Backend) (conf : List BConf) :
    (rrUpdate (rrUpdate old conf).1 conf).2 = [] :=
  have hkeys := rrUpdate_keys old conf
  updLoop_keeps_all _ _ (hkeys.nodup_iff.mpr (confMap_nodup conf)) fun _ hb =>
    hkeys.subset (List.mem_map_of_mem hb)

/-- Newly added backends are selectable: fresh objects are available, unreleased, with the configured weight. -/
theorem C09_added_selectable (c : BConf) :
    (mkNew c).avail = true ∧ (mkNew c).released = 0 ∧ (mkNew c).weight = c.weight * 100 ∧
    (mkNew c).failNum = 0 ∧ (mkNew c).connNum = 0 := ⟨rfl, rfl, rfl, rfl, rfl⟩

/-- Sub-cluster merge, non-error path: kept sub-clusters keep their backend lists untouched (only the weight is
    rewritten), new ones start empty, and exactly the backends of vanished sub-clusters leave, each released once more. -/
theorem C09_gslb_reload_ok (c : Cluster) (gc : List (String × Int)) (hok : (gslbReload c gc).2.2 = false) :
    (∀ s ∈ (gslbReload c gc).1.subs, (∃ o ∈ c.subs, s.backs = o.backs ∧ s.name = o.name) ∨ s.backs = []) ∧
    (∀ b ∈ (gslbReload c gc).2.1, ∃ o ∈ c.subs, gc.lookup o.name = none ∧ ∃ x ∈ o.backs, b = rel x) :=
  gslbReload_spec c gc

/-- Fix C09-reload-check-first: a rejected gslb conf (no positive weight) changes and releases NOTHING. -/
theorem C09_reload_err_no_change (c : Cluster) (gc : List (String × Int)) (herr : (gslbReload c gc).2.2 = true) :
    (gslbReload c gc).1 = c ∧ (gslbReload c gc).2.1 = [] := by
  unfold gslbReload at herr ⊢
  split
  · exact ⟨rfl, rfl⟩
  · rename_i hne; simp [hne] at herr

/-- One BalTableReload with ANY configuration (clusters / sub-clusters / backends added, removed, duplicated, missing
    from the cluster table, zero weights, error returns) preserves the release discipline. -/
theorem C09_release_ok_reload (st : St) (g : GslbConf) (bc : TableConf) (h : ReleaseOk st) :
    ReleaseOk (balTableReload st g bc).st := balTableReload_ok st g bc h

/-- …hence after BalTable.Init and ANY sequence of reloads. -/
theorem C09_release_ok_history (g0 : GslbConf) (bc0 : TableConf) (hist : List (GslbConf × TableConf)) :
    ReleaseOk (runHist g0 bc0 hist) := by
  unfold runHist
  exact List.foldlRecOn hist _ (balTableInit_ok g0 bc0) fun st h p _ => balTableReload_ok st p.1 p.2 h

/-- A configuration file rejected by the loaders leaves the table and every backend exactly as they were. -/
theorem C09_rejected_file_changes_nothing (st : St) (g : GslbConf) (bc : TableConf) (h : confValid g bc = false) :
    fileReload st g bc = st := by
  simp [fileReload, h]

/-- The release discipline holds for every history that mixes API reloads, file reloads and rejected files. -/
theorem C09_release_ok_mixed_history (st : St) (h : ReleaseOk st) (hist : List (Bool × GslbConf × TableConf)) :
    ReleaseOk (runMixed st hist) := by
  induction hist generalizing st with
  | nil => exact h
  | cons p r ih =>
    obtain ⟨f, g, bc⟩ := p
    cases f with
    | false => exact ih _ (balTableReload_ok st g bc h)
    | true => exact ih _ (fileReload_ok st g bc h)

/-- No object is ever released twice: the close-of-closed-channel panic is unreachable. -/
theorem C09_release_le_one (g0 : GslbConf) (bc0 : TableConf) (hist : List (GslbConf × TableConf)) :
    (∀ b ∈ tableObjs (runHist g0 bc0 hist) ++ (runHist g0 bc0 hist).grave, b.released ≤ 1) ∧
    panicked (runHist g0 bc0 hist) = false :=
  (C09_release_ok_history g0 bc0 hist).le_one_no_panic

/-- Released objects are never selected again: selection (any algorithm) picks among the objects reachable from the
    table, and no object of the grave is reachable; conversely whatever is reachable is unreleased. -/
theorem C09_never_selected (g0 : GslbConf) (bc0 : TableConf) (hist : List (GslbConf × TableConf)) :
    (∀ b ∈ (runHist g0 bc0 hist).grave, b ∉ tableObjs (runHist g0 bc0 hist)) ∧
    (∀ b ∈ tableObjs (runHist g0 bc0 hist), b.released = 0) :=
  ⟨(C09_release_ok_history g0 bc0 hist).grave_unreachable, (C09_release_ok_history g0 bc0 hist).1⟩

/-! ### witnesses: how the unchanged code violates the full property
  (`gslbReloadOld` = `BalanceGslb.Reload` before fix C09-reload-check-first) -/

/-- WITNESS (class `subcluster-missing-in-table-keeps-backends`): a sub-cluster that the cluster table does not
    mention is skipped by `BackendReload`, so whatever backends it had stay in the table, unreleased and selectable,
    although the configuration no longer contains them. -/
theorem C09_witness_missing_sub_keeps_backends (c : Cluster) (cb : List (String × List BConf)) (s : Sub)
    (hs : s ∈ c.subs) (hmiss : cb.lookup s.name = none) : s ∈ (backendReload c cb).1.subs := by
  unfold backendReload
  simp only [List.map_map]
  refine List.mem_map.mpr ⟨s, hs, ?_⟩
  simp [hmiss]

/-- WITNESS (class `reload-err-released-reachable`, FIXED): before the fix, on the error return of `Reload` a sub-cluster that vanished
    from the conf has been released but is still listed. -/
theorem C09_witness_reload_err_keeps_released (b : Backend) (hb : b.released = 0) :
    let c : Cluster := { name := "c", subs := [{ name := "s", weight := 1, backs := [b] }] }
    let r := gslbReloadOld c []
    r.2.2 = true ∧ r.1.subs = [{ name := "s", weight := 1, backs := [rel b] }] ∧ (rel b).released = 1 := by
  dsimp only
  rw [gslbReloadOld_nil_releases_all]
  exact ⟨rfl, rfl, congrArg (· + 1) hb⟩

/-- …and a second reload of the same kind releases it again: count 2 = close of a closed channel
    (class `reload-err-double-release`, FIXED; on the unfixed code: panic while `BalTable.lock` is held). -/
theorem C09_witness_double_release (b : Backend) (hb : b.released = 0) :
    let c : Cluster := { name := "c", subs := [{ name := "s", weight := 1, backs := [b] }] }
    let c1 := (gslbReloadOld c []).1
    (gslbReloadOld c1 []).1.subs = [{ name := "s", weight := 1, backs := [rel (rel b)] }] ∧ (rel (rel b)).released = 2 := by
  dsimp only
  rw [gslbReloadOld_nil_releases_all, gslbReloadOld_nil_releases_all]
  exact ⟨rfl, congrArg (· + 2) hb⟩

-- `h0` of `C09_update_release_once` holds of a fresh object
example : (∀ o ∈ [mkNew ⟨"n", "a", 80, 1⟩], o.released = 0) := by simp [mkNew]

end BfeVerif.C09
