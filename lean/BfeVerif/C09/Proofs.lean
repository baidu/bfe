import BfeVerif.C09.Model
/-! C09 — `ReleaseOk` as an invariant of Init and BalTableReload (`balTableInit_ok`, `balTableReload_ok`), and the
  key bookkeeping of `BalanceRR.Update` (`updLoop_perm`, `rrUpdate_keys`). -/
namespace BfeVerif.C09

theorem updLoop_spec (old : List Backend) (m : List BConf) :
    (∀ b ∈ (updLoop old m).1, ∃ w, { b with weight := w } ∈ old) ∧
    (updLoop old m).2.1.Sublist (old.map rel) ∧
    (updLoop old m).2.2.Sublist m ∧
    (∀ o ∈ old, (∃ w, { o with weight := w } ∈ (updLoop old m).1) ∨ rel o ∈ (updLoop old m).2.1) := by
  fun_induction updLoop old m with
  | case1 m =>
    exact ⟨fun _ h => absurd h List.not_mem_nil, .refl _, .refl _, fun _ h => absurd h List.not_mem_nil⟩
  | case2 b r m c hf kept g m' heq ih =>
    rw [heq] at ih
    obtain ⟨h1, h2, h3, h4⟩ := ih
    -- first conjunct, head: with its old weight put back the kept backend is `b` (structure eta)
    exact ⟨List.forall_mem_cons.mpr ⟨⟨b.weight, List.mem_cons_self⟩,
        fun x hx => (h1 x hx).imp fun _ => List.mem_cons_of_mem _⟩,
      h2.cons _,
      h3.trans List.filter_sublist,
      List.forall_mem_cons.mpr ⟨.inl ⟨_, List.mem_cons_self⟩,
        fun o ho => (h4 o ho).imp_left (.imp fun _ => List.mem_cons_of_mem _)⟩⟩
  | case3 b r m hf kept g m' heq ih =>
    rw [heq] at ih
    obtain ⟨h1, h2, h3, h4⟩ := ih
    exact ⟨fun x hx => (h1 x hx).imp fun _ => List.mem_cons_of_mem _,
      h2.cons_cons _,
      h3,
      List.forall_mem_cons.mpr ⟨.inr List.mem_cons_self, fun o ho => (h4 o ho).imp_right (List.mem_cons_of_mem _)⟩⟩

theorem mem_rrUpdate {old : List Backend} {conf : List BConf} {b : Backend} :
    b ∈ (rrUpdate old conf).1 ↔
      b ∈ (updLoop old (confMap conf)).1 ∨ ∃ c ∈ (updLoop old (confMap conf)).2.2, mkNew c = b := by
  -- `rrUpdate` unfolds by defeq: its `let (k, g, m) := ..` is a projection
  show b ∈ _ ++ List.map mkNew _ ↔ _
  simp only [List.mem_append, List.mem_map, List.mem_mergeSort]

theorem rrUpdate_release (old : List Backend) (conf : List BConf) (h0 : ∀ o ∈ old, o.released = 0) :
    (∀ b ∈ (rrUpdate old conf).1, b.released = 0) ∧ (∀ b ∈ (rrUpdate old conf).2, b.released = 1) := by
  obtain ⟨h1, h2, _, _⟩ := updLoop_spec old (confMap conf)
  refine ⟨fun b hb => ?_, fun b hb => ?_⟩
  · rcases mem_rrUpdate.mp hb with hb | ⟨c, _, rfl⟩
    · obtain ⟨w, ho⟩ := h1 b hb
      exact h0 { b with weight := w } ho
    · rfl
  · obtain ⟨o, ho, rfl⟩ := List.mem_map.mp (h2.subset hb)
    exact congrArg (· + 1) (h0 o ho)

/-- the per-cluster half of `ReleaseOk` (`releaseOk_iff`) -/
def ClOk (c : Cluster) : Prop := ∀ s ∈ c.subs, ∀ b ∈ s.backs, b.released = 0

theorem mem_tableObjs {st : St} {b : Backend} :
    b ∈ tableObjs st ↔ ∃ c ∈ st.clusters, ∃ s ∈ c.subs, b ∈ s.backs := by
  simp only [tableObjs, List.mem_flatMap]

theorem releaseOk_iff {st : St} :
    ReleaseOk st ↔ (∀ c ∈ st.clusters, ClOk c) ∧ ∀ b ∈ st.grave, b.released = 1 := by
  unfold ReleaseOk tableObjs ClOk
  simp only [List.forall_mem_flatMap]

theorem gslbReload_spec (c : Cluster) (gc : List (String × Int)) :
    (∀ s ∈ (gslbReload c gc).1.subs, (∃ o ∈ c.subs, s.backs = o.backs ∧ s.name = o.name) ∨ s.backs = []) ∧
    (∀ b ∈ (gslbReload c gc).2.1, ∃ o ∈ c.subs, gc.lookup o.name = none ∧ ∃ x ∈ o.backs, b = rel x) := by
  unfold gslbReload
  by_cases herr : confTotal gc ≤ 0
  · rw [if_pos herr]
    exact ⟨fun s hs => Or.inl ⟨s, hs, rfl, rfl⟩, fun _ h => absurd h List.not_mem_nil⟩
  · rw [if_neg herr]
    refine ⟨fun s hs => ?_, ?_⟩
    · rcases List.mem_append.mp (List.mem_mergeSort.mp hs) with hs | hs
      · obtain ⟨o, ho, hso⟩ := List.mem_filterMap.mp hs
        cases hl : gc.lookup o.name with
        | none => rw [hl] at hso; cases hso
        | some w => rw [hl] at hso; cases hso; exact Or.inl ⟨o, ho, rfl, rfl⟩
      · obtain ⟨p, _, rfl⟩ := List.mem_map.mp hs
        exact Or.inr rfl
    · exact List.forall_mem_flatMap.mpr <| List.forall_mem_map.mpr <| List.forall_mem_filter.mpr fun o ho hn =>
        List.forall_mem_map.mpr fun x hx => ⟨o, ho, Option.isNone_iff_eq_none.mp hn, x, hx, rfl⟩

theorem gslbReload_ok (c : Cluster) (gc : List (String × Int)) (h : ClOk c) :
    ClOk (gslbReload c gc).1 ∧ ∀ b ∈ (gslbReload c gc).2.1, b.released = 1 := by
  obtain ⟨h1, h2⟩ := gslbReload_spec c gc
  refine ⟨fun s hs b hb => ?_, fun b hb => ?_⟩
  · rcases h1 s hs with ⟨o, ho, hbo, _⟩ | he
    · exact h o ho b (hbo ▸ hb)
    · rw [he] at hb; cases hb
  · obtain ⟨o, ho, _, x, hx, rfl⟩ := h2 b hb
    exact congrArg (· + 1) (h o ho x hx)

theorem backendReload_ok (c : Cluster) (cb : List (String × List BConf)) (h : ClOk c) :
    ClOk (backendReload c cb).1 ∧ ∀ b ∈ (backendReload c cb).2, b.released = 1 := by
  unfold backendReload
  extract_lets r
  have hr : ∀ x ∈ r, (∀ b ∈ x.1.backs, b.released = 0) ∧ ∀ b ∈ x.2, b.released = 1 :=
    List.forall_mem_map.mpr fun o ho => by
      cases cb.lookup o.name with
      | none => exact ⟨h o ho, fun _ hb => absurd hb List.not_mem_nil⟩
      | some conf => exact rrUpdate_release o.backs conf (h o ho)
  exact ⟨List.forall_mem_map.mpr fun x hx => (hr x hx).1, List.forall_mem_flatMap.mpr fun x hx => (hr x hx).2⟩

theorem balTableReload_ok (st : St) (g : GslbConf) (bc : TableConf) (h : ReleaseOk st) :
    ReleaseOk (balTableReload st g bc).st := by
  rw [releaseOk_iff] at h ⊢
  obtain ⟨hcl, hg⟩ := h
  unfold balTableReload
  extract_lets r1 remainder g1 r2
  -- `r1`: Reload of every cluster the gslb conf names; `r2`: BackendReload where the table has it
  have h1 : ∀ x ∈ r1, ClOk x.1 ∧ ∀ b ∈ x.2.1, b.released = 1 :=
    List.forall_mem_map.mpr fun p _ => gslbReload_ok _ _ <| by
      cases hf : st.clusters.find? (fun c => c.name == p.1) with
      | none => exact fun s hs => absurd hs List.not_mem_nil
      | some c => exact hcl c (List.mem_of_find?_eq_some hf)
  have h2 : ∀ y ∈ r2, ClOk y.1 ∧ ∀ b ∈ y.2.1, b.released = 1 :=
    List.forall_mem_map.mpr fun x hx => by
      cases bc.lookup x.1.name with
      | none => exact ⟨(h1 x hx).1, fun _ hb => absurd hb List.not_mem_nil⟩
      | some cb => exact backendReload_ok _ _ (h1 x hx).1
  -- a conjunct for each part of the new grave:
  -- old grave ++ (released by Reload ++ backends of clusters dropped from the gslb conf) ++ released by BackendReload
  simp only [g1, List.forall_mem_append, List.forall_mem_flatMap, List.forall_mem_map]
  exact ⟨fun y hy => (h2 y hy).1,
    ⟨hg, fun x hx => (h1 x hx).2,
      fun c hc s hs x hx => congrArg (· + 1) (hcl c (List.mem_filter.mp hc).1 s hs x hx)⟩,
    fun y hy => (h2 y hy).2⟩

theorem fileReload_ok (st : St) (g : GslbConf) (bc : TableConf) (h : ReleaseOk st) :
    ReleaseOk (fileReload st g bc) := by
  unfold fileReload
  split
  · exact balTableReload_ok st g bc h
  · exact h

theorem balTableInit_ok (g : GslbConf) (bc : TableConf) : ReleaseOk (balTableInit g bc).st := by
  rw [releaseOk_iff]
  unfold balTableInit
  extract_lets cs ok
  -- gslbInit: sub-clusters without backends
  have hok : ∀ c ∈ ok, ClOk c :=
    List.forall_mem_map.mpr <| List.forall_mem_filter.mpr <| List.forall_mem_map.mpr fun p _ _ s hs b hb => by
      obtain ⟨q, _, rfl⟩ := List.mem_map.mp (List.mem_mergeSort.mp hs)
      exact absurd hb List.not_mem_nil
  split
  · exact ⟨hok, fun _ h => absurd h List.not_mem_nil⟩  -- some cluster failed Init: the `ok` ones, without backends
  · refine ⟨List.forall_mem_map.mpr <| List.forall_mem_map.mpr fun c hc => ?_, fun _ h => absurd h List.not_mem_nil⟩
    cases bc.lookup c.name with
    | none => exact hok c hc
    | some cb =>
      refine List.forall_mem_map.mpr fun s0 hs0 b hbs => ?_
      unfold initSub at hbs
      cases hl0 : cb.lookup s0.name with
      | none => rw [hl0] at hbs; exact hok c hc s0 hs0 b hbs
      | some conf => rw [hl0] at hbs; obtain ⟨cf, _, rfl⟩ := List.mem_map.mp hbs; rfl

theorem ReleaseOk.le_one_no_panic {st : St} (h : ReleaseOk st) :
    (∀ b ∈ tableObjs st ++ st.grave, b.released ≤ 1) ∧ panicked st = false := by
  have hle : ∀ b ∈ tableObjs st ++ st.grave, b.released ≤ 1 :=
    List.forall_mem_append.mpr ⟨fun b hb => h.1 b hb ▸ Nat.zero_le 1, fun b hb => h.2 b hb ▸ Nat.le_refl 1⟩
  refine ⟨hle, Bool.eq_false_iff.mpr fun hany => ?_⟩
  obtain ⟨b, hb, h2⟩ := List.any_eq_true.mp hany
  exact absurd (Nat.le_trans (of_decide_eq_true h2) (hle b hb)) (by decide)

theorem ReleaseOk.grave_unreachable {st : St} (h : ReleaseOk st) : ∀ b ∈ st.grave, b ∉ tableObjs st :=
  fun b hb hbt => absurd ((h.1 b hbt).symm.trans (h.2 b hb)) (by decide)

/-- the keys of a conf map after `delete(confMap, x)` -/
theorem keys_filter (m : List BConf) (x : String) :
    (m.filter fun d => d.key != x).map (·.key) = (m.map (·.key)).filter (· != x) :=
  (List.filter_map (p := (· != x))).symm

theorem mem_keys_filter {m : List BConf} {x k : String} :
    k ∈ (m.filter fun d => d.key != x).map (·.key) ↔ k ∈ m.map (·.key) ∧ k ≠ x := by
  rw [keys_filter, List.mem_filter, bne_iff_ne]

theorem confMap_subset (conf : List BConf) : ∀ c ∈ confMap conf, c ∈ conf := by
  unfold confMap
  refine List.foldlRecOn (motive := fun m => ∀ c ∈ m, c ∈ conf) conf _
    (fun _ h => absurd h List.not_mem_nil) (fun m hm x hx c hc => ?_)
  rcases List.mem_append.mp hc with hc | hc
  · exact hm c (List.mem_filter.mp hc).1
  · rw [List.mem_singleton.mp hc]; exact hx

theorem confMap_keys (conf : List BConf) (k : String) :
    k ∈ (confMap conf).map (·.key) ↔ k ∈ conf.map (·.key) := by
  unfold confMap
  -- a later duplicate replaces an entry
  suffices gen : ∀ acc : List BConf,
      k ∈ (conf.foldl (fun m c => m.filter (fun d => d.key != c.key) ++ [c]) acc).map (·.key) ↔
        k ∈ acc.map (·.key) ∨ k ∈ conf.map (·.key) by simpa using gen []
  induction conf with
  | nil => intro acc; simp
  | cons x r ih =>
    intro acc
    rw [List.foldl_cons, ih, List.map_append, List.mem_append, mem_keys_filter, List.map_cons, List.mem_cons]
    by_cases hx : k = x.key <;> simp [hx]

theorem confMap_nodup (conf : List BConf) : ((confMap conf).map (·.key)).Nodup := by
  unfold confMap
  apply List.foldlRecOn (motive := fun m : List BConf => (m.map (·.key)).Nodup)
  · exact List.nodup_nil
  · intro m hm x _
    rw [List.map_append, List.nodup_append]
    refine ⟨hm.sublist (List.filter_sublist.map _), by simp, fun a ha b hb => ?_⟩
    rw [List.mem_singleton.mp hb]
    exact (mem_keys_filter.mp ha).2

theorem updLoop_keeps_all (l : List Backend) (m : List BConf)
    (hnd : (l.map (·.key)).Nodup) (hin : ∀ b ∈ l, b.key ∈ m.map (·.key)) :
    (updLoop l m).2.1 = [] := by
  fun_induction updLoop l m with
  | case1 m => rfl
  | case2 b r m c hf kept g m' heq ih =>
    rw [heq] at ih
    rw [List.map_cons, List.nodup_cons] at hnd
    -- the keys of the rest differ from `b.key`, so their entries survive the filter
    exact ih hnd.2 fun x hx => mem_keys_filter.mpr
      ⟨hin x (List.mem_cons_of_mem _ hx), fun e => hnd.1 (List.mem_map.mpr ⟨x, hx, e⟩)⟩
  | case3 b r m hf kept g m' heq ih =>
    obtain ⟨c, hc, hk⟩ := List.mem_map.mp (hin b List.mem_cons_self)
    exact absurd (List.find?_eq_none.mp hf c hc) (by simpa using hk)

theorem updLoop_perm (old : List Backend) (m : List BConf) (hm : (m.map (·.key)).Nodup) :
    ((updLoop old m).1.map (·.key) ++ (updLoop old m).2.2.map (·.key)).Perm (m.map (·.key)) := by
  fun_induction updLoop old m with
  | case1 m => exact .refl _
  | case2 b r m c hf kept g m' heq ih =>
    rw [heq] at ih
    have hbk : b.key ∈ m.map (·.key) :=
      List.mem_map.mpr ⟨c, List.mem_of_find?_eq_some hf, by simpa using List.find?_some hf⟩
    refine ((ih (hm.sublist (List.filter_sublist.map _))).cons b.key).trans ?_
    -- on duplicate-free keys the delete is `erase`
    rw [keys_filter, ← hm.erase_eq_filter]
    exact (List.perm_cons_erase hbk).symm
  | case3 b r m hf kept g m' heq ih => rw [heq] at ih; exact ih hm

theorem rrUpdate_keys (old : List Backend) (conf : List BConf) :
    ((rrUpdate old conf).1.map (·.key)).Perm ((confMap conf).map (·.key)) := by
  show ((_ ++ List.map mkNew _).map _).Perm _  -- as in `mem_rrUpdate`
  rw [List.map_append, List.map_map]
  exact (List.Perm.append_left _ ((List.mergeSort_perm _ _).map _)).trans
    (updLoop_perm old _ (confMap_nodup conf))

theorem gslbReloadOld_nil_releases_all (c : Cluster) :
    gslbReloadOld c [] = ({ c with subs := c.subs.map relSub }, [], true) := by
  have hk : c.subs.filterMap (fun s => (([] : List (String × Int)).lookup s.name).map fun w => { s with weight := w }) = [] :=
    List.filterMap_eq_nil_iff.mpr fun _ _ => rfl
  have he : errSub [] = relSub := funext fun _ => rfl
  unfold gslbReloadOld
  rw [hk, he]
  simp [totalWeight]

end BfeVerif.C09
