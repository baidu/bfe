import BfeVerif.C25.Roundtrip
/-!
  C25 — requests forwarded to backends cannot be split or injected.

  Full-strength statement (the executable oracle of the driver):
      `C25_full fe := ∀ r, guar fe r → writeRequest r = (true, bs) → ∃ p, rfcOne bs = .ok p ∧ compareParsed r p = none`
  It FAILS for every frontend (witnesses below, replayed in corpus/C25): token syntax of methods/names and CTLs in
  values are not enforced anywhere, HTTP/1 lets bare CR through, HTTP/2 lets SP through.  What is
  proved: values never carry a line break (all frontends); when no verbatim component contains CR/LF the
  strict line scanner sees exactly the lines bfe meant to write followed by the body (no injected field,
  no second message head) — and the HTTP/2 frontend and the SPDY frontend (bfe_spdy as patched by
  fixes/C25-spdy-validate.md) guarantee that hypothesis.  For the requests that meet `oneReqHyp` the round trip itself
  holds: `C25_one_request_partial`, its layers in `C25_layer*`.
-/
namespace BfeVerif.C25

def guar (fe : Nat) (r : Req) : Bool :=
  match fe with | 0 => guarH1 r | 1 => guarH2 r | _ => guarSpdy r

/-- the property at full strength for frontend `fe` (0 = HTTP/1, 1 = HTTP/2, 2 = SPDY) -/
def C25_full (fe : Nat) : Prop :=
  ∀ r bs, guar fe r = true → writeRequest r = (true, bs) →
    ∃ p, rfcOne bs = .ok p ∧ compareParsed r p = none

/-- **Values are safe on every frontend**: whatever bytes a header value holds, what `WriteSubset`
    writes for it contains neither CR nor LF. -/
theorem C25_value_sanitised (v : Bytes) : ∀ b ∈ sanitize v, b ≠ 13 ∧ b ≠ 10 :=
  noBreak_sanitize v

theorem C25_lines_clean (r : Req) (t : TW) (hs : lineSafe r = true) (hn : newTW r = some t) :
    ∀ l ∈ headLinesOf r t, NoBreak l ∧ l ≠ [] := by
  obtain ⟨hm, hu, huu, hh, huh, hk, htr⟩ := (lineSafe_iff r).mp hs
  have heff : NoBreak (effHost r) := by unfold effHost; split <;> assumption
  have hmeth : NoBreak (effMethod r) := by
    unfold effMethod; split
    · decide
    · exact hm
  have hruri : NoBreak (ruri r) := by
    unfold ruri
    split
    · exact heff
    · split
      · split <;> assumption
      · exact huu
  exact headLinesOf_clean r t hmeth hruri heff hk htr hn

/-- **No injected lines (partial: hypothesis `lineSafe`)**: if method, target candidates, host and header
    / trailer names contain no CR/LF, a strict CRLF line scanner reads from the written bytes exactly the head
    lines bfe intended, and what follows the empty line is exactly the body encoding: no header name or value
    adds a field or a second message head. -/
theorem C25_no_injected_lines_partial (r : Req) (bs : Bytes) (hs : lineSafe r = true)
    (hw : writeRequest r = (true, bs)) :
    ∃ t, newTW r = some t ∧
      headLines (bs.length + 1) bs = some (headLinesOf r t, (twBody t).1) := by
  obtain ⟨t, hn, hbs, _⟩ := write_shape r bs hw
  refine ⟨t, hn, ?_⟩
  rw [hbs]
  exact headLines_join _ _ (C25_lines_clean r t hs hn) _ (Nat.lt_succ_self _)

theorem C25_byte_ok_of (p : UInt8 → Bool) (h13 : p 13 = false) (h10 : p 10 = false) (b : UInt8) (hb : p b = true) :
    (b != 13 && b != 10) = true := by
  rw [Bool.and_eq_true, bne_iff_ne, bne_iff_ne]
  exact ⟨ne_of_pred h13 hb, ne_of_pred h10 hb⟩

/-- **Request line (partial: token method, target without SP/CTL)**: the written request line splits at SP
    into exactly method, target, `HTTP/1.1` — what fails for HTTP/2's `:method = "GET /x"` / `:path = "/a b"`. -/
theorem C25_request_line_partial (r : Req) (hm : isToken (effMethod r) = true)
    (ht : (ruri r).all isTargetByte = true) :
    splitOn 32 (requestLine r) = [effMethod r, ruri r, sHTTP11] :=
  splitOn_requestLine _ _ hm ht

/-- the HTTP/2 frontend guarantees the hypothesis: `validHeaderFieldValue` on every value including the
    pseudo headers, token names, and a parsable `:path` exclude CR and LF everywhere -/
theorem C25_h2_lineSafe (r : Req) (hg : guarH2 r = true) : lineSafe r = true := by
  simp only [guarH2, Bool.and_eq_true] at hg
  -- method ≠ [], method, requestURI, urlRuri, host, urlHost, header, te, ≥ 1.1, ¬close, trailer
  obtain ⟨⟨⟨⟨⟨⟨⟨⟨⟨⟨_, hm⟩, hu⟩, huu⟩, hh⟩, huh⟩, hk⟩, _⟩, _⟩, _⟩, htr⟩ := hg
  have v : ∀ s : Bytes, h2Value s = true → NoBreak s := noBreak_of_pred _ (by decide) (by decide)
  refine (lineSafe_iff r).mpr ⟨v _ hm, noBreak_of_noCTL hu, noBreak_of_noCTL huu, v _ hh, noBreak_of_noCTL huh,
    fun kv hkv => noBreak_of_token (Bool.and_eq_true _ _ ▸ List.all_eq_true.mp hk kv hkv).1, fun ks e k hk' => ?_⟩
  rw [e] at htr
  exact v k (List.all_eq_true.mp htr k hk')

/-- **HTTP/2: no field or message can be injected**, for every request the frontend can build. -/
theorem C25_h2_no_injected_lines (r : Req) (bs : Bytes) (hg : guarH2 r = true)
    (hw : writeRequest r = (true, bs)) :
    ∃ t, newTW r = some t ∧ headLines (bs.length + 1) bs = some (headLinesOf r t, (twBody t).1) :=
  C25_no_injected_lines_partial r bs (C25_h2_lineSafe r hg) hw

/-- the SPDY frontend (`guarSpdy`: with the `validLinePart` test of fixes/C25-spdy-validate.md) guarantees the hypothesis as well -/
theorem C25_spdy_lineSafe (r : Req) (hg : guarSpdy r = true) : lineSafe r = true := by
  simp only [guarSpdy, Bool.and_eq_true] at hg
  -- method, requestURI, urlRuri, host, urlHost, header, te, ≥ 1.1, ¬close, trailer
  obtain ⟨⟨⟨⟨⟨⟨⟨⟨⟨hm, hu⟩, huu⟩, hh⟩, huh⟩, hk⟩, _⟩, _⟩, _⟩, htr⟩ := hg
  have lp : ∀ s : Bytes, linePart s = true → NoBreak s := fun s hs =>
    noBreak_of_pred isTargetByte (by decide) (by decide) s (Bool.and_eq_true _ _ ▸ hs).2
  refine (lineSafe_iff r).mpr ⟨lp _ hm, lp _ hu, noBreak_of_noCTL huu, lp _ hh, noBreak_of_noCTL huh,
    fun kv hkv => lp _ (Bool.and_eq_true _ _ ▸ List.all_eq_true.mp hk kv hkv).1, fun ks e => ?_⟩
  rw [Option.isNone_iff_eq_none.mp htr] at e
  cases e

/-- **SPDY (patched frontend): no field or message can be injected**, for every request the frontend can build. -/
theorem C25_spdy_no_injected_lines (r : Req) (bs : Bytes) (hg : guarSpdy r = true)
    (hw : writeRequest r = (true, bs)) :
    ∃ t, newTW r = some t ∧ headLines (bs.length + 1) bs = some (headLinesOf r t, (twBody t).1) :=
  C25_no_injected_lines_partial r bs (C25_spdy_lineSafe r hg) hw

/-! The layers `one_request` composes, under the names checks/C25.json cites (each is the lemma of Roundtrip.lean or
    Proofs.lean it is proved by, word for word). -/

theorem C25_layer1_request_line (r : Req) (hm : isToken (effMethod r) = true)
    (hne : (ruri r).isEmpty = false) (ht : (ruri r).all isTargetByte = true) :
    reqLine (requestLine r) = .ok (effMethod r, ruri r) :=
  reqLine_requestLine _ _ hm hne ht

/-- layer 2, one field line: name verbatim, value = the documented rewrite, for ANY value whose sanitised form
    has no control byte but HT -/
theorem C25_layer2_field_line (k v : Bytes) (hk : isToken k = true) (hv : (sanitize v).all isValueByte = true) :
    parseField (fieldLine k v) = some (k, sanitize v) :=
  parseField_fieldLine k v hk hv

theorem C25_layer2_header_block (h : List (Bytes × List Bytes))
    (hk : ∀ kv ∈ h, isToken kv.1 = true ∧ ∀ v ∈ kv.2, (sanitize v).all isValueByte = true) :
    parseFields (subsetLines h) = some (clientFields (sortKV (h.filter fun kv => !excluded kv.1))) :=
  parseFields_subsetLines h hk

theorem C25_layer3_content_length (n : Nat) : decVal (toDec n) = some n := decVal_toDec n

/-- layer 3, chunked framing, for every chunking of the body into non-empty pieces (hex sizes of any magnitude);
    the proof does not use `hne`: an empty piece writes nothing -/
theorem C25_layer3_chunked (ps : List Bytes) (hne : ∀ p ∈ ps, p ≠ []) :
    dechunk ((chunkEnc ps ++ [48, 13, 10] ++ crlf).length + 1) (chunkEnc ps ++ [48, 13, 10] ++ crlf) =
      some (ps.flatten, []) :=
  dechunk_chunkEnc ps _ (Nat.lt_succ_self _)

/-- **C25, round trip (partial: hypothesis `oneReqHyp`)**.  For every request whose method is a token, whose
    target has no SP/CTL, whose host has no CTL, whose header names are tokens (not re-spelling Host /
    Transfer-Encoding / Content-Length) and whose values are arbitrary up to control bytes other than
    CR/LF/HT — with any body split into any non-empty pieces, declared length or not, under what httpProtoSet and
    the frontends fix (HTTP/1.1, Close=false, TransferEncoding ∈ {[], [chunked]}, no declared trailer) —: the bytes `Request.write`
    produces are accepted by the strict single-request parser as EXACTLY ONE request, nothing remains, and
    that request has the same method, the same target, the Host bfe chose, exactly the client's non-excluded
    fields with sanitised values (as a multiset) and the same body. -/
theorem C25_one_request_partial (r : Req) (bs : Bytes) (hg : oneReqHyp r = true)
    (hw : writeRequest r = (true, bs)) :
    ∃ p, rfcOne bs = .ok p ∧ compareParsed r p = none ∧
      p.method = effMethod r ∧ p.target = ruri r ∧ p.body = bodyOf r := by
  obtain ⟨t, _, hp⟩ := one_request r bs (hyp_of r hg) hw
  exact ⟨_, hp, compare_all r t (hyp_of r hg), rfl, rfl, rfl⟩

/-- `C25_full` restricted to the requests that meet `oneReqHyp` (the frontend's guarantee is not needed) -/
theorem C25_full_partial (fe : Nat) (r : Req) (bs : Bytes) (_hg : guar fe r = true) (hh : oneReqHyp r = true)
    (hw : writeRequest r = (true, bs)) : ∃ p, rfcOne bs = .ok p ∧ compareParsed r p = none := by
  obtain ⟨p, h1, h2, _⟩ := C25_one_request_partial r bs hh hw
  exact ⟨p, h1, h2⟩

/-! ### witnesses: the full statement fails for every frontend (syntax of method / names / values is not
    enforced); and what the unpatched SPDY frontend (`guarSpdyOld`) lets through -/
/-- the oracle's judgement of what `writeRequest` produced for `r` -/
def verdictOf (r : Req) : Option String :=
  match rfcOne (writeRequest r).2 with
  | .ok p => compareParsed r p
  | .error e => some e.name

def base : Req :=
  { method := sGET, requestURI := [47], urlRuri := [47], urlPathEmpty := false, reparse := some ([47], true),
    host := [97], urlHost := [], header := [], body := some [], contentLength := 0, te := [],
    close := false, atLeast11 := true, trailer := none }

/-- SPDY method `"G(T"`: visible non-token bytes are still accepted (as on HTTP/1) -/
def wSpdyMethod : Req := { base with method := [71, 40, 84] }
/-- SPDY `:host = "a\r\nEvil: 1"` -/
def wSpdyHost : Req := { base with host := [97, 13, 10, 69, 118, 105, 108, 58, 32, 49] }
/-- SPDY header name `"x\r\nevil"` -/
def wSpdyName : Req := { base with header := [([120, 13, 10, 101, 118, 105, 108], [[49]])] }
/-- HTTP/2 `:method = "GET /x"` -/
def wH2Method : Req := { base with method := [71, 69, 84, 32, 47, 120] }
/-- HTTP/1 method `"GE\rT"` (bare CR survives ReadRequest) -/
def wH1Method : Req := { base with method := [71, 69, 13, 84] }

theorem C25_witness_spdy_method :
    guarSpdy wSpdyMethod = true ∧ (writeRequest wSpdyMethod).1 = true ∧ verdictOf wSpdyMethod = some "bad-method" := by
  decide +kernel

/-- unpatched SPDY frontend: the Host value injects the field `Evil: 1` — the strict parser ACCEPTS the message,
    with a different Host and an extra field; the patched frontend rejects the request -/
theorem C25_witness_spdy_host :
    guarSpdyOld wSpdyHost = true ∧ guarSpdy wSpdyHost = false ∧ (writeRequest wSpdyHost).1 = true ∧ verdictOf wSpdyHost = some "diff-host" := by
  decide +kernel

/-- unpatched SPDY frontend: a header NAME injects a field line (`x` alone is then not a field: rejected; four head lines instead of three) -/
theorem C25_witness_spdy_name :
    guarSpdyOld wSpdyName = true ∧ guarSpdy wSpdyName = false ∧ (writeRequest wSpdyName).1 = true ∧ verdictOf wSpdyName = some "bad-field" ∧
    (headLines 100 (writeRequest wSpdyName).2).map (fun x => x.1.length) = some 4 := by
  decide +kernel

/-- HTTP/2: SP in `:method` gives a four-part request line -/
theorem C25_witness_h2_method :
    guarH2 wH2Method = true ∧ (writeRequest wH2Method).1 = true ∧ verdictOf wH2Method = some "reqline-parts" := by
  decide +kernel

/-- HTTP/1: a bare CR in the method reaches the backend's request line -/
theorem C25_witness_h1_method :
    guarH1 wH1Method = true ∧ (writeRequest wH1Method).1 = true ∧ verdictOf wH1Method = some "line-structure" := by
  decide +kernel

theorem C25_fails_of_witness (fe : Nat) (w : Req) (hg : guar fe w = true) (hw : (writeRequest w).1 = true)
    (hv : verdictOf w ≠ none) : ¬ C25_full fe := by
  intro h
  obtain ⟨p, hp, hc⟩ := h w (writeRequest w).2 hg (Prod.ext hw rfl)
  unfold verdictOf at hv
  rw [hp] at hv
  exact hv hc

theorem C25_full_fails : ¬ C25_full 0 ∧ ¬ C25_full 1 ∧ ¬ C25_full 2 :=
  ⟨C25_fails_of_witness 0 wH1Method C25_witness_h1_method.1 C25_witness_h1_method.2.1 (by rw [C25_witness_h1_method.2.2]; decide),
   C25_fails_of_witness 1 wH2Method C25_witness_h2_method.1 C25_witness_h2_method.2.1 (by rw [C25_witness_h2_method.2.2]; decide),
   C25_fails_of_witness 2 wSpdyMethod C25_witness_spdy_method.1 C25_witness_spdy_method.2.1 (by rw [C25_witness_spdy_method.2.2]; decide)⟩

/-! non-vacuity of the partial theorem and of the HTTP/2 corollary -/
def exOK : Req := { base with header := [([88, 45, 65], [[49, 32, 50]]), (kConnection, [sClose])],
                              body := some [[104, 105]], contentLength := 2 }
example : guarH2 exOK = true := by decide +kernel
example : lineSafe exOK = true := by decide +kernel
example : (writeRequest exOK).1 = true := by decide +kernel
example : verdictOf exOK = none := by decide +kernel
example : oneReqHyp exOK = true := by decide +kernel
/-- chunked body in two pieces, value with CRLF injection attempt, duplicate values -/
def exChunked : Req := { base with method := [80, 79, 83, 84], header := [([88], [[49, 13, 10, 69, 58, 50], [32, 51, 32]])],
                                   body := some [[104], [105, 33]], contentLength := -1 }
example : oneReqHyp exChunked = true ∧ (writeRequest exChunked).1 = true := by decide +kernel
/-- a value carrying CRLF does not break the lines (lineSafe says nothing about values) -/
def exVal : Req := { base with header := [([88], [[49, 13, 10, 69, 58, 50]])] }
example : lineSafe exVal = true ∧ verdictOf exVal = none := by decide +kernel

end BfeVerif.C25
