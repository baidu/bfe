import BfeVerif.C03.Proofs
/-!
  C03 — a balancing decision never returns an ineligible target and errs exactly when the path the request
  is entitled to contains no eligible target.  `balance c retry h n` mirrors `BalanceGslb.Balance` (h = hash of
  the key, n = the `rand` value drawn by `randomSelectExclude`); every theorem holds for all `h` and `n`.
-/
namespace BfeVerif.C03

/-- **Per algorithm** (smooth WRR, WLC, sticky): `SubCluster.balance` returns an available backend of the
    sub-cluster with weight > 0, and fails iff there is none. -/
theorem C03_instance_level (a : Algo) (bs : List Be) (h : Nat) :
    (∀ b, (subPick a bs h).1 = some b → b ∈ bs ∧ b.avail = true ∧ 0 < b.w) ∧
    ((subPick a bs h).1 = none ↔ ∀ b ∈ bs, elig b = false) := by
  have hp := subPick_spec a bs h
  exact ⟨fun b hb => ⟨(hp.1 b hb).1, (elig_iff b).mp (hp.1 b hb).2⟩, hp.none_iff⟩

/-- the request still has an eligible target on the path it is entitled to: budget left, first choice not the
    black hole, and either an in-cluster attempt is allowed and the first choice has an eligible backend, or
    cross retry is enabled and the sub-cluster drawn by `randomSelectExclude` has one. -/
def EligiblePath (c : Cl) (retry : Int) (h n : Nat) : Prop :=
  retry ≤ c.retryMax + c.crossRetry ∧ ∃ cur, firstChoice c h = some cur ∧ cur.name ≠ blackholeName ∧
    ((retry ≤ c.retryMax ∧ hasElig c.algo cur = true) ∨
     (0 < c.crossRetry ∧ ∃ o, randomSelectExclude c cur n = some o ∧ hasElig c.algo o = true))

/-- **Error iff nothing eligible**: `Balance` succeeds exactly when the entitled path has an eligible target. -/
theorem C03_ok_iff (c : Cl) (retry : Int) (h n : Nat) :
    resOk (balance c retry h n).1 = true ↔ EligiblePath c retry h n := by
  simp only [resOk_iff, balance_eq_ok_iff, EligiblePath]
  constructor
  · rintro ⟨sub, b, hle, cur, hf, hne, hx⟩
    exact ⟨hle, cur, hf, hne, hx.imp (fun ⟨hr, _, hp⟩ => ⟨hr, (subPick_isSome c.algo cur h).mp ⟨b, hp⟩⟩)
      fun ⟨_, hpos, o, ho, _, hp⟩ => ⟨hpos, o, ho, (subPick_isSome c.algo o h).mp ⟨b, hp⟩⟩⟩
  · rintro ⟨hle, cur, hf, hne, hx⟩
    -- the in-cluster attempt decides which of the two ways is taken
    by_cases hin : retry ≤ c.retryMax ∧ ∃ b, (subPick c.algo (effBs c.algo cur) h).1 = some b
    · obtain ⟨hr, b, hp⟩ := hin
      exact ⟨cur.name, b, hle, cur, hf, hne, Or.inl ⟨hr, rfl, hp⟩⟩
    · obtain ⟨hpos, o, ho, he⟩ := hx.resolve_left fun ⟨hr, he⟩ => hin ⟨hr, (subPick_isSome c.algo cur h).mpr he⟩
      obtain ⟨b, hp⟩ := (subPick_isSome c.algo o h).mpr he
      exact ⟨o.name, b, hle, cur, hf, hne, Or.inr ⟨fun hr => Option.eq_none_iff_forall_ne_some.mpr
        fun b' hp' => hin ⟨hr, b', hp'⟩, hpos, o, ho, rfl, hp⟩⟩

theorem C03_err_iff (c : Cl) (retry : Int) (h n : Nat) :
    (∃ e s, (balance c retry h n).1 = .err e s) ↔ ¬ EligiblePath c retry h n := by
  rw [← C03_ok_iff]
  cases (balance c retry h n).1 with
  | ok s b => exact ⟨fun ⟨_, _, h'⟩ => (nomatch h'), fun h' => absurd rfl h'⟩
  | err e s => exact ⟨fun _ h' => (nomatch h'), fun _ => ⟨e, s, rfl⟩⟩

/-- **Never an ineligible target**: whatever `Balance` returns is available, has weight > 0 and belongs to a
    configured sub-cluster other than the black hole: the first (hash) choice or a cross-retry target. -/
theorem C03_backend_ok (c : Cl) (retry : Int) (h n : Nat) (sub : String) (b : Be)
    (hres : (balance c retry h n).1 = .ok sub b) :
    ∃ s ∈ c.subs, s.name = sub ∧ b ∈ effBs c.algo s ∧ b.avail = true ∧ 0 < b.w ∧ sub ≠ blackholeName ∧
      (firstChoice c h = some s ∨ (0 ≤ s.w ∧ 0 < c.crossRetry)) := by
  obtain ⟨_, cur, hf, hne, ⟨_, rfl, hp⟩ | ⟨_, hpos, o, ho, rfl, hp⟩⟩ := (balance_eq_ok_iff c retry h n sub b).mp hres
  · obtain ⟨hb1, hb2, hb3⟩ := (C03_instance_level c.algo (effBs c.algo cur) h).1 b hp
    exact ⟨cur, firstChoice_mem c h cur hf, rfl, hb1, hb2, hb3, hne, Or.inl hf⟩
  · obtain ⟨hm, _, hw, hbh⟩ := randomSelectExclude_spec c cur o n ho
    obtain ⟨hb1, hb2, hb3⟩ := (C03_instance_level c.algo (effBs c.algo o) h).1 b hp
    exact ⟨o, hm, rfl, hb1, hb2, hb3, hbh, Or.inr ⟨hw, hpos⟩⟩

/-- **Black hole**: a request whose hash choice is `GSLB_BLACKHOLE` is rejected with `ErrGslbBlackhole`,
    never forwarded. -/
theorem C03_blackhole (c : Cl) (retry : Int) (h n : Nat) (cur : SubSt)
    (hbud : retry ≤ c.retryMax + c.crossRetry)
    (hf : firstChoice c h = some cur) (hb : cur.name = blackholeName) :
    (balance c retry h n).1 = .err .blackhole blackholeName := by
  unfold balance
  have : ¬ retry > c.retryMax + c.crossRetry := by omega
  simp [this, hf, hb]

theorem C03_init_names_nodup (conf : List SubSt) (rm cr : Int) (a : Algo) (c : Cl)
    (hnd : (conf.map (·.name)).Nodup) (hc : mkCluster conf rm cr a = some c) : NamesNodup c := by
  rw [NamesNodup, (mkCluster_some hc).1]
  exact ((C02.isort_perm _ _).map _).nodup_iff.mpr hnd

/-- **First choice has positive weight** on a cluster built by `Init`. -/
theorem C03_first_choice_positive (conf : List SubSt) (rm cr : Int) (a : Algo) (c : Cl)
    (hnd : (conf.map (·.name)).Nodup)
    (hc : mkCluster conf rm cr a = some c) (h : Nat) (s : SubSt) (hf : firstChoice c h = some s) : 0 < s.w :=
  firstChoice_pos c c.g (C03_init_names_nodup conf rm cr a c hnd hc) (mkCluster_some hc).2 (fun _ => rfl) h s hf

/-- `checkSlowStart` never leaves a (re)starting backend above its configured weight: the `weight = 1` written by
    `initSlowStart` is recomputed by `updateSlowStart` in the same pass. -/
theorem C03_slowstart_never_above_final (ssT : Int) (b : Be) (h : b.restart = true ∨ b.inSS = true) :
    (ssStep ssT b).w ≤ b.final ∧ (ssStep ssT b).final = b.final ∧ (ssStep ssT b).addr = b.addr ∧
    (ssStep ssT b).avail = b.avail :=
  ⟨(ssStep_spec ssT b).1 h, (ssStep_spec ssT b).2⟩

/-- **A restarted backend with configured weight ≤ 0 is never handed out**: with slow start enabled, a backend
    that `Balance` returns while it is restarted or in slow start has configured weight (`final`) > 0. -/
theorem C03_slowstart_configured_positive (c : Cl) (retry : Int) (h n : Nat) (sub : String) (b : Be)
    (hres : (balance c retry h n).1 = .ok sub b) :
    ∃ s ∈ c.subs, s.name = sub ∧ ∃ b0 ∈ s.bs, b0.addr = b.addr ∧ b0.avail = true ∧
      (c.algo ≠ .sticky → 0 < s.ss → (b0.restart = true ∨ b0.inSS = true) → 0 < b0.final) := by
  obtain ⟨s, hs, hn, hb, hav, hw, _, _⟩ := C03_backend_ok c retry h n sub b hres
  refine ⟨s, hs, hn, ?_⟩
  unfold effBs at hb
  split at hb
  · rename_i hc
    exact ⟨b, hb, rfl, hav, fun h1 h2 _ => hc.elim (absurd · h1) fun hc => absurd h2 (Int.not_lt.mpr hc)⟩
  · obtain ⟨b0, hb0, rfl⟩ := List.mem_map.mp hb
    obtain ⟨hle, _, haddr, havail⟩ := ssStep_spec s.ss b0
    exact ⟨b0, hb0, haddr.symm, havail ▸ hav, fun _ _ ht => Int.lt_of_lt_of_le hw (hle ht)⟩

/-- **The weights after a backend reload (`BalanceRR.Update`) are those of the LAST configuration**, whatever the
    list was before: a backend re-configured with weight <= 0 is ineligible from then on, a removed one is gone. -/
theorem C03_update_last_conf (bs : List Be) (conf : BConf) (hnd : (conf.map (·.1)).Nodup) :
    (∀ b ∈ updateBs bs conf, ∃ p ∈ conf, p.1 = b.addr ∧ b.w = 100 * p.2) ∧
    (∀ p ∈ conf, ∃ b ∈ updateBs bs conf, b.addr = p.1 ∧ b.w = 100 * p.2) := by
  unfold updateBs
  constructor
  · intro b hb
    rcases List.mem_append.mp hb with hb | hb
    · obtain ⟨b0, _, h⟩ := List.mem_filterMap.mp hb
      obtain ⟨p, hp, rfl⟩ := Option.map_eq_some_iff.mp h
      exact ⟨p, List.mem_of_find?_eq_some hp, eq_of_beq (List.find?_some hp :), rfl⟩
    · obtain ⟨p, hp, rfl⟩ := List.mem_map.mp hb
      exact ⟨p, (List.mem_filter.mp hp).1, rfl, rfl⟩
  · intro p hp
    by_cases hex : ∃ b0 ∈ bs, b0.addr = p.1
    · obtain ⟨b0, hb0, ha⟩ := hex
      refine ⟨{ b0 with w := 100 * p.2, cur := if p.2 ≤ 0 then 0 else b0.cur }, ?_, ha, rfl⟩
      refine List.mem_append.mpr (Or.inl (List.mem_filterMap.mpr ⟨b0, hb0, ?_⟩))
      rw [ha, find?_key (·.1) hnd hp]
      rfl
    · refine ⟨_, List.mem_append.mpr (Or.inr (List.mem_map.mpr ⟨p, List.mem_filter.mpr ⟨hp, ?_⟩, rfl⟩)), rfl, rfl⟩
      simp only [Bool.not_eq_true', List.any_eq_false, beq_iff_eq]
      exact fun b0 hb0 ha => hex ⟨b0, hb0, ha⟩

/-- names stay distinct through every `Reload`, successful or not -/
theorem C03_reload_names_nodup (c : Cl) (conf : GConf) (hc : NamesNodup c) (hnd : (conf.map (·.1)).Nodup) :
    NamesNodup (reload c conf).1 := by
  unfold reload NamesNodup
  dsimp only
  split
  · -- a failed reload re-weights the old sub-clusters in place: same names
    rw [List.map_map, List.map_congr_left (g := fun s : SubSt => s.name)]
    · exact hc
    · intro s _
      dsimp only [Function.comp]
      cases lookupW conf s.name <;> rfl
  · exact ((C02.isort_perm _ _).map _).nodup_iff.mpr (reload_list_names_nodup c.subs conf hc hnd)

theorem C03_reload_sequence_names_nodup (c : Cl) (confs : List GConf) (hc : NamesNodup c)
    (hnd : ∀ cf ∈ confs, (cf.map (·.1)).Nodup) :
    NamesNodup (confs.foldl (fun c cf => (reload c cf).1) c) :=
  List.foldlRecOn confs _ hc fun c hc cf hcf => C03_reload_names_nodup c cf hc (hnd cf hcf)

/-- **History independence**: a `Reload` that returns nil installs the balancer a FRESH `Init` of the same
    configuration builds (`avail` only when `single`), whatever sub-clusters existed before. -/
theorem C03_reload_fresh (c : Cl) (conf : GConf) (c' : Cl) (hc : NamesNodup c) (hnd : (conf.map (·.1)).Nodup)
    (hr : reload c conf = (c', true)) :
    ∃ g0, C02.gslbInit (confSubs conf) = some g0 ∧ toSubs c'.subs = g0.subs ∧ c'.g.subs = g0.subs ∧
      c'.g.total = g0.total ∧ c'.g.single = g0.single ∧ (g0.single = true → c'.g.avail = g0.avail) := by
  obtain ⟨hsubs, hg, hav⟩ := reload_ok_spec hr
  have hl : toSubs c'.subs = C02.isort (·.name) (confSubs conf) := hsubs ▸ reload_subs_eq c.subs conf hc hnd
  rw [hl] at hg hav
  have hs := congrArg C02.Gslb.subs (C02.gslbInitOn_eq_some hg).2
  exact ⟨_, hg, hl.trans hs.symm, rfl, rfl, rfl, hav⟩

/-- hence every hash decision after the reload equals the decision of a fresh load -/
theorem C03_reload_decision_fresh (c : Cl) (conf : GConf) (c' : Cl) (hc : NamesNodup c)
    (hnd : (conf.map (·.1)).Nodup) (hr : reload c conf = (c', true)) :
    ∃ g0, C02.gslbInit (confSubs conf) = some g0 ∧ ∀ h, C02.subBalance c'.g h = C02.subBalance g0 h := by
  obtain ⟨g0, hg, _, h2, h3, h4, h5⟩ := C03_reload_fresh c conf c' hc hnd hr
  exact ⟨g0, hg, subBalance_congr h2 h3 h4 h5⟩

/-- **After any Reload that returns nil the hash-chosen sub-cluster has weight > 0**, and in `single` mode
    `avail` indexes the only positive-weight sub-cluster IN THE SORTED LIST. -/
theorem C03_reload_first_choice_positive (c : Cl) (conf : GConf) (c' : Cl) (hc : NamesNodup c)
    (hnd : (conf.map (·.1)).Nodup) (hr : reload c conf = (c', true)) :
    (∀ h s, firstChoice c' h = some s → 0 < s.w) ∧ C02.Sorted (·.name) c'.subs ∧
    (c'.g.single = true → ∃ x, C02.posW (toSubs c'.subs) = [x] ∧ (toSubs c'.subs)[c'.g.avail]? = some x) := by
  obtain ⟨hsubs, hg, hav⟩ := reload_ok_spec hr
  have hnn : NamesNodup c' := by
    have := C03_reload_names_nodup c conf hc hnd
    rwa [hr] at this
  exact ⟨firstChoice_pos c' _ hnn hg (subBalance_congr rfl rfl rfl hav), hsubs ▸ C02.isort_sorted _ _,
    fun hs => hav hs ▸ C02.gslbInitOn_single hg hs⟩

/-! ### non-vacuity: first choice `a` is all down, cross retry lands on `b` (n = 0) -/
def exCl : Cl :=
  { subs := [{ name := "a", w := 1, bs := [{ addr := "x:1", w := 100, cur := 100, conn := 0, avail := false }] },
              { name := "b", w := 0, bs := [{ addr := "y:1", w := 100, cur := 100, conn := 0, avail := true }, { addr := "z:1", w := 0, cur := 0, conn := 0, avail := true }] }]
    g := { subs := [⟨"a", 1⟩, ⟨"b", 0⟩], total := 1, single := true, avail := 0 }
    retryMax := 2, crossRetry := 1, algo := .smooth }
example : (balance exCl 0 7 0).1 = .ok "b" { addr := "y:1", w := 100, cur := 100, conn := 0, avail := true } := by decide +kernel
example : (balance { exCl with crossRetry := 0 } 0 7 0).1 = .err .noBackend "a" := by decide +kernel
example : (balance exCl 4 7 0).1 = .err .retryTooMany "" := by decide

/-- `Reload` sorts before it scans for `avail` (seeded/C03/patch.diff scans first): {idc-b:100, idc-c:0} reloaded to
    {idc-a:0, idc-b:100, idc-c:0} has idc-b at 1 in the sorted list; a scan before the sort gives 0, which is idc-a. -/
def exR : Cl :=
  { subs := [{ name := "idc-b", w := 100, bs := [{ addr := "x:1", w := 100, cur := 100, conn := 0, avail := true }] }, { name := "idc-c", w := 0, bs := [] }]
    g := { subs := [⟨"idc-b", 100⟩, ⟨"idc-c", 0⟩], total := 100, single := true, avail := 0 }
    retryMax := 2, crossRetry := 1, algo := .smooth }
example : ((reload exR [("idc-c", 0), ("idc-a", 0), ("idc-b", 100)]).1.g.avail,
           (reload exR [("idc-c", 0), ("idc-a", 0), ("idc-b", 100)]).2) = (1, true) := by decide +kernel
example : (firstChoice (reload exR [("idc-c", 0), ("idc-a", 0), ("idc-b", 100)]).1 12345).map (·.name) = some "idc-b" := by
  decide +kernel

end BfeVerif.C03
