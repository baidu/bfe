import BfeVerif.C03.Model
import BfeVerif.C02.Props
import BfeVerif.C04.Props
/-!
  C03 — proofs.  `Picks bs r` is what `SubCluster.balance` owes its callers whatever the algorithm (`subPick_spec`):
  smooth and WLC read C04's index back through `pick_readback`, sticky is C02's walk.
  `balance_eq_ok_iff` lists the successful runs of `Balance` once; `C03_ok_iff` and `C03_backend_ok` are read off it.
  Reload: `kept ++ added` holds every name of the configuration once, so sorted it is the sorted configuration
  whatever was there before (`reload_subs_eq`); `reload_ok_spec` and `mkCluster_some` have one shape, so that
  `firstChoice_pos` serves `Reload` and `Init`.
  `resOk`, `confSubs`, `NamesNodup` occur in the statements of Props.lean.
-/
namespace BfeVerif.C03

theorem elig_iff (b : Be) : elig b = true ↔ b.avail = true ∧ 0 < b.w := by
  rw [elig, Bool.and_eq_true, decide_eq_true_eq]

def Picks (bs : List Be) (r : Option Be) : Prop :=
  (∀ b, r = some b → b ∈ bs ∧ elig b = true) ∧ (r = none → ∀ b ∈ bs, elig b = false)

theorem Picks.none_iff {bs : List Be} {r : Option Be} (hp : Picks bs r) : r = none ↔ ∀ b ∈ bs, elig b = false :=
  -- `←`: a pick would be an eligible member
  ⟨hp.2, fun hall => Option.eq_none_iff_forall_ne_some.mpr fun b hb =>
    absurd (hp.1 b hb).2 (Bool.eq_false_iff.mp (hall b (hp.1 b hb).1))⟩

/-- an index chosen by a C04 algorithm on the projected list, read back in the sub-cluster's own list
    (`C04.elig b.toB` is `elig b` by `rfl`) -/
theorem pick_readback (bs : List Be) (r : Option Nat)
    (hs : ∀ j, r = some j → ∃ b', (bs.map Be.toB)[j]? = some b' ∧ C04.elig b' = true)
    (hn : r = none → ∀ b' ∈ bs.map Be.toB, C04.elig b' = false) : Picks bs (r.bind (bs[·]?)) := by
  cases r with
  | none => exact ⟨fun _ h => (nomatch h), fun _ b hb => hn rfl b.toB (List.mem_map_of_mem hb)⟩
  | some j =>
    obtain ⟨b', hb', he⟩ := hs j rfl
    rw [List.getElem?_map, Option.map_eq_some_iff] at hb'
    obtain ⟨b, hb, rfl⟩ := hb'
    refine ⟨fun b0 h => ?_, fun h => nomatch hb.symm.trans h⟩
    cases hb.symm.trans h
    exact ⟨List.mem_of_getElem? hb, he⟩

theorem stickyBe_spec (s : List Be) (h : Nat) : Picks s (stickyBe s h) := by
  unfold stickyBe
  dsimp only
  split
  · rename_i hemp
    have hall := List.filter_eq_nil_iff.mp (List.map_eq_nil_iff.mp (List.isEmpty_iff.mp hemp))
    exact ⟨fun _ hb => (nomatch hb), fun _ b hb => Bool.eq_false_iff.mpr (hall b hb)⟩
  · rename_i hne
    obtain ⟨_, k, w, hk, hw⟩ := C02.walk_getHash_some_mem _ (C02.cands_pos fun b : Be => C04.elig_pos (b := b.toB))
      (mt List.isEmpty_iff.mpr hne) h
    exact ⟨fun b hb => Option.some.inj (hk.symm.trans hb) ▸ ⟨(C02.mem_cands hw).1, (C02.mem_cands hw).2.1⟩,
      fun hn => nomatch hk.symm.trans hn⟩

theorem subPick_spec (a : Algo) (bs : List Be) (h : Nat) : Picks bs (subPick a bs h).1 := by
  unfold subPick
  split
  · rename_i he
    cases List.isEmpty_iff.mp he
    exact ⟨fun _ hb => (nomatch hb), fun _ _ hb => nomatch hb⟩
  · cases a with
    | smooth =>
      exact pick_readback bs _ (fun j hj => (C04.smooth_some _ _ j hj).imp fun _ ⟨hget, _, hel⟩ => ⟨hget, hel⟩)
        fun hr b' hb' => by
          obtain ⟨i, hi⟩ := List.getElem?_of_mem hb'
          exact Bool.eq_false_iff.mpr fun he => C04.smooth_none _ _ hr i b' hi ⟨rfl, he⟩
    | wlc =>
      exact pick_readback bs _ (fun j hj => (C04.C04_choice _ _ _ j hj).imp fun _ ⟨hget, hel, _⟩ => ⟨hget, hel⟩)
        (C04.C04_wlc_error_iff _ _ _).mp
    | sticky =>
      have hp := C02.isort_perm (·.addr) bs
      obtain ⟨h1, h2⟩ := stickyBe_spec (C02.isort (·.addr) bs) h
      exact ⟨fun b hb => ⟨hp.mem_iff.mp (h1 b hb).1, (h1 b hb).2⟩, fun hn b hb => h2 hn b (hp.mem_iff.mpr hb)⟩

theorem firstChoice_mem (c : Cl) (h : Nat) (s : SubSt) (hf : firstChoice c h = some s) : s ∈ c.subs := by
  obtain ⟨x, _, hx⟩ := Option.bind_eq_some_iff.mp hf
  exact List.mem_of_find?_eq_some hx

theorem randomSelectExclude_spec (c : Cl) (cur o : SubSt) (n : Nat) (h : randomSelectExclude c cur n = some o) :
    o ∈ c.subs ∧ o.name ≠ cur.name ∧ 0 ≤ o.w ∧ o.name ≠ blackholeName := by
  unfold randomSelectExclude at h
  dsimp only at h
  split at h
  · exact nomatch h
  · have := List.mem_of_getElem? h
    simp only [others, List.mem_filter, Bool.and_eq_true, bne_iff_ne, ne_eq, decide_eq_true_eq] at this
    exact ⟨this.1, this.2.1.1, this.2.1.2, this.2.2⟩

def resOk : Res → Bool
  | .ok _ _ => true
  | .err _ _ => false

theorem resOk_iff (r : Res) : resOk r = true ↔ ∃ sub b, r = .ok sub b := by
  cases r with
  | ok sub b => exact ⟨fun _ => ⟨sub, b, rfl⟩, fun _ => rfl⟩
  | err e s => exact ⟨fun h => (nomatch h), fun ⟨_, _, h⟩ => nomatch h⟩

theorem hasElig_false_iff (a : Algo) (s : SubSt) : hasElig a s = false ↔ ∀ b ∈ effBs a s, elig b = false :=
  by simp only [hasElig, List.any_eq_false, Bool.not_eq_true]

theorem subPick_isSome (a : Algo) (s : SubSt) (h : Nat) :
    (∃ b, (subPick a (effBs a s) h).1 = some b) ↔ hasElig a s = true := by
  rw [← Option.ne_none_iff_exists', Ne, (subPick_spec a _ h).none_iff, ← hasElig_false_iff, Bool.not_eq_false]

theorem crossPart_eq_ok_iff (c c1 : Cl) (cur : SubSt) (r : Int) (h n : Nat) (sub : String) (b : Be) :
    (crossPart c c1 cur r h n).1 = .ok sub b ↔
      0 < c.crossRetry ∧ ∃ o, randomSelectExclude c cur n = some o ∧ o.name = sub ∧
        (subPick c.algo (effBs c.algo o) h).1 = some b := by
  unfold crossPart
  split
  · exact ⟨fun hx => (nomatch hx), fun ⟨hp, _⟩ => absurd hp (Int.not_lt.mpr ‹_›)⟩
  · rename_i hc
    split
    · rename_i ho
      exact ⟨fun hx => (nomatch hx), fun ⟨_, o, ho', _⟩ => nomatch ho.symm.trans ho'⟩
    · rename_i o ho
      simp only [ho, Int.not_le.mp hc, true_and, Option.some.injEq, exists_eq_left']
      split <;> rename_i hp
      · simp only [hp, Res.ok.injEq, Option.some.injEq]
      · simp only [hp, reduceCtorEq, and_false]

/-- the successful runs of `Balance`: in-cluster by the first choice, or by the cross-cluster retry -/
theorem balance_eq_ok_iff (c : Cl) (retry : Int) (h n : Nat) (sub : String) (b : Be) :
    (balance c retry h n).1 = .ok sub b ↔
      retry ≤ c.retryMax + c.crossRetry ∧ ∃ cur, firstChoice c h = some cur ∧ cur.name ≠ blackholeName ∧
        ((retry ≤ c.retryMax ∧ cur.name = sub ∧ (subPick c.algo (effBs c.algo cur) h).1 = some b) ∨
         ((retry ≤ c.retryMax → (subPick c.algo (effBs c.algo cur) h).1 = none) ∧ 0 < c.crossRetry ∧
           ∃ o, randomSelectExclude c cur n = some o ∧ o.name = sub ∧
             (subPick c.algo (effBs c.algo o) h).1 = some b)) := by
  unfold balance
  split
  · -- budget exhausted
    exact ⟨fun h' => (nomatch h'), fun ⟨h', _⟩ => absurd h' (Int.not_le.mpr ‹_›)⟩
  rename_i h1
  split
  · -- no first choice
    rename_i hf
    exact ⟨fun h' => (nomatch h'), fun ⟨_, _, hc, _⟩ => nomatch hf.symm.trans hc⟩
  rename_i cur hf
  simp only [hf, Option.some.injEq, exists_eq_left', Int.not_lt.mp h1, true_and]
  split
  · -- black hole
    rename_i hb
    exact ⟨fun h' => (nomatch h'), fun h' => absurd (eq_of_beq hb) h'.1⟩
  rename_i hb
  have hne : cur.name ≠ blackholeName := fun he => hb (beq_iff_eq.mpr he)
  split
  · -- in-cluster attempt allowed
    rename_i hr
    split
    · -- it answers
      rename_i b' _ hp
      rw [hp]
      constructor
      · intro h'
        cases h'
        exact ⟨hne, Or.inl ⟨hr, rfl, rfl⟩⟩
      · rintro ⟨_, ⟨_, rfl, h2⟩ | ⟨h2, _⟩⟩
        · cases h2
          rfl
        · exact nomatch h2 hr
    · -- the in-cluster attempt failed: `RetryTime := retryMax`, then the cross-cluster part
      rename_i _ hp
      rw [hp, crossPart_eq_ok_iff]
      refine ⟨fun hx => ⟨hne, Or.inr ⟨fun _ => rfl, hx⟩⟩, ?_⟩
      rintro ⟨_, ⟨_, _, hsome⟩ | ⟨_, hcross⟩⟩
      · exact nomatch hsome
      · exact hcross
  · -- no in-cluster attempt
    rename_i hr
    rw [crossPart_eq_ok_iff]
    refine ⟨fun hx => ⟨hne, Or.inr ⟨fun h' => absurd h' hr, hx⟩⟩, ?_⟩
    rintro ⟨_, ⟨hle, _⟩ | ⟨_, hcross⟩⟩
    · exact absurd hle hr
    · exact hcross

theorem ssStep_spec (ssT : Int) (b : Be) :
    (b.restart = true ∨ b.inSS = true → (ssStep ssT b).w ≤ b.final) ∧
    (ssStep ssT b).final = b.final ∧ (ssStep ssT b).addr = b.addr ∧ (ssStep ssT b).avail = b.avail := by
  unfold ssStep
  extract_lets b1
  -- `initSlowStart` puts a restarted backend into slow start
  have h1 : (b.restart = true ∨ b.inSS = true → b1.inSS = true) ∧
      b1.final = b.final ∧ b1.addr = b.addr ∧ b1.avail = b.avail := by
    simp only [b1]
    split
    · exact ⟨fun _ => rfl, rfl, rfl, rfl⟩
    · exact ⟨fun h => h.resolve_left ‹_›, rfl, rfl, rfl⟩
  clear_value b1
  obtain ⟨hi, hf, h2⟩ := h1
  -- `updateSlowStart` caps the weight at `final`
  split
  · split
    · exact ⟨fun _ => hf ▸ Int.le_refl _, hf, h2⟩
    · exact ⟨fun _ => hf ▸ Int.le_of_lt (Int.not_le.mp ‹_›), hf, h2⟩
  · exact ⟨fun h => absurd (hi h) ‹_›, hf, h2⟩

/-- what a fresh `Init` of `conf` is given -/
def confSubs (conf : GConf) : List C02.Sub := conf.map fun p => { name := p.1, w := p.2 }

/-- one object per name: the model looks sub-clusters up by name, Go by pointer -/
def NamesNodup (c : Cl) : Prop := (c.subs.map (·.name)).Nodup

theorem find?_key {α : Type} (key : α → String) {l : List α} (hnd : (l.map key).Nodup) {x : α} (hx : x ∈ l) :
    l.find? (key · == key x) = some x := by
  -- nothing before `x` has its key
  obtain ⟨as, bs, rfl⟩ := List.append_of_mem hx
  rw [List.map_append, List.map_cons] at hnd
  exact List.find?_eq_some_iff_append.mpr ⟨beq_self_eq_true _, as, bs, rfl, fun a ha =>
    bne_iff_ne.mpr ((List.nodup_append.mp hnd).2.2 _ (List.mem_map_of_mem ha) _ List.mem_cons_self)⟩

theorem lookupW_some_iff (conf : GConf) (hnd : (conf.map (·.1)).Nodup) (n : String) (w : Int) :
    lookupW conf n = some w ↔ (n, w) ∈ conf := by
  unfold lookupW
  constructor
  · intro h
    obtain ⟨⟨a, b⟩, hp, hw⟩ := Option.map_eq_some_iff.mp h
    have hk := List.find?_some hp
    cases hw
    cases eq_of_beq hk
    exact List.mem_of_find?_eq_some hp
  · intro h
    rw [find?_key (·.1) hnd h]
    rfl

theorem mem_kept (subs : List SubSt) (conf : GConf) (x : SubSt) :
    x ∈ kept subs conf ↔ ∃ s ∈ subs, ∃ w, lookupW conf s.name = some w ∧ x = { s with w := w } := by
  simp only [kept, List.mem_filterMap, Option.map_eq_some_iff, eq_comm (a := x)]

theorem mem_added (subs : List SubSt) (conf : GConf) (x : SubSt) :
    x ∈ added subs conf ↔ ∃ p ∈ conf, (∀ s ∈ subs, s.name ≠ p.1) ∧ x = { name := p.1, w := p.2, bs := [] } := by
  simp only [added, List.mem_map, List.mem_filter, Bool.not_eq_true', List.any_eq_false, beq_iff_eq, and_assoc,
    eq_comm (a := x), ne_eq]

theorem kept_names_nodup (subs : List SubSt) (conf : GConf) (h : (subs.map (·.name)).Nodup) :
    ((kept subs conf).map (·.name)).Nodup :=
  List.pairwise_map.mpr <| (List.pairwise_map.mp h).filterMap _ fun s s' hne b hb b' hb' => by
    obtain ⟨w, _, rfl⟩ := Option.map_eq_some_iff.mp hb
    obtain ⟨w', _, rfl⟩ := Option.map_eq_some_iff.mp hb'
    exact hne

theorem reload_list_names_nodup (subs : List SubSt) (conf : GConf)
    (hs : (subs.map (·.name)).Nodup) (hnd : (conf.map (·.1)).Nodup) :
    ((kept subs conf ++ added subs conf).map (·.name)).Nodup := by
  rw [List.map_append]
  refine List.nodup_append.mpr ⟨kept_names_nodup subs conf hs, ?_, ?_⟩
  · -- added: a filtered sub-list of the conf keys
    rw [added, List.map_map]
    exact List.Nodup.sublist (List.Sublist.map _ List.filter_sublist) hnd
  · simp only [List.mem_map, mem_kept, mem_added]
    rintro _ ⟨_, ⟨s, hs', w, _, rfl⟩, rfl⟩ _ ⟨_, ⟨p, _, hn, rfl⟩, rfl⟩ hab
    exact hn s hs' hab

theorem mem_toSubs_reload (subs : List SubSt) (conf : GConf) (hnd : (conf.map (·.1)).Nodup) (x : C02.Sub) :
    x ∈ toSubs (kept subs conf ++ added subs conf) ↔ x ∈ confSubs conf := by
  simp only [toSubs, confSubs, List.mem_map, List.mem_append, mem_kept, mem_added]
  constructor
  · rintro ⟨_, ⟨s, _, w, hw, rfl⟩ | ⟨p, hp, _, rfl⟩, rfl⟩
    · exact ⟨(s.name, w), (lookupW_some_iff conf hnd _ _).mp hw, rfl⟩
    · exact ⟨p, hp, rfl⟩
  · rintro ⟨p, hp, rfl⟩
    by_cases hex : ∃ s ∈ subs, s.name = p.1
    · obtain ⟨s, hs, hn⟩ := hex
      exact ⟨{ s with w := p.2 }, Or.inl ⟨s, hs, p.2, hn ▸ (lookupW_some_iff conf hnd _ _).mpr hp, rfl⟩, by rw [hn]⟩
    · exact ⟨_, Or.inr ⟨p, hp, fun s hs hn => hex ⟨s, hs, hn⟩, rfl⟩, rfl⟩

theorem toSubs_isort (l : List SubSt) : toSubs (C02.isort (·.name) l) = C02.isort (·.name) (toSubs l) :=
  C02.isort_map (fun s : SubSt => s.name) (fun s : C02.Sub => s.name)
    (fun s : SubSt => ({ name := s.name, w := s.w } : C02.Sub)) (fun _ => rfl) l

theorem nodup_of_nodup_map {α β : Type} (f : α → β) (l : List α) (h : (l.map f).Nodup) : l.Nodup :=
  List.Pairwise.of_map f (fun _ _ hne he => hne (congrArg f he)) h

theorem reload_subs_eq (subs : List SubSt) (conf : GConf)
    (hs : (subs.map (·.name)).Nodup) (hnd : (conf.map (·.1)).Nodup) :
    toSubs (C02.isort (·.name) (kept subs conf ++ added subs conf)) = C02.isort (·.name) (confSubs conf) := by
  have hn1 : ((toSubs (kept subs conf ++ added subs conf)).map (·.name)).Nodup :=
    (List.map_map : (toSubs _).map (·.name) = _) ▸ reload_list_names_nodup subs conf hs hnd
  have hn2 : ((confSubs conf).map (·.name)).Nodup := (List.map_map : (confSubs conf).map (·.name) = _) ▸ hnd
  -- two duplicate-free lists with the same members
  have hperm : (toSubs (kept subs conf ++ added subs conf)).Perm (confSubs conf) :=
    (List.perm_ext_iff_of_nodup (nodup_of_nodup_map _ _ hn1) (nodup_of_nodup_map _ _ hn2)).mpr (mem_toSubs_reload subs conf hnd)
  rw [toSubs_isort, C02.isort_eq_of_perm _ hperm hn1]

/-- a `Reload` that returns nil installs, over the sorted new list, what `Init` would build — except that
    `avail` is only refreshed in `single` mode (the only mode that reads it) -/
theorem reload_ok_spec {c : Cl} {conf : GConf} {c' : Cl} (hr : reload c conf = (c', true)) :
    c'.subs = C02.isort (·.name) (kept c.subs conf ++ added c.subs conf) ∧
    C02.gslbInitOn (toSubs c'.subs) = some { c'.g with avail := C02.lastPos (toSubs c'.subs) 0 0 } ∧
    (c'.g.single = true → c'.g.avail = C02.lastPos (toSubs c'.subs) 0 0) := by
  unfold reload at hr
  dsimp only at hr
  split at hr
  · exact nomatch (Prod.mk.inj hr).2
  · rename_i htot
    cases (Prod.mk.inj hr).1
    refine ⟨rfl, ?_, fun hs => ?_⟩
    · rw [C02.gslbInitOn, if_neg htot]
    · dsimp only at hs ⊢
      rw [if_pos hs]

theorem mkCluster_some {conf : List SubSt} {rm cr : Int} {a : Algo} {c : Cl} (hc : mkCluster conf rm cr a = some c) :
    c.subs = C02.isort (·.name) conf ∧ C02.gslbInitOn (toSubs c.subs) = some c.g := by
  unfold mkCluster at hc
  split at hc
  · exact nomatch hc
  · cases Option.some.inj hc
    -- the model's inline map is `toSubs conf`
    exact ⟨rfl, toSubs_isort conf ▸ ‹_›⟩

theorem subBalance_congr {g g0 : C02.Gslb} (hs : g.subs = g0.subs) (ht : g.total = g0.total) (hsi : g.single = g0.single)
    (ha : g0.single = true → g.avail = g0.avail) (h : Nat) : C02.subBalance g h = C02.subBalance g0 h := by
  unfold C02.subBalance
  rw [hs, ht, hsi]
  split
  · rfl
  · split
    · rw [ha ‹_›]
    · rfl

/-- `hdec`: the balancer decides like the one `Init` builds over the current list -/
theorem firstChoice_pos (c : Cl) (g0 : C02.Gslb) (hnd : NamesNodup c)
    (hg : C02.gslbInitOn (toSubs c.subs) = some g0) (hdec : ∀ h, C02.subBalance c.g h = C02.subBalance g0 h)
    (h : Nat) (s : SubSt) (hf : firstChoice c h = some s) : 0 < s.w := by
  obtain ⟨x, hx, hfs⟩ := Option.bind_eq_some_iff.mp hf
  obtain ⟨x', hx', _, hxw, hxm⟩ := C02.C02_sub_partition _ g0 hg h
  cases Option.some.inj ((hdec h ▸ hx).symm.trans hx')
  obtain ⟨s', hs', rfl⟩ := List.mem_map.mp hxm
  exact Option.some.inj ((find?_key SubSt.name hnd hs').symm.trans hfs) ▸ hxw

end BfeVerif.C03
