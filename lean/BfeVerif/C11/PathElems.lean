import BfeVerif.C11.Proofs
/-! C11: the slash-terminated string-prefix order used by `specPath` is the path-ELEMENT prefix order of the
    documentation ("从左开始对path中的路径元素逐个匹配", "最多路径元素"). -/
namespace BfeVerif.C11

/-- the path elements of a slash-terminated string: `"/a/b/"` ↦ `["", "a", "b"]`, `""` ↦ `[]` -/
def segs : List Char → List (List Char)
  | [] => []
  | c :: cs =>
    if c = '/' then [] :: segs cs
    else match segs cs with
      | s :: ss => (c :: s) :: ss
      | [] => [[c]]

def SlashTerminated (a : List Char) : Prop := a = [] ∨ a.getLast? = some '/'

theorem slashTerminated_ensureSlash (p : List Char) : SlashTerminated (ensureSlash p) := by
  unfold ensureSlash
  split
  · exact .inr List.getLast?_concat
  · next h =>
    cases p with
    | nil => exact .inl rfl
    | cons a b => exact .inr (by simpa using h)

theorem slashTerminated_tail {x : Char} {a : List Char} (h : SlashTerminated (x :: a)) : SlashTerminated a := by
  cases a with
  | nil => exact .inl rfl
  | cons y ys => exact .inr (List.getLast?_cons_cons ▸ h.resolve_left (List.cons_ne_nil _ _))

theorem ne_nil_of_slashTerminated_cons {x : Char} {a : List Char} (h : SlashTerminated (x :: a)) (hx : x ≠ '/') : a ≠ [] := by
  rintro rfl
  exact hx (Option.some.inj (h.resolve_left (List.cons_ne_nil _ _)))

theorem segs_ne_nil {a : List Char} (h : a ≠ []) : segs a ≠ [] := by
  fun_cases segs a with
  | case1 => exact absurd rfl h
  | case2 | case3 | case4 => exact List.cons_ne_nil _ _

theorem segs_append (a c : List Char) (h : SlashTerminated a) : segs (a ++ c) = segs a ++ segs c := by
  fun_induction segs a with
  | case1 => rfl
  | case2 cs ih => rw [List.cons_append, segs, if_pos rfl, ih (slashTerminated_tail h)]; rfl
  | case3 x cs hx s ss hs ih => rw [List.cons_append, segs, if_neg hx, ih (slashTerminated_tail h), hs]; rfl
  | case4 x cs hx hs => exact absurd hs (segs_ne_nil (ne_nil_of_slashTerminated_cons h hx))

theorem flatMap_segs (a : List Char) (h : SlashTerminated a) : (segs a).flatMap (· ++ ['/']) = a := by
  fun_induction segs a with
  | case1 => rfl
  | case2 cs ih => exact congrArg ('/' :: ·) (ih (slashTerminated_tail h))
  | case3 x cs hx s ss hs ih => rw [← ih (slashTerminated_tail h), hs]; rfl
  | case4 x cs hx hs => exact absurd hs (segs_ne_nil (ne_nil_of_slashTerminated_cons h hx))

theorem segs_prefix {a b : List Char} (ha : SlashTerminated a) (h : a <+: b) : segs a <+: segs b := by
  obtain ⟨c, rfl⟩ := h
  exact ⟨segs c, (segs_append a c ha).symm⟩

theorem prefix_iff_segs (a b : List Char) (ha : SlashTerminated a) (hb : SlashTerminated b) :
    a <+: b ↔ segs a <+: segs b := by
  refine ⟨segs_prefix ha, ?_⟩
  rintro ⟨r, hr⟩
  refine ⟨r.flatMap (· ++ ['/']), ?_⟩
  rw [← flatMap_segs a ha, ← List.flatMap_append, hr, flatMap_segs b hb]

theorem prefix_iff_length_le {α} {a a' b : List α} (h : a <+: b) (h' : a' <+: b) :
    a <+: a' ↔ a.length ≤ a'.length :=
  ⟨List.IsPrefix.length_le, List.prefix_of_prefix_length_le h h'⟩

theorem length_le_iff_segs (a a' b : List Char) (ha : SlashTerminated a) (ha' : SlashTerminated a')
    (h : a <+: b) (h' : a' <+: b) :
    a.length ≤ a'.length ↔ (segs a).length ≤ (segs a').length := by
  rw [← prefix_iff_length_le h h', prefix_iff_segs a a' ha ha',
    prefix_iff_length_le (segs_prefix ha h) (segs_prefix ha' h')]

/-- path elements, a trailing slash being ignored: `/a/b` and `/a/b/` ↦ `["", "a", "b"]`; `/` ↦ `[""]`; `""` ↦ `[]` -/
def elemsOf (p : List Char) : List (List Char) := segs (ensureSlash p)

/-- prefix pattern `P*` against a request path: the number of path elements of `P` if they are the first
    elements of the request path -/
def pathMatchElems (p path : List Char) : Option Nat :=
  if p.getLast? == some '*' then
    (if (elemsOf p.dropLast).isPrefixOf (elemsOf path) then some (elemsOf p.dropLast).length else none)
  else none

def isBestE (cands : List Triple) (path : List Char) (t : Triple) : Bool :=
  (pathMatchElems t.path path).isSome &&
    cands.all fun u => scoreLe (pathMatchElems u.path path) (pathMatchElems t.path path)

/-- exact path, else the prefix pattern with the MOST PATH ELEMENTS among those whose elements start the
    request path (`*` alone has none and matches everything) -/
def specPathE (cands : List Triple) (path : List Char) : Option String :=
  match cands.find? (fun t => t.path.getLast? != some '*' && t.path == path) with
  | some t => some t.cluster
  | none => (cands.find? (isBestE cands path)).map (·.cluster)

theorem pathMatchElems_eq_ite (p path : List Char) :
    pathMatchElems p path =
      if p.getLast? = some '*' ∧ ensureSlash p.dropLast <+: ensureSlash path
      then some (segs (ensureSlash p.dropLast)).length else none := by
  simp only [pathMatchElems, elemsOf]
  by_cases h : p.getLast? = some '*'
  · simp only [h, beq_self_eq_true, if_true, true_and, List.isPrefixOf_iff_prefix,
      ← prefix_iff_segs _ _ (slashTerminated_ensureSlash _) (slashTerminated_ensureSlash _)]
  · simp [h]

theorem scoreLe_pathMatchElems (u t path : List Char) :
    scoreLe (pathMatchElems u path) (pathMatchElems t path) =
      scoreLe (pathMatchPrefix u path) (pathMatchPrefix t path) := by
  rw [pathMatchElems_eq_ite, pathMatchElems_eq_ite, pathMatchPrefix_eq_ite, pathMatchPrefix_eq_ite]
  by_cases hu : u.getLast? = some '*' ∧ ensureSlash u.dropLast <+: ensureSlash path
  · by_cases ht : t.getLast? = some '*' ∧ ensureSlash t.dropLast <+: ensureSlash path
    · rw [if_pos hu, if_pos ht, if_pos hu, if_pos ht]
      exact decide_eq_decide.mpr
        (length_le_iff_segs _ _ _ (slashTerminated_ensureSlash _) (slashTerminated_ensureSlash _) hu.2 ht.2).symm
    · rw [if_pos hu, if_neg ht, if_pos hu, if_neg ht]
      rfl
  · rw [if_neg hu, if_neg hu]
    rfl

theorem isSome_pathMatchElems (t path : List Char) :
    (pathMatchElems t path).isSome = (pathMatchPrefix t path).isSome := by
  rw [pathMatchElems_eq_ite, pathMatchPrefix_eq_ite]
  by_cases ht : t.getLast? = some '*' ∧ ensureSlash t.dropLast <+: ensureSlash path <;> simp [ht]

theorem specPathE_eq (cands : List Triple) (path : List Char) : specPathE cands path = specPath cands path := by
  unfold specPathE specPath
  have : isBestE cands path = isBest cands path := by
    funext t
    simp only [isBestE, isBest, isSome_pathMatchElems, scoreLe_pathMatchElems]
  rw [this]
  cases cands.find? (fun t => t.path.getLast? != some '*' && t.path == path) <;> rfl

/-- the documented precedence with the path stage on path elements -/
def specBasicE (T : List Triple) (host path : List Char) : Option String :=
  let H := normHost host
  let withClass (c : HostClass) := T.filter fun t => hostMatch t.host H == some c
  if !(withClass .exact).isEmpty then specPathE (withClass .exact) path
  else if !(withClass .wild).isEmpty then specPathE (withClass .wild) path
  else if !(withClass .any).isEmpty then specPathE (withClass .any) path
  else none

theorem specBasicE_eq (T : List Triple) (host path : List Char) : specBasicE T host path = specBasic T host path := by
  simp only [specBasicE, specBasic, specPathE_eq]

end BfeVerif.C11
