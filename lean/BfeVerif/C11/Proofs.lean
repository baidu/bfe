import BfeVerif.C11.Model
/-! C11 — proofs.  `longestPrefixKey` meets the contract of the radix tree's `LongestPrefix`; on it rest the path stage
  (`path_refines`) and the host stage (`hostGet_eq`, on any leaf list). -/
namespace BfeVerif.C11

theorem lpkAux_spec (keys : List (List Char)) (k : List Char) (n : Nat) :
    match lpkAux keys k n with
    | some p => p ∈ keys ∧ p <+: k ∧ ∀ q ∈ keys, q <+: k → q.length ≤ n → q.length ≤ p.length
    | none => ∀ q ∈ keys, q <+: k → ¬ q.length ≤ n := by
  -- a stored prefix of length `n` is `k.take n`, which the search tests first
  have htest : ∀ n, keys.contains (k.take n) ≠ true → ∀ q ∈ keys, q <+: k → q.length ≠ n :=
    fun n hc q hq hqk hl => hc (List.contains_iff_mem.mpr (by rw [← hl, ← List.prefix_iff_eq_take.mp hqk]; exact hq))
  have hfound : ∀ n, keys.contains (k.take n) = true →
      k.take n ∈ keys ∧ k.take n <+: k ∧ ∀ q ∈ keys, q <+: k → q.length ≤ n → q.length ≤ (k.take n).length :=
    fun n hc => ⟨List.contains_iff_mem.mp hc, List.take_prefix n k, fun q _ hqk hl =>
      List.length_take ▸ Nat.le_min.mpr ⟨hl, hqk.length_le⟩⟩
  fun_induction lpkAux keys k n with
  | case1 hc => exact hfound 0 hc
  | case2 hc => exact fun q hq hqk hl => htest 0 hc q hq hqk (Nat.le_zero.mp hl)
  | case3 n hc => exact hfound (n + 1) hc
  | case4 n hc ih =>
    have hlt : ∀ q ∈ keys, q <+: k → q.length ≤ n + 1 → q.length ≤ n := fun q hq hqk hl =>
      Nat.le_of_lt_succ (Nat.lt_of_le_of_ne hl (htest (n + 1) hc q hq hqk))
    cases hr : lpkAux keys k n with
    | some p =>
      rw [hr] at ih
      obtain ⟨hm, hp, hmax⟩ := ih
      exact ⟨hm, hp, fun q hq hqk hl => hmax q hq hqk (hlt q hq hqk hl)⟩
    | none => rw [hr] at ih; exact fun q hq hqk hl => ih q hq hqk (hlt q hq hqk hl)

theorem longestPrefixKey_some {keys : List (List Char)} {k p : List Char}
    (h : longestPrefixKey keys k = some p) :
    p ∈ keys ∧ p <+: k ∧ ∀ q ∈ keys, q <+: k → q.length ≤ p.length := by
  have hs := lpkAux_spec keys k k.length
  rw [show lpkAux keys k k.length = some p from h] at hs
  obtain ⟨hm, hp, hmax⟩ := hs
  exact ⟨hm, hp, fun q hq hqk => hmax q hq hqk hqk.length_le⟩

theorem longestPrefixKey_none {keys : List (List Char)} {k : List Char}
    (h : longestPrefixKey keys k = none) : ∀ q ∈ keys, ¬ q <+: k := by
  have hs := lpkAux_spec keys k k.length
  rw [show lpkAux keys k k.length = none from h] at hs
  exact fun q hq hqk => hs q hq hqk hqk.length_le

theorem flat_cluster (t : Triple) : (flat t).cluster = t.cluster := rfl

theorem flat_exact_path (t : Triple) (path : List Char) :
    (!(flat t).pw && (flat t).pk == path) = (t.path.getLast? != some '*' && t.path == path) := by
  simp only [flat, pathKey]
  by_cases h : t.path.getLast? = some '*' <;> simp [h]

theorem pathMatchPrefix_eq_ite (p path : List Char) :
    pathMatchPrefix p path =
      if p.getLast? = some '*' ∧ ensureSlash p.dropLast <+: ensureSlash path
      then some (ensureSlash p.dropLast).length else none := by
  simp only [pathMatchPrefix, pathPrefix]
  by_cases h : p.getLast? = some '*'
  · simp [h, List.isPrefixOf_iff_prefix]
  · simp [h]

theorem pathMatchPrefix_eq_some_iff_flat (t : Triple) (path : List Char) (n : Nat) :
    pathMatchPrefix t.path path = some n ↔
      (flat t).pw = true ∧ (flat t).pk <+: ensureSlash path ∧ (flat t).pk.length = n := by
  rw [pathMatchPrefix_eq_ite]
  simp only [flat, pathKey]
  by_cases h : t.path.getLast? = some '*' <;> simp [h]

theorem mem_keys {α β} {F : List α} {sel : α → Bool} {key : α → β} {k : β} :
    k ∈ (F.filter sel).map key ↔ ∃ f ∈ F, sel f = true ∧ key f = k := by
  simp only [List.mem_map, List.mem_filter, and_assoc]

theorem isBest_iff (C : List Triple) (path : List Char) (t : Triple) :
    isBest C path t = true ↔ ∃ n, pathMatchPrefix t.path path = some n ∧
      ∀ u ∈ C, ∀ m, pathMatchPrefix u.path path = some m → m ≤ n := by
  unfold isBest
  cases pathMatchPrefix t.path path with
  | none => simp
  | some n =>
    simp only [Option.isSome_some, Bool.true_and, List.all_eq_true, Option.some.injEq, exists_eq_left']
    refine forall₂_congr fun u _ => ?_
    cases pathMatchPrefix u.path path <;> simp [scoreLe]

theorem prefix_eq_of_length_eq {a b k : List Char} (ha : a <+: k) (hb : b <+: k)
    (hl : a.length = b.length) : a = b :=
  (List.prefix_of_prefix_length_le ha hb (Nat.le_of_eq hl)).eq_of_length hl

theorem path_refines (C : List Triple) (path : List Char) :
    pathGet (C.map flat) path = specPath C path := by
  unfold pathGet specPath
  rw [List.find?_map, show ((fun f : Flat => !f.pw && f.pk == path) ∘ flat) = _ from
    funext fun t => flat_exact_path t path]
  cases C.find? (fun t : Triple => (t.path.getLast? != some '*' && t.path == path)) with
  | some t => rfl
  | none =>
    simp only [Option.map_none]
    cases hl : longestPrefixKey (((C.map flat).filter (·.pw)).map (·.pk)) (ensureSlash path) with
    | none =>
      -- no stored key is a prefix: nobody scores
      have : C.find? (isBest C path) = none := List.find?_eq_none.mpr fun t ht hb => by
        obtain ⟨n, hn, _⟩ := (isBest_iff C path t).mp hb
        obtain ⟨h1, h2, _⟩ := (pathMatchPrefix_eq_some_iff_flat t path n).mp hn
        exact longestPrefixKey_none hl _ (mem_keys.mpr ⟨_, List.mem_map_of_mem ht, h1, rfl⟩) h2
      rw [this]; rfl
    | some mp =>
      -- the rules stored under the longest key are those with the highest score, `mp.length`
      obtain ⟨hmem, hpre, hmax⟩ := longestPrefixKey_some hl
      obtain ⟨_, hf, hupw, hupk⟩ := mem_keys.mp hmem
      obtain ⟨u, hu, rfl⟩ := List.mem_map.mp hf
      have hc : ∀ t ∈ C, ((fun f : Flat => f.pw && f.pk == mp) ∘ flat) t = isBest C path t := by
        intro t ht
        rw [Bool.eq_iff_iff, isBest_iff]
        simp only [Function.comp, Bool.and_eq_true, beq_iff_eq, pathMatchPrefix_eq_some_iff_flat]
        constructor
        · rintro ⟨hpw, rfl⟩
          exact ⟨_, ⟨hpw, hpre, rfl⟩, fun v hv m ⟨h1, h2, h3⟩ =>
            h3 ▸ hmax _ (mem_keys.mpr ⟨_, List.mem_map_of_mem hv, h1, rfl⟩) h2⟩
        · rintro ⟨n, ⟨hpw, hpre', rfl⟩, hall⟩
          exact ⟨hpw, prefix_eq_of_length_eq hpre' hpre (Nat.le_antisymm
            (hmax _ (mem_keys.mpr ⟨_, List.mem_map_of_mem ht, hpw, rfl⟩) hpre')
            (hall u hu _ ⟨hupw, hupk ▸ hpre, by rw [hupk]⟩))⟩
      dsimp only
      rw [List.find?_map, ← List.head?_filter, List.filter_congr hc, List.head?_filter]
      cases C.find? (isBest C path) <;> rfl

theorem reverseFqdn_eq (s : List Char) : reverseFqdn s = (dropTrailingDot s).reverse := by
  unfold reverseFqdn dropTrailingDot
  split
  · next r h => simp
  · rfl

theorem upper_reverseFqdn (x : List Char) : upper (reverseFqdn x) = (normHost x).reverse := by
  simp [upper, normHost, reverseFqdn_eq, List.map_reverse]

theorem hostKey_star (rest : List Char) : hostKey ('*' :: rest) = (true, (normHost rest).reverse) := by
  simp [hostKey, upper_reverseFqdn]

theorem hostKey_nostar (h : List Char) (hn : ∀ rest, h ≠ '*' :: rest) :
    hostKey h = (false, (normHost h).reverse) := by
  unfold hostKey
  split
  · next rest => exact absurd rfl (hn rest)
  · simp [upper_reverseFqdn]

/-- the class in which a leaf with tree kind `hw` and key `hk` answers the request key `K` -/
def keyClass (hw : Bool) (hk K : List Char) : Option HostClass :=
  if hw then
    if hk = [] then some .any
    else if hk <+: K ∧ (K.drop hk.length).contains '.' = false then some .wild else none
  else if hk = K then some .exact else none

-- the cases of `keyClass`: any; wild; a wildcard leaf, no match; exact; an exact leaf, no match
theorem keyClass_exact (hw : Bool) (hk K : List Char) :
    (keyClass hw hk K == some .exact) = (!hw && hk == K) := by
  fun_cases keyClass hw hk K with
  | case1 h1 | case2 h1 | case3 h1 => rw [h1]; rfl
  | case4 h1 h2 => rw [Bool.eq_false_iff.mpr h1, h2, beq_self_eq_true K]; rfl
  | case5 h1 h2 => rw [Bool.eq_false_iff.mpr h1, beq_eq_false_iff_ne.mpr h2]; rfl

theorem keyClass_any (hw : Bool) (hk K : List Char) :
    (keyClass hw hk K == some .any) = (hw && hk == []) := by
  fun_cases keyClass hw hk K with
  | case1 h1 h2 => rw [h1, h2]; rfl
  | case2 h1 h2 | case3 h1 h2 => rw [h1, beq_eq_false_iff_ne.mpr h2]; rfl
  | case4 h1 | case5 h1 => rw [Bool.eq_false_iff.mpr h1]; rfl

theorem keyClass_wild (hw : Bool) (hk K : List Char) :
    keyClass hw hk K = some .wild ↔
      hw = true ∧ hk ≠ [] ∧ hk <+: K ∧ (K.drop hk.length).contains '.' = false := by
  fun_cases keyClass hw hk K with
  | case1 h1 h2 => exact ⟨nofun, fun h => absurd h2 h.2.1⟩
  | case2 h1 h2 h3 => exact ⟨fun _ => ⟨h1, h2, h3⟩, fun _ => rfl⟩
  | case3 h1 h2 h3 => exact ⟨nofun, fun h => absurd h.2.2 h3⟩
  | case4 h1 | case5 h1 => exact ⟨nofun, fun h => absurd h.1 h1⟩

/-- a leaf whose key holds a character that the request key lacks answers in no class -/
theorem keyClass_none_of_mem {hw : Bool} {hk K : List Char} {x : Char} (hx : x ∈ hk) (hK : x ∉ K) :
    keyClass hw hk K = none := by
  fun_cases keyClass hw hk K with
  | case1 h1 h2 => rw [h2] at hx; cases hx
  | case2 h1 h2 h3 => exact absurd (h3.1.subset hx) hK
  | case4 h1 h2 => exact absurd (h2 ▸ hx) hK
  | case3 | case5 => rfl

/-- the wildcard test of the specification, on keys -/
theorem wild_cond_iff (s H : List Char) :
    (decide (s.length ≤ H.length) && H.drop (H.length - s.length) == s &&
        !(H.take (H.length - s.length)).contains '.') = true ↔
      s.reverse <+: H.reverse ∧ (H.reverse.drop s.reverse.length).contains '.' = false := by
  rw [List.reverse_prefix, List.suffix_iff_eq_drop, List.length_reverse, List.drop_reverse, List.contains_reverse]
  simp only [Bool.and_eq_true, decide_eq_true_eq, beq_iff_eq, Bool.not_eq_true']
  constructor
  · rintro ⟨⟨_, h2⟩, h3⟩; exact ⟨h2.symm, h3⟩
  · rintro ⟨h2, h3⟩; exact ⟨⟨(List.suffix_iff_eq_drop.mpr h2).length_le, h2.symm⟩, h3⟩

theorem hostMatch_eq_keyClass (p H : List Char) :
    hostMatch p H = keyClass (hostKey p).1 (hostKey p).2 H.reverse := by
  unfold hostMatch
  split
  · next rest =>
    rw [hostKey_star]
    simp only [keyClass, if_true, List.reverse_eq_nil_iff, List.isEmpty_iff, wild_cond_iff]
  · next hn =>
    rw [hostKey_nostar p (fun rest h => hn rest h)]
    simp only [keyClass, Bool.false_eq_true, if_false, List.reverse_inj, beq_iff_eq]

/-- a wildcard tree key as the loader leaves it: `""` (from `*`) or ending in a dot (from `*.…`) -/
def DotTerminated (k : List Char) : Prop := k = [] ∨ k.getLast? = some '.'

/-- a stored prefix shorter than the longest one, `mp`, leaves a remainder that contains the dot in which `mp` ends -/
theorem eq_longest_of_dotfree {keys : List (List Char)} (hv : ∀ k ∈ keys, DotTerminated k)
    {K mp k : List Char} (h : longestPrefixKey keys K = some mp) (hk : k ∈ keys) (hp : k <+: K)
    (hd : (K.drop k.length).contains '.' = false) : k = mp := by
  obtain ⟨hmem, ⟨r, hr⟩, hmax⟩ := longestPrefixKey_some h
  obtain ⟨x, hx⟩ := List.prefix_of_prefix_length_le hp ⟨r, hr⟩ (hmax k hk hp)
  cases x with
  | nil => rw [← hx, List.append_nil]
  | cons a b =>
    exfalso
    have hlast : (a :: b).getLast? = some '.' := by
      rcases hv mp hmem with h0 | h0
      · rw [← hx] at h0; exact absurd h0 (by simp)
      · rw [← hx, List.getLast?_append] at h0; exact h0
    have hdrop : K.drop k.length = (a :: b) ++ r := by
      rw [← hr, ← hx, List.append_assoc, List.drop_left]
    rw [hdrop, ← Bool.not_eq_true, List.contains_iff_mem] at hd
    exact hd (List.mem_append_left _ (List.mem_of_getLast? hlast))

def classLeaves (F : List Flat) (K : List Char) (c : HostClass) : List Flat :=
  F.filter fun f => keyClass f.hw f.hk K == some c

/-- where model and specification meet: `hostGet_eq` shows the model equal to it, `specBasic_eq` the specification -/
def firstClass (F : List Flat) (K : List Char) : Option (List Flat) :=
  if !(classLeaves F K .exact).isEmpty then some (classLeaves F K .exact)
  else if !(classLeaves F K .wild).isEmpty then some (classLeaves F K .wild)
  else if !(classLeaves F K .any).isEmpty then some (classLeaves F K .any)
  else none

theorem mem_classLeaves {F : List Flat} {K : List Char} {c : HostClass} {f : Flat} :
    f ∈ classLeaves F K c ↔ f ∈ F ∧ keyClass f.hw f.hk K = some c := by
  rw [classLeaves, List.mem_filter, beq_iff_eq]

abbrev wildKeys (F : List Flat) : List (List Char) := (F.filter (·.hw)).map (·.hk)

/-- the code's one probe of the longest wildcard key `mp` finds what the specification's filter over all wildcard
    leaves finds -/
theorem wild_longest {F : List Flat} (hv : ∀ k ∈ wildKeys F, DotTerminated k) {K mp : List Char}
    (h : longestPrefixKey (wildKeys F) K = some mp) {f : Flat} (hf : f ∈ F) :
    keyClass f.hw f.hk K = some .wild ↔
      (f.hw = true ∧ f.hk = mp) ∧ mp ≠ [] ∧ (K.drop mp.length).contains '.' = false := by
  rw [keyClass_wild]
  constructor
  · rintro ⟨h1, h2, h3, h4⟩
    have hk := eq_longest_of_dotfree hv h (mem_keys.mpr ⟨f, hf, h1, rfl⟩) h3 h4
    exact ⟨⟨h1, hk⟩, hk ▸ h2, hk ▸ h4⟩
  · rintro ⟨⟨h1, h2⟩, h3, h4⟩
    exact ⟨h1, h2 ▸ h3, h2 ▸ (longestPrefixKey_some h).2.1, h2 ▸ h4⟩

theorem hostGet_eq (F : List Flat) (hv : ∀ k ∈ wildKeys F, DotTerminated k) (host : List Char) :
    hostGet F host = firstClass F (upper (reverseFqdn host)) := by
  unfold hostGet firstClass
  generalize upper (reverseFqdn host) = K
  have hE : (F.filter fun f => !f.hw && f.hk == K) = classLeaves F K .exact :=
    List.filter_congr fun f _ => (keyClass_exact f.hw f.hk K).symm
  have hA : (F.filter fun f => f.hw && f.hk == []) = classLeaves F K .any :=
    List.filter_congr fun f _ => (keyClass_any f.hw f.hk K).symm
  simp only [hE, hA]
  cases (classLeaves F K .exact).isEmpty with
  | false => rfl
  | true =>
    cases hl : longestPrefixKey (wildKeys F) K with
    | none =>
      -- no wildcard key is a prefix of the request key, not even `""`
      have hn := longestPrefixKey_none hl
      have hW : classLeaves F K .wild = [] := List.eq_nil_iff_forall_not_mem.mpr fun f hf => by
        obtain ⟨hf, hc⟩ := mem_classLeaves.mp hf
        obtain ⟨h1, _, h3, _⟩ := (keyClass_wild ..).mp hc
        exact hn _ (mem_keys.mpr ⟨f, hf, h1, rfl⟩) h3
      have hAe : classLeaves F K .any = [] := List.eq_nil_iff_forall_not_mem.mpr fun f hf => by
        obtain ⟨hf, hc⟩ := mem_classLeaves.mp hf
        have hb := keyClass_any f.hw f.hk K
        -- `hb` becomes `hw = true ∧ hk = []`
        rw [hc, beq_self_eq_true, eq_comm, Bool.and_eq_true, beq_iff_eq] at hb
        exact hn _ (mem_keys.mpr ⟨f, hf, hb.1, hb.2⟩) List.nil_prefix
      rw [hW, hAe]
      rfl
    | some mp =>
      obtain ⟨u, hu, huw, huk⟩ := mem_keys.mp (longestPrefixKey_some hl).1
      have hW0 : mp = [] ∨ (K.drop mp.length).contains '.' = true → classLeaves F K .wild = [] :=
        fun h0 => List.eq_nil_iff_forall_not_mem.mpr fun f hf => by
          obtain ⟨hf, hc⟩ := mem_classLeaves.mp hf
          obtain ⟨_, h2, h3⟩ := (wild_longest hv hl hf).mp hc
          rcases h0 with h0 | h0
          · exact h2 h0
          · rw [h3] at h0; cases h0
      dsimp only
      by_cases hd : (K.drop mp.length).contains '.' = true
      · rw [if_pos hd, hW0 (.inr hd)]
        cases (classLeaves F K .any).isEmpty <;> rfl
      · rw [if_neg hd]
        by_cases hmp : mp = []
        · subst hmp
          have hAne : (classLeaves F K .any).isEmpty = false := List.isEmpty_eq_false_iff.mpr <|
            List.ne_nil_of_mem (mem_classLeaves.mpr ⟨hu, by rw [huw, huk]; rfl⟩)
          -- the leaves under `""` are the any-class leaves
          rw [hW0 (.inl rfl), hA, hAne]
          rfl
        · have hW : (F.filter fun f => f.hw && f.hk == mp) = classLeaves F K .wild :=
            List.filter_congr fun f hf => by
              rw [Bool.eq_iff_iff, Bool.and_eq_true, beq_iff_eq, beq_iff_eq]
              exact ⟨fun h => (wild_longest hv hl hf).mpr ⟨h, hmp, Bool.eq_false_iff.mpr hd⟩,
                fun h => ((wild_longest hv hl hf).mp h).1⟩
          have hne : (classLeaves F K .wild).isEmpty = false := List.isEmpty_eq_false_iff.mpr <|
            List.ne_nil_of_mem (mem_classLeaves.mpr
              ⟨hu, (wild_longest hv hl hu).mpr ⟨⟨huw, huk⟩, hmp, Bool.eq_false_iff.mpr hd⟩⟩)
          rw [hW, hne]
          rfl

theorem classLeaves_map (T : List Triple) (H : List Char) (c : HostClass) :
    classLeaves (T.map flat) H.reverse c = (T.filter fun t => hostMatch t.host H == some c).map flat := by
  rw [classLeaves, List.filter_map]
  congr 2
  funext t
  rw [hostMatch_eq_keyClass]
  rfl

theorem count_eq_List_count (c : Char) (s : List Char) : count c s = s.count c := by
  rw [count, List.count, List.countP_eq_length_filter]

theorem checkHost_shape (h : List Char) (hc : checkHost h = true) :
    h ≠ [] ∧ ('*' ∉ h ∨ h = ['*'] ∨ ∃ r, h = '*' :: '.' :: r ∧ '*' ∉ r) := by
  simp only [checkHost, count_eq_List_count, Bool.and_eq_true, Bool.or_eq_true, decide_eq_true_eq, Bool.not_eq_true',
    bne_iff_ne, ne_eq, beq_iff_eq, List.isPrefixOf_iff_prefix] at hc
  obtain ⟨⟨hne, hle⟩, hs⟩ := hc
  refine ⟨fun e => (by rw [e] at hne; cases hne), ?_⟩
  rcases hs with (hs | hs) | ⟨r, hr⟩
  · exact .inl (List.count_eq_zero.mp (by omega))
  · exact .inr (.inl hs)
  · subst hr
    refine .inr (.inr ⟨r, rfl, List.count_eq_zero.mp ?_⟩)
    rw [show ['*', '.'] ++ r = '*' :: '.' :: r from rfl, List.count_cons_self,
      List.count_cons_of_ne (by decide)] at hle
    omega

theorem dropTrailingDot_cases (s : List Char) : dropTrailingDot s = s ∨ s = dropTrailingDot s ++ ['.'] := by
  unfold dropTrailingDot
  split
  · next r h =>
    right
    have := congrArg List.reverse h
    simpa using this
  · left; rfl

theorem hostKey_dotTerminated (p : List Char) (hv : checkHost p = true) (hw : (hostKey p).1 = true) :
    DotTerminated (hostKey p).2 := by
  rcases (checkHost_shape p hv).2 with h | rfl | ⟨r, rfl, _⟩
  · rw [hostKey_nostar p fun rest e => h (e ▸ List.mem_cons_self)] at hw; cases hw
  · exact .inl rfl
  · rw [hostKey_star, DotTerminated, List.reverse_eq_nil_iff, List.getLast?_reverse]
    -- `dropTrailingDot` keeps a prefix, which is empty or begins with the dot
    unfold normHost upper
    rcases dropTrailingDot_cases ('.' :: r) with h | h
    · rw [h]; exact .inr rfl
    · cases hd : dropTrailingDot ('.' :: r) with
      | nil => exact .inl rfl
      | cons a b => rw [hd] at h; rw [← (List.cons.inj h).1]; exact .inr rfl

theorem wildKeys_flat_dotTerminated (T : List Triple) (hv : ∀ t ∈ T, checkHost t.host = true) :
    ∀ k ∈ wildKeys (T.map flat), DotTerminated k := by
  intro k hk
  obtain ⟨_, hf, hw, rfl⟩ := mem_keys.mp hk
  obtain ⟨t, ht, rfl⟩ := List.mem_map.mp hf
  exact hostKey_dotTerminated t.host (hv t ht) hw

theorem treeGet_eq_bind (F : List Flat) (host path : List Char) :
    treeGet F host path = (hostGet F host).bind (pathGet · path) := by
  unfold treeGet
  cases hostGet F host <;> rfl

theorem specBasic_eq (T : List Triple) (host path : List Char) :
    specBasic T host path = (firstClass (T.map flat) (normHost host).reverse).bind (pathGet · path) := by
  unfold specBasic firstClass
  simp only [classLeaves_map, List.isEmpty_map, path_refines,
    apply_ite (fun o : Option (List Flat) => o.bind (pathGet · path)), Option.bind_some, Option.bind_none]

theorem checkHost_of_loadOk (rules : List Rule) (hok : loadOk rules = true) :
    ∀ t ∈ expand rules, checkHost t.host = true := by
  intro t ht
  simp only [loadOk, Bool.and_eq_true, List.all_eq_true] at hok
  obtain ⟨hrules, _⟩ := hok
  simp only [expand, List.mem_flatMap, List.mem_map] at ht
  obtain ⟨r, hr, h, hh, p, _, rfl⟩ := ht
  obtain ⟨⟨_, hhosts⟩, _⟩ := hrules r hr
  -- an empty host list stands for the one host `*`
  rw [orStar] at hh
  split at hh
  · rw [List.mem_singleton.mp hh]
    exact (by decide : checkHost ['*'] = true)
  · exact hhosts h hh

end BfeVerif.C11
