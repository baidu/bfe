import BfeVerif.C11.Proofs
import BfeVerif.C10.Basic
/-! C11: `ensureSlash`, `pathKey`, port and colon: for the theorems on the port (`C11_port_ignored`) and on rule shapes
    the loader accepts although docs/zh_cn/introduction/route.md calls them illegal. -/
namespace BfeVerif.C11

theorem ensureSlash_of_not_slash (q : List Char) (hne : q ≠ []) (hq : q.getLast? ≠ some '/') :
    ensureSlash q = q ++ ['/'] := if_pos (by simp [hne, hq])

theorem ensureSlash_of_slash (q : List Char) (hq : q.getLast? = some '/') : ensureSlash q = q :=
  if_neg (by simp [hq])

theorem pathKey_star (r : List Char) : pathKey (r ++ ['*']) = (true, ensureSlash r) := by
  rw [pathKey, if_pos (by rw [List.getLast?_concat]; rfl), List.dropLast_concat]

theorem ensureSlash_cons (c : Char) (q : List Char) : ∃ r, ensureSlash (c :: q) = c :: r := by
  unfold ensureSlash
  split
  · exact ⟨_, rfl⟩
  · exact ⟨_, rfl⟩

/-- the first character survives `ensureSlash` and the prefix relation -/
theorem pathMatchPrefix_of_head_ne (p path : List Char) (hstar : p ≠ ['*']) (hh : p.head? ≠ path.head?) :
    pathMatchPrefix p path = none := by
  rw [pathMatchPrefix_eq_ite]
  refine if_neg fun ⟨hl, hpre⟩ => ?_
  obtain ⟨q, rfl⟩ := List.getLast?_eq_some_iff.mp hl
  rw [List.dropLast_concat] at hpre
  cases q with
  | nil => exact hstar rfl
  | cons c q =>
    obtain ⟨r, hr⟩ := ensureSlash_cons c q
    rw [hr] at hpre
    cases path with
    | nil => cases hpre.length_le
    | cons d path =>
      obtain ⟨r', hr'⟩ := ensureSlash_cons d path
      rw [hr', List.cons_prefix_cons] at hpre
      exact hh (congrArg some hpre.1)

theorem hostMatch_nostar (h H : List Char) (hn : ∀ rest, h ≠ '*' :: rest) :
    hostMatch h H = if normHost h = H then some .exact else none := by
  rw [hostMatch_eq_keyClass, hostKey_nostar h hn]
  simp only [keyClass, Bool.false_eq_true, if_false, List.reverse_inj]

theorem stripPort_append_colon (h port : List Char) : stripPort (h ++ ':' :: port) = stripPort h :=
  C10.takeWhile_ne_append_cons ':' h port

theorem stripPort_self (h : List Char) (hh : ':' ∉ h) : stripPort h = h :=
  C10.takeWhile_ne_self ':' h hh

theorem colon_not_mem_stripPort (host : List Char) : ':' ∉ stripPort host :=
  fun h => C10.ne_of_mem_takeWhile_ne ':' ':' host h rfl

theorem toNat_upperC (c : Char) :
    (upperC c).toNat = if 97 ≤ c.toNat ∧ c.toNat ≤ 122 then c.toNat - 32 else c.toNat :=
  C10.toNat_ite_ofNat _ _ c fun h => by omega

theorem upperC_eq_colon (c : Char) : upperC c = ':' ↔ c = ':' := by
  refine ⟨fun e => ?_, fun e => by rw [e]; rfl⟩
  have ht := congrArg Char.toNat e
  rw [toNat_upperC] at ht
  split at ht
  · have : (':' : Char).toNat = 58 := rfl
    omega
  · exact Char.toNat_inj.mp ht

theorem colon_mem_normHost (p : List Char) : ':' ∈ normHost p ↔ ':' ∈ p := by
  have hd : ':' ∈ dropTrailingDot p ↔ ':' ∈ p := by
    rcases dropTrailingDot_cases p with e | e
    · rw [e]
    · generalize dropTrailingDot p = d at e
      subst e
      simp
  simp only [normHost, upper, List.mem_map, upperC_eq_colon, exists_eq_right, hd]

theorem hostMatch_of_colon (p H : List Char) (hc : ':' ∈ p) (hH : ':' ∉ H) : hostMatch p H = none := by
  have hk : ':' ∈ (hostKey p).2 := by
    unfold hostKey
    split
    · next rest =>
      rw [upper_reverseFqdn, List.mem_reverse, colon_mem_normHost]
      exact (List.mem_cons.mp hc).resolve_left (by decide)
    · rwa [upper_reverseFqdn, List.mem_reverse, colon_mem_normHost]
  rw [hostMatch_eq_keyClass]
  exact keyClass_none_of_mem hk (mt List.mem_reverse.mp hH)

end BfeVerif.C11
