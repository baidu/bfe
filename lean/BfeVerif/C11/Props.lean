import BfeVerif.C11.PathElems
import BfeVerif.C11.Shapes
/-!
  C11 — basic route rules follow the documented precedence.
-/
namespace BfeVerif.C11

/-- Refinement, for ALL rule sets whose host patterns pass `checkHostInBasicRule` and ALL request hosts and
    paths: the two-level radix lookup (exact host tree, else longest wildcard key + single-label test, else the
    `""` key; exact path tree, else longest slash-terminated prefix) returns exactly what the documented
    precedence prescribes (`specBasic`: host class exact > one-label wildcard > any, only the first class with
    a matching host pattern is considered; inside it exact path > longest prefix pattern > none). -/
theorem C11_refines_triples (T : List Triple) (hv : ∀ t ∈ T, checkHost t.host = true)
    (host path : List Char) : treeGet (T.map flat) host path = specBasic T host path := by
  rw [specBasic_eq, treeGet_eq_bind, hostGet_eq _ (wildKeys_flat_dotTerminated T hv), upper_reverseFqdn]

/-- The same for every rule file the loader accepts (`loadOk` mirrors `convertBasicRule`): the tree built by
    `Insert` from the rules answers as documented. -/
theorem C11_refines (rules : List Rule) (hok : loadOk rules = true) (host path : List Char) :
    treeGet ((expand rules).map flat) host path = specBasic (expand rules) host path :=
  C11_refines_triples _ (checkHost_of_loadOk rules hok) host path

/-- The path stage of the specification is the documentation's path-ELEMENT rule: the slash-terminated string
    prefix with the longest string, used by `specBasic`, selects the same rule as "the prefix pattern whose
    path elements start the request's path elements, with the most elements" (`specPathE`). -/
theorem C11_path_elements (cands : List Triple) (path : List Char) :
    specPathE cands path = specPath cands path := specPathE_eq cands path

theorem C11_refines_elements (rules : List Rule) (hok : loadOk rules = true) (host path : List Char) :
    treeGet ((expand rules).map flat) host path = specBasicE (expand rules) host path := by
  rw [specBasicE_eq]; exact C11_refines rules hok host path

/-- and at `LookupCluster` level (port removed first) -/
theorem C11_lookup_refines (rules : List Rule) (hok : loadOk rules = true) (host path : List Char) :
    lookupBasic ((expand rules).map flat) host path = specLookupBasic (expand rules) host path :=
  C11_refines rules hok (stripPort host) path

/-- The list fact behind falling straight to the any-host rule: if the remainder of the request key after a prefix
    contains a dot (more than one label), so does the remainder after any shorter prefix.  Stated for its own sake:
    the refinement (`hostGet_eq`) rests on `eq_longest_of_dotfree`, which needs that the stored keys end in a dot. -/
theorem C11_single_label (key : List Char) (n' n : Nat) (h : n' ≤ n)
    (hd : (key.drop n).contains '.' = true) : (key.drop n').contains '.' = true := by
  rw [List.contains_iff_mem] at hd ⊢
  exact List.drop_subset_drop_left key h hd

/-- No fallback between host classes: once `hostTrees.get` has chosen the leaves of a host key, a path miss
    there is the final answer, whatever other host classes would have matched. -/
theorem C11_no_fallback (F E : List Flat) (host path : List Char)
    (hh : hostGet F host = some E) (hp : pathGet E path = none) : treeGet F host path = none := by
  rw [treeGet_eq_bind, hh]
  exact hp

/-- A host miss is final: no path is looked at. -/
theorem C11_host_miss (F : List Flat) (host path : List Char) (hh : hostGet F host = none) :
    treeGet F host path = none := by
  rw [treeGet_eq_bind, hh]
  rfl

/-- `LookupCluster` ignores the port: everything after the first colon does not influence the answer. -/
theorem C11_port_ignored (F : List Flat) (h port path : List Char) (hh : ':' ∉ h) :
    lookupBasic F (h ++ ':' :: port) path = lookupBasic F h path := by
  rw [lookupBasic, stripPort_append_colon, lookupBasic]

/-- The specification cuts at the first colon too. -/
theorem C11_spec_port_ignored (T : List Triple) (h port path : List Char) (hh : ':' ∉ h) :
    specLookupBasic T (h ++ ':' :: port) path = specLookupBasic T (h ++ [':']) path := by
  rw [specLookupBasic, stripPort_append_colon, specLookupBasic, stripPort_append_colon]

/-- `checkHostInBasicRule`: a host pattern is non-empty and `*` occurs only as the whole pattern or as the whole
    first label — `*est.com`, `*.*.com`, `a.*.com`, `` are rejected (examples below), as the documentation demands. -/
theorem C11_loader_host_shape (h : List Char) (hc : checkHost h = true) :
    h ≠ [] ∧ ('*' ∉ h ∨ h = ['*'] ∨ ∃ r, h = '*' :: '.' :: r ∧ '*' ∉ r) := checkHost_shape h hc

/-- `checkPathInBasicRule`: non-empty and `*` only as the last character — `/a*b`, `/*/*` are rejected; but
    `/fo*` and patterns without leading `/`, which the documentation calls illegal, are ACCEPTED. -/
theorem C11_loader_path_shape (p : List Char) (hc : checkPath p = true) :
    p ≠ [] ∧ ('*' ∉ p ∨ (p.getLast? = some '*' ∧ '*' ∉ p.dropLast)) := by
  simp only [checkPath, count_eq_List_count, Bool.and_eq_true, Bool.or_eq_true, decide_eq_true_eq, Bool.not_eq_true',
    bne_iff_ne, ne_eq, beq_iff_eq] at hc
  obtain ⟨⟨hne, hle⟩, hs⟩ := hc
  refine ⟨fun e => (by rw [e] at hne; cases hne), ?_⟩
  rcases hs with hs | hs
  · exact .inl (List.count_eq_zero.mp (by omega))
  · obtain ⟨q, rfl⟩ := List.getLast?_eq_some_iff.mp hs
    refine .inr ⟨hs, ?_⟩
    rw [List.dropLast_concat]
    rw [List.count_append, List.count_singleton_self] at hle
    exact List.count_eq_zero.mp (by omega)

/-- accepted `/fo*` is harmless: it is exactly the documented rule `/fo/*` (same tree key), so it matches `/fo`,
    `/fo/x` and never `/foo`. -/
theorem C11_slashless_prefix_is_element_rule (q : List Char) (hne : q ≠ []) (hq : q.getLast? ≠ some '/') :
    pathKey (q ++ ['*']) = pathKey (q ++ ['/', '*']) := by
  rw [pathKey_star, List.append_cons q '/' ['*'], pathKey_star, ensureSlash_of_not_slash q hne hq,
    ensureSlash_of_slash _ List.getLast?_concat]

/-- an accepted path pattern without leading `/` (other than the lone `*`) is dead for every absolute request path -/
theorem C11_relative_path_pattern_dead (p path : List Char) (hp : p.head? ≠ some '/') (hstar : p ≠ ['*'])
    (hpne : p ≠ []) (habs : path.head? = some '/') :
    (p == path) = false ∧ pathMatchPrefix p path = none := by
  have hh : p.head? ≠ path.head? := fun e => hp (e.trans habs)
  exact ⟨beq_eq_false_iff_ne.mpr fun e => hh (congrArg _ e), pathMatchPrefix_of_head_ne p path hstar hh⟩

/-- an accepted exact host pattern containing `:` (`a.com:80`) is dead at `LookupCluster` (silently: the loader
    does not report it) -/
theorem C11_port_host_pattern_dead (p host : List Char) (hn : ∀ rest, p ≠ '*' :: rest) (hc : ':' ∈ p) :
    hostMatch p (normHost (stripPort host)) = none :=
  hostMatch_of_colon p _ hc (mt (colon_mem_normHost _).mp (colon_not_mem_stripPort host))

-- long string literals are read as character lists first: the kernel is slow to decode their UTF-8 bytes
-- (not worth it for rows with one to three short literals)
example : checkHost "*est.com".toList = false ∧ checkHost "*.*.com".toList = false ∧ checkHost "a.*.com".toList = false
    ∧ checkHost [] = false ∧ checkHost "*foo.com".toList = false := by
  repeat rewrite [String.toList_ofList]
  decide +kernel
example : checkPath "/a*b".toList = false ∧ checkPath "/*/*".toList = false ∧ checkPath [] = false := by
  repeat rewrite [String.toList_ofList]
  decide +kernel
-- accepted although route.md calls them illegal or does not mention them
example : checkPath "/fo*".toList = true ∧ checkPath "fo".toList = true ∧ checkPath "fo*".toList = true
    ∧ checkHost "a.com:80".toList = true ∧ checkHost "*.".toList = true ∧ checkHost ".a..com".toList = true := by
  repeat rewrite [String.toList_ofList]
  decide +kernel

/-! ### the documentation's tables (docs/zh_cn/introduction/route.md), on model AND spec -/

def mk (rs : List (List String × List String × String)) : List Rule :=
  rs.map fun (h, p, c) => ⟨h.map String.toList, p.map String.toList, c⟩

def M (rs : List (List String × List String × String)) (h p : String) : Option String :=
  treeGet ((expand (mk rs)).map flat) h.toList p.toList

def S (rs : List (List String × List String × String)) (h p : String) : Option String :=
  specBasic (expand (mk rs)) h.toList p.toList

example : elemsOf "/a/b".toList = ["".toList, "a".toList, "b".toList] ∧ elemsOf "/a/b/".toList = elemsOf "/a/b".toList
    ∧ elemsOf "/".toList = ["".toList] ∧ elemsOf [] = [] := by
  repeat rewrite [String.toList_ofList]
  decide +kernel

-- host table
example : M [(["*"], ["*"], "c")] "www.test1.com" "/" = some "c" ∧ S [(["*"], ["*"], "c")] "www.test1.com" "/" = some "c" := by
  simp only [M, S, mk, List.map, -String.reduceToList]
  repeat rewrite [String.toList_ofList]
  decide +kernel
example : M [([], ["/x"], "c")] "www.test1.com" "/x" = some "c" ∧ S [([], ["/x"], "c")] "www.test1.com" "/x" = some "c" := by
  simp only [M, S, mk, List.map, -String.reduceToList]
  repeat rewrite [String.toList_ofList]
  decide +kernel
example : M [(["*.test1.com"], [], "c")] "host.test1.com" "/" = some "c" ∧ S [(["*.test1.com"], [], "c")] "host.test1.com" "/" = some "c" := by
  simp only [M, S, mk, List.map, -String.reduceToList]
  repeat rewrite [String.toList_ofList]
  decide +kernel
example : M [(["*.test1.com"], [], "c")] "vip.host.test1.com" "/" = none ∧ S [(["*.test1.com"], [], "c")] "vip.host.test1.com" "/" = none := by
  simp only [M, S, mk, List.map, -String.reduceToList]
  repeat rewrite [String.toList_ofList]
  decide +kernel
example : M [(["*.test1.com"], [], "c")] "example.com" "/" = none ∧ S [(["*.test1.com"], [], "c")] "example.com" "/" = none := by
  simp only [M, S, mk, List.map, -String.reduceToList]
  repeat rewrite [String.toList_ofList]
  decide +kernel
example : M [(["*.test1.com"], [], "c")] "test1.com" "/" = none ∧ S [(["*.test1.com"], [], "c")] "test1.com" "/" = none := by
  simp only [M, S, mk, List.map, -String.reduceToList]
  repeat rewrite [String.toList_ofList]
  decide +kernel
-- path table
example : M [(["a"], ["*"], "c")] "a" "" = some "c" ∧ S [(["a"], ["*"], "c")] "a" "" = some "c" := by decide +kernel
example : M [(["a"], ["*"], "c")] "a" "/a/b" = some "c" ∧ S [(["a"], ["*"], "c")] "a" "/a/b" = some "c" := by decide +kernel
example : M [(["a"], ["/"], "c")] "a" "" = none ∧ S [(["a"], ["/"], "c")] "a" "" = none := by decide +kernel
example : M [(["a"], ["/"], "c")] "a" "/" = some "c" ∧ S [(["a"], ["/"], "c")] "a" "/" = some "c" := by decide +kernel
example : M [(["a"], ["/"], "c")] "a" "/a" = none ∧ S [(["a"], ["/"], "c")] "a" "/a" = none := by decide +kernel
example : M [(["a"], ["/*"], "c")] "a" "" = none ∧ S [(["a"], ["/*"], "c")] "a" "" = none := by decide +kernel
example : M [(["a"], ["/*"], "c")] "a" "/" = some "c" ∧ S [(["a"], ["/*"], "c")] "a" "/" = some "c" := by decide +kernel
example : M [(["a"], ["/*"], "c")] "a" "/a/b" = some "c" ∧ S [(["a"], ["/*"], "c")] "a" "/a/b" = some "c" := by decide +kernel
example : M [(["a"], ["/*"], "c")] "a" "/a/" = some "c" ∧ S [(["a"], ["/*"], "c")] "a" "/a/" = some "c" := by decide +kernel
example : M [(["a"], ["/a/b/*"], "c")] "a" "/a/b/c/d" = some "c" ∧ S [(["a"], ["/a/b/*"], "c")] "a" "/a/b/c/d" = some "c" := by decide +kernel
example : M [(["a"], ["/a/b/*"], "c")] "a" "/a/b" = some "c" ∧ S [(["a"], ["/a/b/*"], "c")] "a" "/a/b" = some "c" := by decide +kernel
example : M [(["a"], ["/a/b/*"], "c")] "a" "/a/c" = none ∧ S [(["a"], ["/a/b/*"], "c")] "a" "/a/c" = none := by decide +kernel
example : M [(["a"], ["/a/b/*"], "c")] "a" "/a/" = none ∧ S [(["a"], ["/a/b/*"], "c")] "a" "/a/" = none := by decide +kernel

/-- the worked example of route.md (rules 1–4, request vip.b.test1.com/interface/d → rule 2) -/
def docRules : List (List String × List String × String) :=
  [(["*.test1.com"], [], "Static1"), (["*.b.test1.com"], ["/interface/*"], "Php2"),
   (["*.b.test1.com"], ["/*"], "Static3"), (["www.test1.com"], ["/interface/d"], "Php4")]

example : loadOk (mk docRules) = true := by
  simp only [mk, docRules, List.map, -String.reduceToList]
  repeat rewrite [String.toList_ofList]
  decide +kernel
example : M docRules "vip.b.test1.com" "/interface/d" = some "Php2" ∧ S docRules "vip.b.test1.com" "/interface/d" = some "Php2" := by
  simp only [M, S, mk, docRules, List.map, -String.reduceToList]
  repeat rewrite [String.toList_ofList]
  decide +kernel
example : M docRules "VIP.B.Test1.com." "/other" = some "Static3" ∧ S docRules "VIP.B.Test1.com." "/other" = some "Static3" := by
  simp only [M, S, mk, docRules, List.map, -String.reduceToList]
  repeat rewrite [String.toList_ofList]
  decide +kernel
-- no fallback: exact host class chosen, its only path does not match, the wildcard rule 1 is NOT consulted
example : M docRules "www.test1.com" "/x" = none ∧ S docRules "www.test1.com" "/x" = none := by
  simp only [M, S, mk, docRules, List.map, -String.reduceToList]
  repeat rewrite [String.toList_ofList]
  decide +kernel
-- `/fo*` behaves as `/fo/*`
example : M [(["a"], ["/fo*"], "c")] "a" "/foo" = none ∧ M [(["a"], ["/fo*"], "c")] "a" "/fo/x" = some "c"
    ∧ M [(["a"], ["/fo*"], "c")] "a" "/fo" = some "c" := by decide +kernel
-- two labels under *.test1.com: not a wildcard match, and there is no any-host rule
example : M docRules "a.c.test1.com" "/" = none ∧ S docRules "a.c.test1.com" "/" = none := by
  simp only [M, S, mk, docRules, List.map, -String.reduceToList]
  repeat rewrite [String.toList_ofList]
  decide +kernel

end BfeVerif.C11
