import BfeVerif.C56.Model
namespace BfeVerif.C56

theorem unpackInput_post (body : Bytes) (dnsVals : Option (List Bytes)) :
    unpackInput "POST" dnsVals body = some (body.take maxPost) := by
  unfold unpackInput
  rw [if_neg (by decide), if_pos rfl]

theorem unpackInput_some (method : String) (dnsVals : Option (List Bytes)) (body w : Bytes)
    (h : unpackInput method dnsVals body = some w) :
    (method = "GET" ∧ ∃ v, dnsVals = some [v] ∧ b64decode v = some w) ∨
    (method = "POST" ∧ w = body.take maxPost) := by
  revert h
  -- GET with exactly one `dns` value | GET with none or several | POST | any other method
  fun_cases unpackInput method dnsVals body with
  | case1 hg v => exact fun h => Or.inl ⟨hg, v, rfl, h⟩
  | case2 | case4 => exact nofun
  | case3 _ _ hp => exact fun h => Or.inr ⟨hp, (Option.some.inj h).symm⟩

theorem requestToDnsMsg_some (unpack : Bytes → Option Msg) (method : String) (dnsVals : Option (List Bytes))
    (body : Bytes) (ra ca : Option Bytes) (m' : Msg) (h : requestToDnsMsg unpack method dnsVals body ra ca = some m') :
    ∃ w m, unpackInput method dnsVals body = some w ∧ unpack w = some m ∧ m' = setClientSubnet ra ca m := by
  simp only [requestToDnsMsg, Option.map_eq_some_iff, Option.bind_eq_some_iff] at h
  obtain ⟨m, ⟨w, hi, hu⟩, rfl⟩ := h
  exact ⟨w, m, hi, hu, rfl⟩

theorem isV4Mapped_length (ip : Bytes) (h : isV4Mapped ip = true) : ip.length = 16 := by
  unfold isV4Mapped at h
  simp only [Bool.and_eq_true, beq_iff_eq] at h
  exact h.1.1.1

theorem to4_isSome_iff (ip : Bytes) : (to4 ip).isSome = true ↔ IsV4 ip := by
  unfold to4 IsV4
  by_cases h : ip.length = 4
  · simp [h]
  · simp [h]

theorem familyOf_v4 (ip : Bytes) (h : IsV4 ip) : familyOf ip = (1, 32) := by
  have h4 : (to4 ip).isNone = false := by
    rw [Option.isNone_eq_false_iff]; exact (to4_isSome_iff ip).mpr h
  rw [familyOf, h4]
  rfl

theorem familyOf_v6 (ip : Bytes) (h : IsV6 ip) : familyOf ip = (2, 128) := by
  obtain ⟨hl, hm⟩ := h
  unfold familyOf to4 to16
  simp [hl, hm]

theorem countOpt_append (a b : List RR) : countOpt (a ++ b) = countOpt a + countOpt b := by
  simp [countOpt, List.filter_append]

theorem countOpt_setClientSubnet (rip : Bytes) (ca : Option Bytes) (m : Msg) :
    countOpt (setClientSubnet (some rip) ca m).extra = countOpt m.extra + 1 :=
  countOpt_append _ _

theorem readLimited_eq (chunks : List Bytes) (n : Nat) : readLimited chunks n = chunks.flatten.take n := by
  -- no chunk left | limit used up | a chunk, cut at the limit, then the others
  fun_induction readLimited chunks n with
  | case1 => rw [List.flatten_nil, List.take_nil]
  | case2 => rw [List.take_zero]
  | case3 c rest n h0 ih => rw [List.flatten_cons, List.take_append, ih]

theorem unpackInputC_eq (method : String) (dnsVals : Option (List Bytes)) (chunks : List Bytes) :
    unpackInputC method dnsVals chunks = unpackInput method dnsVals chunks.flatten := by
  unfold unpackInputC unpackInput
  rw [readLimited_eq]

theorem exchangeWithRetry_le (n : Nat) (sc : List Char) : (exchangeWithRetry n sc).1 ≤ n := by
  -- arms of `exchangeWithRetry`: no attempt left | script at its end | the upstream replies ('r') | it fails, next attempt
  fun_induction exchangeWithRetry n sc with
  | case1 => exact Nat.le_refl _
  | case2 | case3 => exact Nat.succ_le_succ (Nat.zero_le _)
  | case4 _ _ _ _ _ ih => exact Nat.succ_le_succ ih

theorem exchangeWithRetry_ok_iff (n : Nat) (sc : List Char) :
    (exchangeWithRetry n sc).2 = true ↔ (sc.take n).length < n ∨ 'r' ∈ sc.take n := by
  -- arms as in `exchangeWithRetry_le`
  fun_induction exchangeWithRetry n sc with
  | case1 | case2 => simp
  | case3 => exact ⟨fun _ => Or.inr List.mem_cons_self, fun _ => rfl⟩
  | case4 n c rest hc r ih =>
    have hc' : ¬ 'r' = c := fun h => hc h.symm
    rw [List.take_succ_cons, List.length_cons, List.mem_cons, Nat.succ_lt_succ_iff]
    exact ih.trans ⟨Or.imp_right Or.inr, Or.imp_right (Or.resolve_left · hc')⟩

theorem getTTL_eq_min? (ttls : List Nat) : getTTL ttls = ttls.min?.getD 0 := by
  cases ttls with
  | nil => rfl
  | cons t rest =>
    have hmin : (fun ttl x : Nat => if ttl > x then x else ttl) = min := by
      funext a b
      rw [Nat.min_def]
      by_cases h : a ≤ b
      · rw [if_neg (Nat.not_lt.mpr h), if_pos h]
      · rw [if_pos (Nat.lt_of_not_le h), if_neg h]
    rw [getTTL, hmin, List.min?_cons']
    rfl

theorem b64vals_eq_none {v : Bytes} {c : UInt8} (hc : c ∈ v) (h13 : c ≠ 13) (h10 : c ≠ 10) (hbad : b64val c = none) :
    b64vals v = none := by
  -- arms of `b64vals`: end of input | CR or LF, skipped | a byte outside the alphabet | a digit, then the others
  fun_induction b64vals v with
  | case1 => exact absurd hc List.not_mem_nil
  | case2 x rest hx ih =>
    rcases List.mem_cons.mp hc with rfl | hc'
    · exact absurd hx (not_or.mpr ⟨h13, h10⟩)
    · exact ih hc'
  | case3 => rfl
  | case4 x rest hx v hv ih =>
    rcases List.mem_cons.mp hc with rfl | hc'
    · rw [hbad] at hv; cases hv
    · rw [ih hc']; rfl

end BfeVerif.C56
