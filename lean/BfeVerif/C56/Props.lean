import BfeVerif.C56.Proofs
/-!
  C56 — DoH forwards the client's query with a correct client-subnet option.
  `unpack` (miekg/dns `Msg.Unpack`) is an arbitrary function: every theorem holds for all of them.
-/
namespace BfeVerif.C56

variable (unpack : Bytes → Option Msg)

/-- Partial in `hsz` only (POST bodies of at most 8192 bytes; a longer one is cut, `C56_post_cut`,
    `C56_witness_oversize`): what is forwarded is the unpacked message of exactly the client's bytes,
    header/question/answer/authority (`pre`) and additional records unchanged; with a remote address one OPT (udp size
    4096) is appended, carrying one client-subnet option with scope 0 and the client's address (`ClientAddr` if set,
    else `RemoteAddr`). -/
theorem C56_same_query_partial (method : String) (dnsVals : Option (List Bytes)) (body : Bytes) (ra ca : Option Bytes)
    (m' : Msg) (hsz : method = "POST" → body.length ≤ maxPost)
    (h : requestToDnsMsg unpack method dnsVals body ra ca = some m') :
    ∃ w m, ((method = "GET" ∧ ∃ v, dnsVals = some [v] ∧ b64decode v = some w) ∨
            (method = "POST" ∧ w = body ∧ body.length ≤ maxPost)) ∧
      unpack w = some m ∧ m'.pre = m.pre ∧
      (ra = none → m' = m) ∧
      (∀ rip, ra = some rip → ∃ f k, m'.extra = m.extra ++ [RR.opt 4096 0 [Opt.ecs f k 0 (ca.getD rip)]]) := by
  obtain ⟨w, m, hi, hu, rfl⟩ := requestToDnsMsg_some unpack method dnsVals body ra ca m' h
  refine ⟨w, m, ?_, hu, ?_, ?_, ?_⟩
  · rcases unpackInput_some method dnsVals body w hi with hg | ⟨hp, hw⟩
    · exact Or.inl hg
    · rw [List.take_of_length_le (hsz hp)] at hw
      exact Or.inr ⟨hp, hw, hsz hp⟩
  · cases ra <;> rfl
  · intro hra; rw [hra]; rfl
  · intro rip hra; rw [hra]; exact ⟨_, _, rfl⟩

/-- The appended option has family 1 / prefix 32 for an IPv4 client (4-byte or IPv4-mapped 16-byte
    form) and family 2 / prefix 128 for an IPv6 client, and it never makes a packable message unpackable (the right-hand
    sides leave `packable` as it is: `ecsPackable` holds of the option). -/
theorem C56_family (m : Msg) (rip : Bytes) (ca : Option Bytes) :
    (IsV4 (ca.getD rip) → setClientSubnet (some rip) ca m =
        { m with extra := m.extra ++ [RR.opt 4096 0 [Opt.ecs 1 32 0 (ca.getD rip)]] }) ∧
    (IsV6 (ca.getD rip) → setClientSubnet (some rip) ca m =
        { m with extra := m.extra ++ [RR.opt 4096 0 [Opt.ecs 2 128 0 (ca.getD rip)]] }) := by
  constructor
  · intro h
    have hp : (to4 (ca.getD rip)).isSome = true := (to4_isSome_iff _).mpr h
    simp [setClientSubnet, familyOf_v4 _ h, ecsPackable, hp]
  · intro h
    simp [setClientSubnet, familyOf_v6 _ h, ecsPackable, h.1]

/-- full-strength statement — FALSE for the code as it is: a POST body of more than 8192 bytes is rejected. -/
def OversizeRejected : Prop :=
  ∀ (unpack : Bytes → Option Msg) (dnsVals : Option (List Bytes)) (body : Bytes) (ra ca : Option Bytes),
    body.length > maxPost → requestToDnsMsg unpack "POST" dnsVals body ra ca = none

theorem C56_post_cut (dnsVals : Option (List Bytes)) (body : Bytes) (ra ca : Option Bytes) :
    requestToDnsMsg unpack "POST" dnsVals body ra ca =
      (unpack (body.take maxPost)).map (setClientSubnet ra ca) := by
  rw [requestToDnsMsg, unpackInput_post, Option.bind_some]

/-- An 8193-byte body whose first 8192 bytes unpack is cut and forwarded. -/
theorem C56_witness_oversize : ¬ OversizeRejected := by
  intro h
  have h1 := h (fun _ => some ⟨"q", [], true⟩) none (List.replicate 8193 0) none none (by rw [List.length_replicate]; decide)
  rw [C56_post_cut] at h1
  cases h1

/-- a message that does not unpack, a GET without exactly one well-formed `dns` value and every other method
    are rejected. -/
theorem C56_malformed_rejected (method : String) (dnsVals : Option (List Bytes)) (body : Bytes) (ra ca : Option Bytes)
    (h : ∀ w, unpackInput method dnsVals body = some w → unpack w = none) :
    requestToDnsMsg unpack method dnsVals body ra ca = none := by
  rw [requestToDnsMsg, Option.map_eq_none_iff, Option.bind_eq_none_iff]
  exact h

/-- the last case of `C56_malformed_rejected` (`unpackInput` is `none`), stated for the method alone -/
theorem C56_other_method_rejected (method : String) (dnsVals : Option (List Bytes)) (body : Bytes) (ra ca : Option Bytes)
    (h1 : method ≠ "GET") (h2 : method ≠ "POST") : requestToDnsMsg unpack method dnsVals body ra ca = none := by
  simp [requestToDnsMsg, unpackInput, h1, h2]

/-- full-strength statement about OPT records (RFC 6891: at most one per message) — FALSE for the code as it is -/
def SingleOpt : Prop :=
  ∀ (unpack : Bytes → Option Msg) (method : String) (dnsVals : Option (List Bytes)) (body : Bytes) (rip : Bytes)
    (ca : Option Bytes) (m' : Msg),
    requestToDnsMsg unpack method dnsVals body (some rip) ca = some m' → countOpt m'.extra = 1

/-- The provable part of `SingleOpt`: exactly one OPT is forwarded when the client's message carried none. -/
theorem C56_single_opt_partial (method : String) (dnsVals : Option (List Bytes)) (body : Bytes) (rip : Bytes)
    (ca : Option Bytes) (m' : Msg)
    (hno : ∀ w m, unpackInput method dnsVals body = some w → unpack w = some m → countOpt m.extra = 0)
    (h : requestToDnsMsg unpack method dnsVals body (some rip) ca = some m') : countOpt m'.extra = 1 := by
  obtain ⟨w, m, hi, hu, rfl⟩ := requestToDnsMsg_some unpack method dnsVals body (some rip) ca m' h
  rw [countOpt_setClientSubnet, hno w m hi hu]

/-- A client message that already has an OPT (what every EDNS-speaking DoH client sends)
    is forwarded with two OPT records. -/
theorem C56_witness_second_opt : ¬ SingleOpt := by
  intro h
  have := h (fun _ => some ⟨"q", [RR.opt 1232 0 []], true⟩) "POST" none [] [192, 0, 2, 1] none _ (C56_post_cut ..)
  rw [countOpt_setClientSubnet] at this
  cases this

/-- However `req.Body.Read` cuts the body into pieces, the forwarded message is the one of the concatenation, so the
    theorems above hold for every chunking. -/
theorem C56_post_chunking_independent (method : String) (dnsVals : Option (List Bytes)) (chunks : List Bytes)
    (ra ca : Option Bytes) :
    requestToDnsMsgC unpack method dnsVals chunks ra ca =
      requestToDnsMsg unpack method dnsVals chunks.flatten ra ca := by
  rw [requestToDnsMsgC, requestToDnsMsg, unpackInputC_eq]

example : requestToDnsMsgC (fun w => some ⟨toString w.length, [], true⟩) "POST" none [[1], [], [2, 3], [4]] none none =
    some ⟨"4", [], true⟩ := by decide +kernel

/-- In the model (by construction: `convertBatch` is a `map`) the message produced for a request does not depend on
    which other requests are converted before or after it while it is held (the implementation is tied to this by
    `bat` ops: all conversions first, request buffers scribbled, every message summarised and packed at the end). -/
theorem C56_batch_noninterference (pre post : List DohReq) (r : DohReq) :
    (convertBatch unpack (pre ++ r :: post))[pre.length]? =
      some (requestToDnsMsgC unpack r.method r.dnsVals r.chunks r.ra r.ca) := by
  simp [convertBatch]

/-- What reaches the upstream (`r.2` queries: none unless matched, TLS, converted and packable; at most retryMax+1) and
    what the client gets (200 exactly when one of these exchanges gets a proper reply, 403 without TLS, `goon` exactly
    when the condition does not match). -/
theorem C56_handler (matched secure : Bool) (conv : Option Msg) (script : List Char) (retryMax : Nat) :
    let r := dohHandler matched secure conv script retryMax
    ((matched = false ∨ secure = false ∨ conv = none ∨ (∃ m, conv = some m ∧ m.packable = false)) → r.2 = 0) ∧
    r.2 ≤ retryMax + 1 ∧
    (r.1 = HRes.goon ↔ matched = false) ∧
    (r.1 = HRes.resp 403 ↔ matched = true ∧ secure = false) ∧
    (r.1 = HRes.resp 200 ↔ matched = true ∧ secure = true ∧ (∃ m, conv = some m ∧ m.packable = true) ∧
        ((script.take (retryMax + 1)).length < retryMax + 1 ∨ 'r' ∈ script.take (retryMax + 1))) := by
  have hle := exchangeWithRetry_le (retryMax + 1) script
  have hok := exchangeWithRetry_ok_iff (retryMax + 1) script
  -- the exits of `dohHandler` in order: condition not matched | no TLS | not converted | does not pack | upstream exchange
  cases matched with
  | false => simp [dohHandler]
  | true =>
    cases secure with
    | false => simp [dohHandler]
    | true =>
      cases conv with
      | none => simp [dohHandler]
      | some m =>
        cases hp : m.packable with
        | false => simp [dohHandler, hp]
        | true =>
          simp only [dohHandler, hp]
          generalize exchangeWithRetry (retryMax + 1) script = r at hle hok
          obtain ⟨n, ok⟩ := r
          rw [← hok]
          cases ok <;> simpa [hp] using hle

/-- (RFC 8484 §5.1, mod_doh docs): `Cache-Control: max-age` is the smallest TTL of the Answer section —
    it is one of the answer TTLs and no answer TTL is smaller; 0 when there is no answer.  Authority/additional
    records do not take part. -/
theorem C56_ttl_min (ttls : List Nat) :
    (ttls = [] → getTTL ttls = 0) ∧ (ttls ≠ [] → getTTL ttls ∈ ttls ∧ ∀ t ∈ ttls, getTTL ttls ≤ t) := by
  refine ⟨fun h => by rw [h]; rfl, fun h => ?_⟩
  obtain ⟨a, ha⟩ := Option.isSome_iff_exists.mp (List.isSome_min?_iff.mpr h)
  rw [getTTL_eq_min?, ha]
  exact List.min?_eq_some_iff.mp ha

/-- A reply that packs is answered with status 200, `Content-Type: application/dns-message`,
    `Content-Length` = the packed length and max-age = `getTTL`; one that does not pack gives an error (-> 500). -/
theorem C56_response (ttls : List Nat) (n : Nat) :
    dnsMsgToResponse ttls (some n) = some ⟨200, "application/dns-message", getTTL ttls, n⟩ ∧
    dnsMsgToResponse ttls none = none := ⟨rfl, rfl⟩

/-- The subnet option carries `ClientAddr` whenever it is set (the address mod_trust_clientip /
    the proxy protocol established), else `RemoteAddr` (the TCP peer); never both, never a header value. -/
theorem C56_client_addr (m : Msg) (rip : Bytes) (ca : Option Bytes) :
    ∃ f k, (setClientSubnet (some rip) ca m).extra = m.extra ++
      [RR.opt 4096 0 [Opt.ecs f k 0 (match ca with | some c => c | none => rip)]] := by
  cases ca <;> exact ⟨_, _, rfl⟩

/-- A `dns` value with `+`, `/`, `=` (standard or padded base64) or any other byte outside `A–Z a–z 0–9 - _` is
    rejected; CR and LF are excepted because Go's decoder skips them. -/
theorem C56_get_alphabet (v : Bytes) (c : UInt8) (hc : c ∈ v) (h13 : c ≠ 13) (h10 : c ≠ 10)
    (hbad : b64val c = none) : b64decode v = none := by
  rw [b64decode, b64vals_eq_none hc h13 h10 hbad]
  rfl

example : b64val 43 = none ∧ b64val 47 = none ∧ b64val 61 = none := by decide +kernel

/-! with `cip.To16() != nil` as the family test (`familyOfOld`, the code without the family fix) every IPv4 client gets
    family 2 / 128, and a 4-byte address then makes the message unpackable (EDNS0_SUBNET.pack: "bad address") -/
example : familyOfOld [192, 0, 2, 1] = (2, 128) := by decide +kernel
example : ecsPackable 2 128 [192, 0, 2, 1] = false := by decide +kernel
example : familyOf [192, 0, 2, 1] = (1, 32) ∧ ecsPackable 1 32 [192, 0, 2, 1] = true := by decide +kernel
example : familyOf [0, 0, 0, 0, 0, 0, 0, 0, 0, 0, 255, 255, 192, 0, 2, 1] = (1, 32) := by decide +kernel
example : IsV4 [192, 0, 2, 1] := Or.inl rfl
example : IsV6 [32, 1, 13, 184, 0, 0, 0, 0, 0, 0, 0, 0, 0, 0, 0, 1] := ⟨rfl, by decide +kernel⟩
example : requestToDnsMsg (fun _ => some ⟨"q", [], true⟩) "GET" (some [[65, 65]]) [] (some [192, 0, 2, 1]) none =
    some ⟨"q", [RR.opt 4096 0 [Opt.ecs 1 32 0 [192, 0, 2, 1]]], true⟩ := by decide +kernel

end BfeVerif.C56
