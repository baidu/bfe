import BfeVerif.C22.Model
/-! C22: the Reader / Writer invariants and their preservation by every method; the Peek, ReadByte and ReadSlice loops
  are stable in their fuel (measure `mu`); what the source and the sink do on their own in the two delegation branches. -/
namespace BfeVerif.C22

/-- with `iteInduction`, lets a proof walk the exits of a method one by one -/
theorem ite_both {α : Sort _} {P : α → Prop} {c : Prop} [Decidable c] {a b : α} (ha : P a) (hb : P b) :
    P (if c then a else b) :=
  iteInduction (fun _ => ha) fun _ => hb

theorem srcRead_bytes (src : Script) (room : Nat) :
    (srcRead src room).1 ++ srcBytes (srcRead src room).2.2 = srcBytes src := by
  unfold srcRead
  split
  · simp [srcBytes]
  · split
    · simp [srcBytes]
    · simp [srcBytes, ← List.append_assoc, List.take_append_drop]

theorem srcRead_len (src : Script) (room : Nat) : (srcRead src room).1.length ≤ room := by
  unfold srcRead
  split
  · simp
  · split
    · assumption
    · simp; omega

theorem wsWrite_le (ws : WScript) (p : Bytes) : (wsWrite ws p).1 ≤ p.length := by
  unfold wsWrite; split <;> simp <;> omega

theorem indexOf_eq (d : UInt8) (l : Bytes) : indexOf d l = l.findIdx? (· = d) := by
  induction l with
  | nil => rfl
  | cons x xs ih => simp only [indexOf, List.findIdx?_cons, ih, decide_eq_true_eq]

theorem indexOf_lt (d : UInt8) (l : Bytes) (i : Nat) (h : indexOf d l = some i) : i < l.length :=
  (List.findIdx?_eq_some_iff_findIdx_eq.mp (indexOf_eq d l ▸ h)).1

theorem getLast?_append_ne (l o : Bytes) (h : o ≠ []) : (l ++ o).getLast? = o.getLast? := by
  rw [List.getLast?_append]
  cases ho : o.getLast? with
  | none => simp at ho; exact absurd ho h
  | some x => simp

theorem dropLast_append_last {l : Bytes} {y : UInt8} (h : l.getLast? = some y) : l.dropLast ++ [y] = l := by
  obtain ⟨ys, rfl⟩ := List.getLast?_eq_some_iff.mp h
  rw [List.dropLast_concat]

theorem length_dropLast_of_last {l : Bytes} {y : UInt8} (h : l.getLast? = some y) :
    l.dropLast.length = l.length - 1 := by simp

theorem take_sub_append (t : Bytes) {p : Bytes} {k : Nat} (hk : k ≤ p.length) :
    (t ++ p).take ((t ++ p).length - k) = t ++ p.take (p.length - k) := by
  rw [List.take_append, List.take_of_length_le (by rw [List.length_append]; omega), List.length_append]
  congr 2; omega

/-! ### `RInv`.  `pre`: after the unbuffered large read `buf[0:r]` is stale, only `lastByte` counts (`isSome`: UnreadByte
  then takes its first branch and never looks at `pre`); `rune`: UnreadRune refuses when `pre = []`; `last` serves
  UnreadByte's first branch. -/

structure RInv (S : Bytes) (b : Reader) : Prop where
  stream : b.consumed ++ b.cur ++ srcBytes b.src = S
  cnt : b.total = b.consumed.length
  capOk : b.pre.length + b.cur.length ≤ b.cap
  capPos : 0 < b.cap
  last : b.cur = [] → ∀ x, b.lastByte = some x → b.consumed.getLast? = some x
  pre : (b.cur = [] ∧ b.lastByte.isSome) ∨ b.pre <:+ b.consumed
  rune : ∀ k, b.lastRune = some k → b.pre = [] ∨ (1 ≤ k ∧ k ≤ b.pre.length ∧ b.pre <:+ b.consumed)

theorem inv_empty {cap : Nat} (hc : 0 < cap) (src : Script) : RInv (srcBytes src)
    { cap, pre := [], cur := [], err := 0, lastByte := none, total := 0, src, consumed := [] } :=
  { stream := rfl, cnt := rfl, capOk := Nat.zero_le _, capPos := hc, last := fun _ _ hx => (nomatch hx),
    pre := .inr (List.suffix_refl _), rune := fun _ hk => nomatch hk }

theorem inv_new (cap : Nat) (src : Script) : RInv (srcBytes src) (Reader.new cap src) :=
  inv_empty (by split <;> omega) src

theorem inv_fill {S : Bytes} {b : Reader} (h : RInv S b) : RInv S b.fill := by
  have hb := srcRead_bytes b.src (b.cap - b.cur.length)
  have hl := srcRead_len b.src (b.cap - b.cur.length)
  have hcap := h.capOk
  unfold Reader.fill
  refine { h with
    stream := ?_, capOk := ?_, last := fun hc => h.last (List.append_eq_nil_iff.mp hc).1,
    pre := .inr List.nil_suffix, rune := fun _ _ => .inl rfl }
  · dsimp only; rw [← h.stream, ← hb]; simp only [List.append_assoc]
  · dsimp only [List.length_nil]; rw [List.length_append]; omega

theorem fill_consumed (b : Reader) : b.fill.consumed = b.consumed := rfl
theorem fill_cap (b : Reader) : b.fill.cap = b.cap := by
  unfold Reader.fill; rfl

theorem inv_clearErr {S : Bytes} {b : Reader} (h : RInv S b) : RInv S b.clearErr := { h with }

theorem inv_noRune {S : Bytes} {b : Reader} (h : RInv S b) : RInv S { b with lastRune := none } :=
  { h with rune := fun _ hk => nomatch hk }

/-- the caller says what is left in the buffer (`Reader.consume`: the rest of `cur`; the unbuffered large read: nothing) -/
theorem inv_give {S : Bytes} {b : Reader} (h : RInv S b) {out pre' cur' : Bytes} {src' : Script} (e : Nat)
    (hs : out ++ cur' ++ srcBytes src' = b.cur ++ srcBytes b.src)
    (hcap : pre'.length + cur'.length ≤ b.cap)
    (h0 : out = [] → pre' = b.pre ∧ cur' = b.cur)
    (hp : out ≠ [] → cur' = [] ∨ pre' <:+ b.consumed ++ out) :
    RInv S { b with pre := pre', cur := cur', err := e, src := src', total := b.total + out.length,
                    consumed := b.consumed ++ out,
                    lastByte := if out.isEmpty then b.lastByte else out.getLast?,
                    lastRune := if out.isEmpty then b.lastRune else none } := by
  have hst : b.consumed ++ out ++ cur' ++ srcBytes src' = S := by
    rw [← h.stream]; simp only [List.append_assoc] at hs ⊢; rw [hs]
  have hcnt : b.total + out.length = (b.consumed ++ out).length := by rw [List.length_append, h.cnt]
  by_cases ho : out = []
  · obtain ⟨rfl, rfl⟩ := h0 ho
    subst ho
    rw [List.append_nil] at hst ⊢
    exact { h with stream := hst, capOk := hcap }
  · have hie : out.isEmpty = false := by simpa using ho
    refine { stream := hst, cnt := hcnt, capOk := hcap, capPos := h.capPos, last := ?_, pre := ?_, rune := ?_ }
    · intro _ x hx
      rw [getLast?_append_ne _ _ ho]; simpa [hie] using hx
    · refine (hp ho).imp (fun hc => ⟨hc, ?_⟩) id
      cases hg : out.getLast? with
      | none => exact absurd (List.getLast?_eq_none_iff.mp hg) ho
      | some x => simp [hie]
    · intro k hk; simp [hie] at hk

theorem consume_consumed (b : Reader) (k cnt : Nat) :
    (b.consume k cnt).consumed = b.consumed ++ b.cur.take k := rfl

theorem consume_pre {S : Bytes} {b : Reader} (h : RInv S b) (k cnt : Nat) (hne : b.cur.take k ≠ []) :
    (b.consume k cnt).pre <:+ (b.consume k cnt).consumed := by
  rcases h.pre with ⟨hc0, _⟩ | ⟨t, ht⟩
  · rw [hc0] at hne; exact absurd List.take_nil hne
  · exact ⟨t, by rw [consume_consumed, ← ht, List.append_assoc]; rfl⟩

-- `lb`, `lr` are free: ReadLine's `b.r--` leaves `lastByte` and `lastRuneSize` as they are, and knows of the latter only
-- that it is `none` (`SlicePost`)
theorem inv_unread {S : Bytes} {b : Reader} (h : RInv S b) {c' cur' pre' : Bytes} {tot : Nat} {lr : Option Nat}
    (hs : c' ++ cur' = b.consumed ++ b.cur) (hne : cur' ≠ []) (hp : pre' <:+ c')
    (hcap : pre'.length + cur'.length ≤ b.cap) (ht : tot = c'.length) (hlr : lr = none) (lb : Option UInt8) :
    RInv S { b with pre := pre', cur := cur', lastByte := lb, lastRune := lr, total := tot, consumed := c' } :=
  { stream := by rw [← h.stream, ← hs], cnt := ht, capOk := hcap, capPos := h.capPos,
    last := fun h0 => absurd h0 hne, pre := .inr hp, rune := fun _ hk => by rw [hlr] at hk; cases hk }

/-- un-reading `k` bytes through `b.r -= k` (UnreadRune) -/
theorem inv_unreadK {S : Bytes} {b : Reader} (h : RInv S b) (hs : b.pre <:+ b.consumed) {k : Nat} (hk1 : 1 ≤ k)
    (hk2 : k ≤ b.pre.length) {lr : Option Nat} (hlr : lr = none) (lb : Option UInt8) {tot : Nat} (ht : tot = b.total - k) :
    RInv S { b with pre := b.pre.take (b.pre.length - k), cur := b.pre.drop (b.pre.length - k) ++ b.cur,
                    lastByte := lb, lastRune := lr, total := tot,
                    consumed := b.consumed.take (b.consumed.length - k) } := by
  obtain ⟨t, hc⟩ := hs
  have hd : (b.pre.drop (b.pre.length - k)).length = k := by rw [List.length_drop, Nat.sub_sub_self hk2]
  have htk : (b.pre.take (b.pre.length - k)).length = b.pre.length - k := by
    rw [List.length_take, Nat.min_eq_left (Nat.sub_le _ _)]
  refine inv_unread h (hs := ?_) (hne := ?_) (hp := ?_) (hcap := ?_) (ht := ?_) hlr lb
  · rw [← hc, take_sub_append t hk2, List.append_assoc, ← List.append_assoc (b.pre.take _),
      List.take_append_drop, List.append_assoc]
  · intro h0
    have := congrArg List.length h0
    rw [List.length_append, hd] at this
    exact absurd (Nat.add_eq_zero_iff.mp this).1 (Nat.ne_of_gt hk1)
  · rw [← hc, take_sub_append t hk2]; exact List.suffix_append _ _
  · rw [htk, List.length_append, hd, ← Nat.add_assoc, Nat.sub_add_cancel hk2]; exact h.capOk
  · rw [ht, h.cnt, ← hc, take_sub_append t hk2, List.length_append, List.length_append, htk, Nat.add_sub_assoc hk2]

/-- `k = 1`, written `b.r--` (UnreadByte's second branch, ReadLine's CR put-back) -/
theorem inv_unstep {S : Bytes} {b : Reader} (h : RInv S b) (hs : b.pre <:+ b.consumed) (y : UInt8)
    (hy : b.pre.getLast? = some y) {lr : Option Nat} (hlr : lr = none) (lb : Option UInt8) :
    RInv S { b with pre := b.pre.dropLast, cur := y :: b.cur, lastByte := lb, lastRune := lr,
                    total := b.total - 1, consumed := b.consumed.dropLast } := by
  obtain ⟨ys, hys⟩ := List.getLast?_eq_some_iff.mp hy
  have hl : b.pre.length = ys.length + 1 := by rw [hys, List.length_append]; rfl
  have := inv_unreadK h hs (Nat.le_refl 1) (hl ▸ Nat.le_add_left 1 _) hlr lb rfl
  rw [← List.dropLast_eq_take, ← List.dropLast_eq_take, hl, Nat.add_sub_cancel] at this
  rw [hys] at this ⊢
  rwa [List.drop_left] at this

theorem inv_unreadByte {S : Bytes} {b : Reader} (h : RInv S b) : RInv S b.unreadByte.1 := by
  unfold Reader.unreadByte
  split
  · rename_i x hc hl
    refine inv_unread h (cur' := [x]) (hs := ?_) (hne := List.cons_ne_nil _ _) (hp := List.nil_suffix)
      (hcap := h.capPos) (ht := ?_) rfl none
    · rw [hc, List.append_nil]; exact dropLast_append_last (h.last hc x hl)
    · rw [List.length_dropLast, h.cnt]
  · rename_i hno
    cases hy : b.pre.getLast? with
    | none => exact inv_noRune h
    | some y =>
      refine inv_unstep h (h.pre.resolve_left fun ⟨hc0, hl⟩ => ?_) y hy rfl none
      obtain ⟨x, hx⟩ := Option.isSome_iff_exists.mp hl
      exact hno x hc0 hx

/-! ### `Gave`: `b'` is reached from `b` by handing out `out`, invariant kept; then method by method.
  `gave_x` (below `took_x`) is the fact about the method `x`, `Gave.x` (`Took.x`) the rule that the relation survives a
  following `x`. -/

structure Gave (S : Bytes) (b b' : Reader) (out : Bytes) : Prop where
  inv : RInv S b'
  consumed_eq : b'.consumed = b.consumed ++ out

theorem Gave.refl {S : Bytes} {b : Reader} (h : RInv S b) : Gave S b b [] := ⟨h, (List.append_nil _).symm⟩

theorem Gave.trans {S : Bytes} {a b c : Reader} {o₁ o₂ : Bytes} (h₁ : Gave S a b o₁) (h₂ : Gave S b c o₂) :
    Gave S a c (o₁ ++ o₂) := ⟨h₂.inv, by rw [h₂.consumed_eq, h₁.consumed_eq, List.append_assoc]⟩

theorem Gave.same {S : Bytes} {b b' : Reader} (h : Gave S b b' []) : b'.consumed = b.consumed := by
  rw [h.consumed_eq, List.append_nil]

theorem Gave.fill {S : Bytes} {b b' : Reader} {out : Bytes} (h : Gave S b b' out) : Gave S b b'.fill out :=
  ⟨inv_fill h.inv, (fill_consumed b').trans h.consumed_eq⟩

theorem Gave.clearErr {S : Bytes} {b b' : Reader} {out : Bytes} (h : Gave S b b' out) : Gave S b b'.clearErr out :=
  ⟨inv_clearErr h.inv, h.consumed_eq⟩

theorem gave_consume {S : Bytes} {b : Reader} (h : RInv S b) {k cnt : Nat} (hk : k ≤ b.cur.length) (hc : cnt = k) :
    Gave S b (b.consume k cnt) (b.cur.take k) := by
  obtain rfl : cnt = (b.cur.take k).length := hc.trans (List.length_take_of_le hk).symm
  have hcap := h.capOk
  -- `0`: any count will do, `consume k cnt` puts `cnt` into `total` only
  refine ⟨inv_give h b.err (out := b.cur.take k) ?_ ?_ (fun h0 => ?_) fun hne => .inr (consume_pre h k 0 hne), rfl⟩
  · rw [List.take_append_drop]
  · simp only [List.length_append, List.length_take, List.length_drop]; omega
  · have := List.take_append_drop k b.cur
    rw [h0] at this ⊢
    exact ⟨List.append_nil _, this⟩

theorem gave_peekLoop {S : Bytes} (f : Nat) (b0 b : Reader) (n : Nat) (hb : Gave S b0 b []) :
    Gave S b0 (Reader.peekLoop f b n) [] := by
  induction f generalizing b with
  | zero => exact hb
  | succ f ih =>
    unfold Reader.peekLoop
    exact ite_both (P := fun r => Gave S b0 r []) (ih _ hb.fill) hb

theorem gave_peek {S : Bytes} (b : Reader) (n : Nat) (h : RInv S b) :
    Gave S b (b.peek n).1 [] ∧ (b.peek n).2.1 <+: (b.peek n).1.cur := by
  have hl := gave_peekLoop b.fuel b b n (.refl h)
  unfold Reader.peek
  let P (r : Reader × Bytes × Nat) : Prop := Gave S b r.1 [] ∧ r.2.1 <+: r.1.cur
  exact ite_both (P := P) ⟨.refl h, List.nil_prefix⟩ (ite_both
    ⟨hl.clearErr, List.take_prefix _ _⟩ ⟨hl, List.take_prefix _ _⟩)

theorem gave_copyOut {S : Bytes} (b : Reader) (n : Nat) (h : RInv S b) :
    Gave S b (b.copyOut n).1 (b.copyOut n).2.1 :=
  gave_consume h (Nat.min_le_right _ _) rfl

theorem gave_read {S : Bytes} (b : Reader) (n : Nat) (h : RInv S b) : Gave S b (b.read n).1 (b.read n).2.1 := by
  let P (r : Reader × Bytes × Nat) : Prop := Gave S b r.1 r.2.1
  have hf := (Gave.refl h).fill
  unfold Reader.read
  -- `n = 0` / [empty buffer: error pending / large read / fill got nothing / copy] / copy
  refine ite_both (P := P) (Gave.refl h).clearErr (iteInduction (fun hc => ?_) fun _ => gave_copyOut b n h)
  -- the large read: from the source straight to the caller
  have hc' : b.cur = [] := List.isEmpty_iff.mp hc
  have direct := inv_give h 0 (out := (srcRead b.src n).1) (pre' := b.pre) (cur' := b.cur)
    (src' := (srcRead b.src n).2.2) (by rw [hc', List.append_nil, List.nil_append]; exact srcRead_bytes b.src n)
    h.capOk (fun _ => ⟨rfl, rfl⟩) (fun _ => .inl hc')
  exact ite_both (Gave.refl h).clearErr (ite_both ⟨direct, rfl⟩ (ite_both
    hf.clearErr (hf.trans (gave_copyOut b.fill n hf.inv))))

theorem gave_readByteLoop {S : Bytes} (f : Nat) (b0 b : Reader) (hb : Gave S b0 b []) :
    Gave S b0 (Reader.readByteLoop f b).1 (Reader.readByteLoop f b).2.1.toList := by
  induction f generalizing b with
  | zero => exact hb
  | succ f ih =>
    unfold Reader.readByteLoop
    split
    · rename_i c t hc
      have := hb.trans (gave_consume hb.inv (k := 1) (by rw [hc]; exact Nat.succ_pos _) rfl)
      rwa [hc] at this
    · exact ite_both (P := fun r : Reader × Option UInt8 × Nat => Gave S b0 r.1 r.2.1.toList)
        hb.clearErr (ih _ hb.fill)

theorem gave_readByte {S : Bytes} (b : Reader) (h : RInv S b) : Gave S b b.readByte.1 b.readByte.2.1.toList :=
  gave_readByteLoop b.fuel b _ ⟨inv_noRune h, (List.append_nil _).symm⟩

/-- the second clause is what ReadLine's `b.r--` relies on -/
def SlicePost (S : Bytes) (b : Reader) (r : Reader × Bytes × Nat) : Prop :=
  Gave S b r.1 r.2.1 ∧ (r.2.1 ≠ [] → r.1.pre <:+ r.1.consumed ∧ r.1.lastRune = none)

theorem slicePost_consume {S : Bytes} {b0 b : Reader} (hb : Gave S b0 b []) {k cnt : Nat} (e : Nat)
    (hk : k ≤ b.cur.length) (hc : cnt = k) : SlicePost S b0 (b.consume k cnt, b.cur.take k, e) :=
  ⟨hb.trans (gave_consume hb.inv hk hc), fun hne => ⟨consume_pre hb.inv k cnt hne, by
    show (if (b.cur.take k).isEmpty then b.lastRune else none) = none
    rw [if_neg (by simpa using hne)]⟩⟩

theorem slicePost_readSliceLoop {S : Bytes} (f : Nat) (b0 b : Reader) (d : UInt8) (hb : Gave S b0 b []) :
    SlicePost S b0 (Reader.readSliceLoop f b d) := by
  induction f generalizing b with
  | zero => exact ⟨hb, fun h0 => absurd rfl h0⟩
  | succ f ih =>
    have hf := hb.fill
    unfold Reader.readSliceLoop
    refine ite_both ?_ ?_
    · have := slicePost_consume hb b.err (Nat.le_refl b.cur.length) rfl
      rw [List.take_length] at this
      exact ⟨this.1.clearErr, this.2⟩
    · dsimp only
      cases hi : indexOf d (b.fill.cur.drop b.cur.length) with
      | some i =>
        have hlt := indexOf_lt _ _ _ hi
        rw [List.length_drop] at hlt
        exact slicePost_consume hf 0 (by omega) rfl
      | none =>
        refine iteInduction (fun hfull => ?_) fun _ => ih _ hf
        have hcap := hf.inv.capOk
        -- ErrBufferFull: `cap` goes to TotalRead, `cur` to the caller; equal by `hfull` and `capOk`
        have := slicePost_consume hf 3 (Nat.le_refl b.fill.cur.length) (cnt := b.fill.cap) (by omega)
        rwa [List.take_length] at this

theorem slicePost_readSlice {S : Bytes} (b : Reader) (d : UInt8) (h : RInv S b) :
    SlicePost S b (b.readSlice d) := by
  unfold Reader.readSlice
  cases hi : indexOf d b.cur with
  | some i =>
    exact slicePost_consume (.refl h) 0 (indexOf_lt _ _ _ hi) rfl
  | none => exact slicePost_readSliceLoop _ b b d (.refl h)

theorem gave_readBytesLoop {S : Bytes} (f : Nat) (b0 b : Reader) (d : UInt8) (acc : Bytes) (hb : Gave S b0 b acc) :
    Gave S b0 (Reader.readBytesLoop f b d acc).1 (Reader.readBytesLoop f b d acc).2.1 := by
  induction f generalizing b acc with
  | zero => exact hb
  | succ f ih =>
    let P (r : Reader × Bytes × Nat) : Prop := Gave S b0 r.1 r.2.1
    have hp := hb.trans (slicePost_readSlice b d hb.inv).1
    unfold Reader.readBytesLoop
    generalize b.readSlice d = r at hp
    obtain ⟨b1, frag, e⟩ := r
    exact ite_both (P := P) hp (ite_both hp (ih _ _ hp))

theorem gave_readBytes {S : Bytes} (b : Reader) (d : UInt8) (h : RInv S b) :
    Gave S b (b.readBytes d).1 (b.readBytes d).2.1 :=
  gave_readBytesLoop _ b b d [] (.refl h)

theorem stripEol_spec (line : Bytes) :
    ∃ eol, (eol = [] ∨ eol = [10] ∨ eol = [13, 10]) ∧ stripEol line ++ eol = line := by
  unfold stripEol
  split
  · rename_i hnl
    obtain ⟨l1, rfl⟩ := List.getLast?_eq_some_iff.mp hnl
    dsimp only
    rw [List.dropLast_concat]
    split
    · rename_i hcr
      obtain ⟨l2, rfl⟩ := List.getLast?_eq_some_iff.mp hcr
      exact ⟨[13, 10], .inr (.inr rfl), by rw [List.dropLast_concat, List.append_assoc]; rfl⟩
    · exact ⟨[10], .inr (.inl rfl), rfl⟩
  · exact ⟨[], .inl rfl, List.append_nil _⟩

/-- 98 is ReadLine's panic -/
def LinePost (S : Bytes) (b : Reader) (r : Reader × Bytes × Bool × Nat) : Prop :=
  RInv S r.1 ∧ (r.2.2.2 ≠ 98 → ∃ eol, (eol = [] ∨ eol = [10] ∨ eol = [13, 10]) ∧ (r.2.2.1 = true → eol = []) ∧
    r.1.consumed = b.consumed ++ r.2.1 ++ eol)

theorem linePost_whole {S : Bytes} {b b' : Reader} {line : Bytes} (h : Gave S b b' line) (p : Bool) (e : Nat) :
    LinePost S b (b', line, p, e) :=
  ⟨h.inv, fun _ => ⟨[], .inl rfl, fun _ => rfl, by rw [h.consumed_eq, List.append_nil]⟩⟩

theorem linePost_readLine {S : Bytes} (b : Reader) (h : RInv S b) : LinePost S b b.readLine := by
  obtain ⟨hg, hpre⟩ := slicePost_readSlice b 10 h
  unfold Reader.readLine
  generalize b.readSlice 10 = r at hg hpre
  obtain ⟨b1, line, e⟩ := r
  dsimp only at hg hpre ⊢
  refine ite_both (iteInduction (fun hcr => ?_) fun _ => linePost_whole hg _ _) (iteInduction (fun hl => ?_) fun _ => ?_)
  · -- the line ends in CR: put it back
    have hne : line ≠ [] := by rintro rfl; cases hcr
    obtain ⟨hsuf, hlr⟩ := hpre hne
    cases hy : b1.pre.getLast? with
    | none => exact ⟨hg.inv, fun h98 => absurd rfl h98⟩
    | some y =>
      refine linePost_whole ⟨inv_unstep hg.inv hsuf y hy hlr b1.lastByte, ?_⟩ _ _
      show b1.consumed.dropLast = b.consumed ++ line.dropLast
      rw [hg.consumed_eq, List.dropLast_append_of_ne_nil hne]
  · rw [List.isEmpty_iff] at hl
    subst hl
    exact linePost_whole hg _ _
  · obtain ⟨eol, he, hs⟩ := stripEol_spec line
    exact ⟨hg.inv, fun _ => ⟨eol, he, fun hf => (nomatch hf), by rw [hg.consumed_eq, List.append_assoc, hs]⟩⟩

def SizeOk (n : Nat) (r : Nat × Nat) : Prop := 1 ≤ r.2 ∧ r.2 ≤ n

theorem decodeRune_size (c : UInt8) (rest : Bytes) : SizeOk (rest.length + 1) (decodeRune (c :: rest)) := by
  -- every error exit has size 1; size `k` is returned only after `k` bytes have been matched
  have one {n r} : SizeOk (n + 1) (r, 1) := ⟨Nat.le_refl 1, Nat.le_add_left 1 n⟩
  have two {n r} : SizeOk (n + 2) (r, 2) := ⟨Nat.le_add_left 1 1, Nat.le_add_left 2 n⟩
  have three {n r} : SizeOk (n + 3) (r, 3) := ⟨Nat.le_add_left 1 2, Nat.le_add_left 3 n⟩
  have four {n r} : SizeOk (n + 4) (r, 4) := ⟨Nat.le_add_left 1 3, Nat.le_add_left 4 n⟩
  unfold decodeRune
  refine ite_both one (ite_both one (ite_both one ?_))
  obtain _ | ⟨b1, _ | ⟨b2, _ | ⟨b3, rest⟩⟩⟩ := rest
  · exact one
  · exact ite_both one (ite_both two one)
  · exact ite_both one (ite_both two (ite_both one (ite_both three one)))
  · exact ite_both one (ite_both two (ite_both one (ite_both three (ite_both one four))))

theorem gave_readRuneLoop {S : Bytes} (f : Nat) (b0 b : Reader) (hb : Gave S b0 b []) :
    Gave S b0 (Reader.readRuneLoop f b) [] := by
  induction f generalizing b with
  | zero => exact hb
  | succ f ih =>
    unfold Reader.readRuneLoop
    exact ite_both (P := fun r => Gave S b0 r []) (ih _ hb.fill) hb

theorem gave_readRune {S : Bytes} (b : Reader) (h : RInv S b) :
    ∃ out, Gave S b b.readRune.1 out ∧ out.length = b.readRune.2.2.1 := by
  have hl := gave_readRuneLoop b.fuel b b (.refl h)
  unfold Reader.readRune
  generalize Reader.readRuneLoop b.fuel b = b1 at hl
  dsimp only
  cases hc : b1.cur with
  | nil => exact ⟨[], ⟨inv_noRune (inv_clearErr hl.inv), hl.consumed_eq⟩, rfl⟩
  | cons c t =>
    dsimp only
    have hsz : SizeOk (t.length + 1) (if c.toNat < 0x80 then (c.toNat, 1) else decodeRune (c :: t)) :=
      ite_both ⟨Nat.le_refl 1, Nat.le_add_left 1 _⟩ (decodeRune_size c t)
    generalize (if c.toNat < 0x80 then (c.toNat, 1) else decodeRune (c :: t)) = rs at hsz
    obtain ⟨hs1, hs2⟩ := hsz
    have hk : rs.2 ≤ b1.cur.length := by rw [hc]; exact hs2
    have htake : (b1.cur.take rs.2).length = rs.2 := List.length_take_of_le hk
    have hne : b1.cur.take rs.2 ≠ [] := fun h0 => by
      rw [h0] at htake; exact absurd htake.symm (Nat.ne_of_gt hs1)
    have g := hl.trans (gave_consume hl.inv hk rfl)
    -- the rune just read can be un-read: its `size` bytes end `buf[0:r]`
    refine ⟨_, ⟨{ g.inv with rune := fun k hk => ?_ }, g.consumed_eq⟩, htake⟩
    cases hk
    refine .inr ⟨hs1, ?_, consume_pre hl.inv rs.2 rs.2 hne⟩
    show rs.2 ≤ (b1.pre ++ b1.cur.take rs.2).length
    rw [List.length_append, htake]; exact Nat.le_add_left _ _

theorem unreadRune_cases (b : Reader) :
    b.unreadRune = (b, 8) ∨ ∃ k, b.lastRune = some k ∧ b.pre ≠ [] ∧ b.unreadRune =
      ({ b with pre := b.pre.take (b.pre.length - k), cur := b.pre.drop (b.pre.length - k) ++ b.cur,
                total := if b.total ≥ k then b.total - k else b.total, lastByte := none, lastRune := none,
                consumed := b.consumed.take (b.consumed.length - k) }, 0) := by
  unfold Reader.unreadRune
  cases b.lastRune with
  | none => exact .inl rfl
  | some k =>
    dsimp only
    by_cases hp : b.pre.isEmpty = true
    · rw [if_pos hp]; exact .inl rfl
    · rw [if_neg hp]; exact .inr ⟨k, rfl, by simpa using hp, rfl⟩

theorem inv_unreadRune {S : Bytes} (b : Reader) (h : RInv S b) : RInv S b.unreadRune.1 := by
  rcases unreadRune_cases b with he | ⟨k, hk, hp, he⟩ <;> rw [he]
  · exact h
  · obtain ⟨hk1, hk2, hs⟩ := (h.rune k hk).resolve_left hp
    exact inv_unreadK h hs hk1 hk2 rfl none (if_pos (h.cnt ▸ Nat.le_trans hk2 hs.length_le))

theorem gave_writeBuf {S : Bytes} (b : Reader) (ws : WScript) (h : RInv S b) :
    Gave S b (b.writeBuf ws).1 (b.writeBuf ws).2.2.2.2 :=
  gave_consume h (wsWrite_le ws b.cur) rfl

theorem gave_writeToLoop {S : Bytes} (f : Nat) (b0 b : Reader) (ws : WScript) (n : Nat) (out : Bytes)
    (hb : Gave S b0 b out) :
    Gave S b0 (Reader.writeToLoop f b ws n out).1 (Reader.writeToLoop f b ws n out).2.2.2 := by
  induction f generalizing b ws n out with
  | zero => exact hb
  | succ f ih =>
    let P (r : Reader × Nat × Nat × Bytes) : Prop := Gave S b0 r.1 r.2.2.2
    have hf := hb.fill
    unfold Reader.writeToLoop
    refine ite_both (P := P) ?_ ?_
    · exact (ite_both (P := fun r => Gave S b0 r out) hf.clearErr hf).clearErr
    · have hw := hf.trans (gave_writeBuf b.fill ws hf.inv)
      generalize b.fill.writeBuf ws = r at hw
      obtain ⟨b2, m, e, ws2, o⟩ := r
      exact ite_both hw (ih _ _ _ _ hw)

theorem gave_writeTo {S : Bytes} (b : Reader) (ws : WScript) (h : RInv S b) :
    Gave S b (b.writeTo ws).1 (b.writeTo ws).2.2.2 := by
  have hw := gave_writeBuf b ws h
  unfold Reader.writeTo
  generalize b.writeBuf ws = r at hw
  obtain ⟨b2, m, e, ws2, o⟩ := r
  exact ite_both (P := fun r : Reader × Nat × Nat × Bytes => Gave S b r.1 r.2.2.2) hw
    (gave_writeToLoop _ b b2 ws2 m o hw)

theorem inv_apply {S : Bytes} (b : Reader) (op : ROp) (h : RInv S b) : RInv S (b.apply op) := by
  cases op with
  | rd n => exact (gave_read b n h).inv
  | rb => exact (gave_readByte b h).inv
  | ub => exact inv_unreadByte h
  | pk n => exact (gave_peek b n h).1.inv
  | rs d => exact (slicePost_readSlice b d h).1.inv
  | rl => exact (linePost_readLine b h).1
  | wt ws => exact (gave_writeTo b ws h).inv
  | rbs d => exact (gave_readBytes b d h).inv
  | rr => obtain ⟨_, g, _⟩ := gave_readRune b h; exact g.inv
  | ur => exact inv_unreadRune b h

theorem inv_ops {S : Bytes} (b : Reader) (ops : List ROp) (h : RInv S b) : RInv S (ops.foldl Reader.apply b) :=
  List.foldlRecOn ops _ h fun b hb op _ => inv_apply b op hb

/-! Loop fuel is sufficient:
  `mu` bounds the number of further `fill()` calls that can make progress: every fill with room in the
  buffer and no pending error strictly decreases it. -/

def Reader.mu (b : Reader) : Nat := srcMeasure b.src + (if b.err = 0 then 1 else 0)

theorem mu_le_fuel (b : Reader) : b.mu + 1 ≤ b.fuel := by
  unfold Reader.mu Reader.fuel; split <;> omega

theorem srcRead_measure (src : Script) {room : Nat} (hr : 0 < room) :
    srcMeasure (srcRead src room).2.2 + (if (srcRead src room).2.1 = 0 then 1 else 0) ≤ srcMeasure src := by
  match src with
  | [] => exact Nat.le_refl 0
  | (d, e) :: rest =>
    by_cases hfit : d.length ≤ room
    · rw [show srcRead ((d, e) :: rest) room = (d, e, rest) from if_pos hfit]
      show srcMeasure rest + (if e = 0 then 1 else 0) ≤ d.length + 1 + srcMeasure rest
      split <;> omega
    · rw [show srcRead ((d, e) :: rest) room = (d.take room, 0, (d.drop room, e) :: rest) from if_neg hfit]
      show (d.drop room).length + 1 + srcMeasure rest + 1 ≤ d.length + 1 + srcMeasure rest
      rw [List.length_drop]; omega

theorem fill_err (b : Reader) (he : b.err = 0) : b.fill.err = (srcRead b.src (b.cap - b.cur.length)).2.1 := by
  show (if (srcRead b.src (b.cap - b.cur.length)).2.1 ≠ 0 then _ else b.err) = _
  rw [he]
  split
  · rfl
  · omega

theorem fill_mu (b : Reader) (he : b.err = 0) (hroom : b.cur.length < b.cap) : b.fill.mu < b.mu := by
  unfold Reader.mu
  rw [if_pos he, fill_err b he]
  exact Nat.lt_succ_of_le (srcRead_measure b.src (Nat.sub_pos_of_lt hroom))

theorem peekLoop_stable_exit (f : Nat) (b : Reader) (n : Nat) (hn : n ≤ b.cap) (hf : b.mu ≤ f) :
    Reader.peekLoop (f + 1) b n = Reader.peekLoop f b n ∧
      ¬ ((Reader.peekLoop f b n).cur.length < n ∧ (Reader.peekLoop f b n).err = 0) := by
  induction f generalizing b with
  | zero =>
    have hc : ¬ (b.cur.length < n ∧ b.err = 0) := fun hc => by
      unfold Reader.mu at hf; rw [if_pos hc.2] at hf; omega
    exact ⟨if_neg hc, hc⟩
  | succ f ih =>
    by_cases hc : b.cur.length < n ∧ b.err = 0
    · have step (g : Nat) : Reader.peekLoop (g + 1) b n = Reader.peekLoop g b.fill n := if_pos hc
      have := fill_mu b hc.2 (by omega)
      rw [step, step]
      exact ih b.fill hn (by omega)
    · have stop (g : Nat) : Reader.peekLoop (g + 1) b n = b := if_neg hc
      rw [stop, stop]
      exact ⟨rfl, hc⟩

theorem readByteLoop_stable (f : Nat) (b : Reader) (hcap : 0 < b.cap) (hf : b.mu + 1 ≤ f) :
    Reader.readByteLoop (f + 1) b = Reader.readByteLoop f b := by
  induction f generalizing b with
  | zero => omega
  | succ f ih =>
    rw [Reader.readByteLoop]
    conv => rhs; rw [Reader.readByteLoop]
    cases hcur : b.cur with
    | cons c t => rfl
    | nil =>
      refine ite_congr rfl (fun _ => rfl) fun he => ?_
      have := fill_mu b (Decidable.not_not.mp he) (by rw [hcur]; exact hcap)
      exact ih b.fill (by rw [fill_cap]; exact hcap) (by omega)

theorem readSliceLoop_stable (f : Nat) (b : Reader) (d : UInt8) (hf : b.mu + 1 ≤ f) :
    Reader.readSliceLoop (f + 1) b d = Reader.readSliceLoop f b d := by
  induction f generalizing b with
  | zero => omega
  | succ f ih =>
    rw [Reader.readSliceLoop]
    conv => rhs; rw [Reader.readSliceLoop]
    refine ite_congr rfl (fun _ => rfl) fun he => ?_
    dsimp only
    cases hi : indexOf d (List.drop b.cur.length b.fill.cur) with
    | some i => rfl
    | none =>
      refine ite_congr rfl (fun _ => rfl) fun hfull => ?_
      -- the buffer is not full after the fill, so it was not full before
      have hgrow : b.cur.length ≤ b.fill.cur.length := by unfold Reader.fill; simp
      have := fill_mu b (Decidable.not_not.mp he) (by rw [fill_cap] at hfull; omega)
      exact ih b.fill (by omega)

theorem stable_of_step {α : Type} (L : Nat → α) (f0 : Nat) (h : ∀ f, f0 ≤ f → L (f + 1) = L f) :
    ∀ f, f0 ≤ f → L f = L f0 := by
  intro f hf
  induction hf with
  | refl => rfl
  | step hm ih => exact (h _ hm).trans ih

/-! ### Writer -/

structure WInv (b : Writer) : Prop where
  stream : b.out ++ b.buf = b.accepted
  cnt : b.total = b.accepted.length

theorem winv_new (cap : Nat) (ws : WScript) : WInv (Writer.new cap ws) := ⟨rfl, rfl⟩

/-- a writing step that took `d`; nothing is counted yet: `Write` and `ReadFrom` count at the end -/
structure Took (b b' : Writer) (d : Bytes) : Prop where
  stream : b'.out ++ b'.buf = b'.accepted
  acc : b'.accepted = b.accepted ++ d
  total : b'.total = b.total

theorem Took.refl {b : Writer} (hs : b.out ++ b.buf = b.accepted) : Took b b [] :=
  ⟨hs, (List.append_nil _).symm, rfl⟩

theorem Took.trans {a b c : Writer} {d e : Bytes} (h₁ : Took a b d) (h₂ : Took b c e) : Took a c (d ++ e) :=
  ⟨h₂.stream, by rw [h₂.acc, h₁.acc, List.append_assoc], h₂.total.trans h₁.total⟩

theorem Took.push {b b1 : Writer} {d : Bytes} (t : Took b b1 d) (e : Bytes) :
    Took b { b1 with buf := b1.buf ++ e, accepted := b1.accepted ++ e } (d ++ e) :=
  ⟨by rw [← List.append_assoc, t.stream], by rw [t.acc, List.append_assoc], t.total⟩

theorem Took.winv {b b' : Writer} {d : Bytes} (h : WInv b) (t : Took b b' d) {tot : Nat}
    (ht : tot = b'.total + d.length) : WInv { b' with total := tot } :=
  ⟨t.stream, by rw [ht, t.total, h.cnt, t.acc, List.length_append]⟩

theorem took_flush {b : Writer} (hs : b.out ++ b.buf = b.accepted) :
    Took b b.flush.1 [] ∧ (b.flush.2 = 0 → b.flush.1.buf = []) := by
  let P (r : Writer × Nat) : Prop := Took b r.1 [] ∧ (r.2 = 0 → r.1.buf = [])
  unfold Writer.flush
  refine iteInduction (motive := P) (fun he => ⟨.refl hs, fun h0 => absurd h0 he⟩) fun _ => iteInduction
    (fun hb => ⟨.refl hs, fun _ => List.isEmpty_iff.mp hb⟩) fun _ => ?_
  generalize wsWrite b.ws b.buf = x
  obtain ⟨n, e, ws'⟩ := x
  dsimp only
  refine iteInduction (fun he => ⟨⟨?_, (List.append_nil _).symm, rfl⟩, fun h0 => absurd h0 he⟩)
    fun he => ⟨⟨?_, (List.append_nil _).symm, rfl⟩, fun _ => rfl⟩
  · show b.out ++ b.buf.take n ++ b.buf.drop n = b.accepted
    rw [List.append_assoc, List.take_append_drop, hs]
  · -- no error, so the write was not short
    have hn : ¬ n < b.buf.length := fun hlt => he (by
      by_cases h0 : e = 0
      · rw [if_pos ⟨hlt, h0⟩]; decide
      · rw [if_neg fun h => h0 h.2]; exact h0)
    show b.out ++ b.buf.take n ++ [] = b.accepted
    rw [List.append_nil, List.take_of_length_le (Nat.le_of_not_lt hn), hs]

theorem Took.flush {b b1 : Writer} {d : Bytes} (t : Took b b1 d) : Took b b1.flush.1 d := by
  have := t.trans (took_flush t.stream).1
  rwa [List.append_nil] at this

/-- the optional flush in front of `WriteByte` and of each `ReadFrom` round -/
theorem Took.flushIf {b b1 : Writer} {d : Bytes} (t : Took b b1 d) (c : Prop) [Decidable c] :
    Took b (if c then b1.flush else (b1, 0)).1 d :=
  ite_both (P := fun r : Writer × Nat => Took b r.1 d) t.flush t

theorem winv_flush (b : Writer) (h : WInv b) : WInv b.flush.1 :=
  (took_flush h.stream).1.winv h (Nat.add_zero _).symm

theorem writeLoop_spec (direct : Bool) (f : Nat) (b : Writer) (p : Bytes) (nn : Nat)
    (hs : b.out ++ b.buf = b.accepted) :
    ∃ d, Took b (Writer.writeLoop direct f b p nn).1 d ∧ d ++ (Writer.writeLoop direct f b p nn).2.2 = p ∧
      (Writer.writeLoop direct f b p nn).2.1 = nn + d.length := by
  induction f generalizing b p nn with
  | zero => exact ⟨[], .refl hs, rfl, rfl⟩
  | succ f ih =>
    let P (r : Writer × Nat × Bytes) : Prop := ∃ d, Took b r.1 d ∧ d ++ r.2.2 = p ∧ r.2.1 = nn + d.length
    have round {k : Nat} (hk : k ≤ p.length) {b1 : Writer} (t : Took b b1 (p.take k)) :
        P (Writer.writeLoop direct f b1 (p.drop k) (nn + k)) := by
      obtain ⟨d, t', hd, hn⟩ := ih b1 (p.drop k) (nn + k) t.stream
      refine ⟨p.take k ++ d, t.trans t', by rw [List.append_assoc, hd, List.take_append_drop], ?_⟩
      rw [hn, List.length_append, List.length_take, Nat.min_eq_left hk, Nat.add_assoc]
    unfold Writer.writeLoop
    refine ite_both (P := P) (iteInduction (fun hd => ?_) fun _ => ?_) ⟨[], .refl hs, rfl, rfl⟩
    · -- large write into an empty buffer: straight to the sink
      have hbe : b.buf = [] := List.isEmpty_iff.mp hd.2
      rw [hbe, List.append_nil] at hs
      refine round (wsWrite_le b.ws p) ⟨?_, rfl, rfl⟩
      show b.out ++ p.take _ ++ b.buf = b.accepted ++ p.take _
      rw [hbe, List.append_nil, hs]
    · exact round (Nat.min_le_left _ _) ((Took.refl hs).push _).flush

theorem winv_write (direct : Bool) (b : Writer) (p : Bytes) (h : WInv b) :
    WInv (Writer.write direct b p).1 ∧
      (Writer.write direct b p).1.accepted = b.accepted ++ p.take (Writer.write direct b p).2.1 := by
  obtain ⟨d, t, hd, hn⟩ := writeLoop_spec direct (b.ws.length + p.length + 3) b p 0 h.stream
  unfold Writer.write
  generalize Writer.writeLoop direct (b.ws.length + p.length + 3) b p 0 = r at t hd hn
  obtain ⟨b1, nn, p1⟩ := r
  dsimp only at t hd hn ⊢
  rw [Nat.zero_add] at hn
  subst hn hd
  refine iteInduction (motive := fun r : Writer × Nat × Nat => WInv r.1 ∧ r.1.accepted = b.accepted ++ (d ++ p1).take r.2.1)
    (fun _ => ⟨t.winv h rfl, by rw [List.take_left' rfl]; exact t.acc⟩) fun _ => ?_
  have t' := t.push p1
  exact ⟨t'.winv h (by rw [List.length_append, Nat.add_assoc]), by
    rw [← List.length_append, List.take_length]; exact t'.acc⟩

theorem winv_writeByte (b : Writer) (c : UInt8) (h : WInv b) : WInv (b.writeByte c).1 := by
  let P (r : Writer × Nat) : Prop := WInv r.1
  unfold Writer.writeByte
  refine ite_both (P := P) h ?_
  have t := (Took.refl h.stream).flushIf (b.available = 0)
  generalize (if b.available = 0 then b.flush else (b, 0)) = r at t
  obtain ⟨b1, fe⟩ := r
  exact ite_both (t.winv h rfl) ((t.push [c]).winv h rfl)

theorem readFromLoop_spec (f : Nat) (b : Writer) (src : Script) (n : Nat)
    (hs : b.out ++ b.buf = b.accepted) :
    ∃ d, Took b (Writer.readFromLoop f b src n).1 d ∧ (Writer.readFromLoop f b src n).2.1 = n + d.length := by
  induction f generalizing b src n with
  | zero => exact ⟨[], .refl hs, rfl⟩
  | succ f ih =>
    let P (r : Writer × Nat × Nat × Script × Bool) : Prop := ∃ d, Took b r.1 d ∧ r.2.1 = n + d.length
    have t := (Took.refl hs).flushIf (b.available = 0)
    unfold Writer.readFromLoop
    generalize (if b.available = 0 then b.flush else (b, 0)) = r at t
    obtain ⟨b1, fe⟩ := r
    dsimp only at t ⊢
    refine ite_both (P := P) ⟨[], t, rfl⟩ ?_
    generalize srcRead src b1.available = x
    obtain ⟨d, e, src'⟩ := x
    have t1 := t.push d
    refine ite_both ⟨[], t, rfl⟩ (ite_both ⟨_, t1, rfl⟩ ?_)
    obtain ⟨d', t', hn⟩ := ih _ src' (n + d.length) t1.stream
    exact ⟨_, t1.trans t', by rw [hn]; simp only [List.length_append, List.nil_append, Nat.add_assoc]⟩

theorem winv_readFrom (b : Writer) (src : Script) (h : WInv b) : WInv (b.readFrom src).1 := by
  obtain ⟨d, t, hn⟩ := readFromLoop_spec (srcMeasure src + 2) b src 0 h.stream
  unfold Writer.readFrom
  generalize Writer.readFromLoop (srcMeasure src + 2) b src 0 = r at t hn
  obtain ⟨b1, n, e, src1, early⟩ := r
  dsimp only at t hn ⊢
  rw [Nat.zero_add] at hn
  subst hn
  refine ite_both (P := fun r : Writer × Nat × Nat => WInv r.1) (t.winv h rfl) ?_
  -- at EOF a full buffer is flushed once more
  have t2 : Took b (if e = 1 then (if b1.available = 0 then b1.flush else (b1, 0)) else (b1, e)).1 d :=
    ite_both (P := fun r : Writer × Nat => Took b r.1 d) (t.flushIf _) t
  generalize (if e = 1 then (if b1.available = 0 then b1.flush else (b1, 0)) else (b1, e)) = r at t2
  obtain ⟨b2, e2⟩ := r
  exact t2.winv h rfl

theorem winv_appendRune (b : Writer) (enc : Bytes) (h : WInv b) : WInv (b.appendRune enc).1 :=
  ((Took.refl h.stream).push enc).winv h rfl

theorem winv_writeRune (b : Writer) (r : Nat) (h : WInv b) : WInv (b.writeRune r).1 := by
  let P (x : Writer × Nat × Nat) : Prop := WInv x.1
  have hf := winv_flush b h
  unfold Writer.writeRune
  refine ite_both (P := P) ?_ (ite_both h (ite_both
    (ite_both hf (ite_both (winv_write false _ _ hf).1 (winv_appendRune _ _ hf)))
    (winv_appendRune _ _ h)))
  have := winv_writeByte b (UInt8.ofNat r) h
  generalize b.writeByte (UInt8.ofNat r) = x at this
  obtain ⟨b', e⟩ := x
  exact ite_both this this

theorem winv_apply (b : Writer) (op : WOp) (h : WInv b) : WInv (b.apply op) := by
  cases op with
  | w p => exact (winv_write true b p h).1
  | s p => exact (winv_write false b p h).1
  | wb c => exact winv_writeByte b c h
  | fl => exact winv_flush b h
  | rf src => exact winv_readFrom b src h
  | wr r => exact winv_writeRune b r h

theorem winv_ops (b : Writer) (ops : List WOp) (h : WInv b) : WInv (ops.foldl Writer.apply b) :=
  List.foldlRecOn ops _ h fun b hb op _ => winv_apply b op hb

/-! ### the delegation branches (`Reader.writeToWT`, `Writer.readFromRF`) -/

theorem srcWriteTo_spec (src : Script) (ws : WScript) :
    (srcWriteTo src ws).2.2.2.2 ++ srcBytes (srcWriteTo src ws).2.2.1 = srcBytes src ∧
      (srcWriteTo src ws).2.2.2.2.length = (srcWriteTo src ws).1 := by
  induction src generalizing ws with
  | nil => exact ⟨rfl, rfl⟩
  | cons hd rest ih =>
    obtain ⟨d, e⟩ := hd
    let P (r : Nat × Nat × Script × WScript × Bytes) : Prop :=
      r.2.2.2.2 ++ srcBytes r.2.2.1 = d ++ srcBytes rest ∧ r.2.2.2.2.length = r.1
    have hk := wsWrite_le ws d
    unfold srcWriteTo
    generalize wsWrite ws d = x at hk
    obtain ⟨k, we, ws'⟩ := x
    -- the sink took `k` bytes of the chunk and the source keeps the rest, or it took all of it
    have part (err : Nat) : P (k, err, (d.drop k, e) :: rest, ws', d.take k) :=
      ⟨(List.append_assoc _ _ _).symm.trans (by rw [List.take_append_drop]), (List.length_take ..).trans (Nat.min_eq_left hk)⟩
    refine ite_both (P := P) (part _) (iteInduction (fun _ => part _) fun hlt => ?_)
    have hkd : k = d.length := Nat.le_antisymm hk (Nat.le_of_not_lt hlt)
    have all (err : Nat) : P (k, err, rest, ws', d) := ⟨rfl, hkd.symm⟩
    refine ite_both (all _) (ite_both (all _) ?_)
    have := ih ws'
    generalize srcWriteTo rest ws' = y at this
    obtain ⟨m, err, s', w', o⟩ := y
    exact ⟨by rw [List.append_assoc, this.1], by rw [List.length_append, this.2, hkd]⟩

theorem sinkReadFromLoop_len (f : Nat) (src : Script) (n : Nat) (out : Bytes) :
    (sinkReadFromLoop f src n out).1 + out.length = n + (sinkReadFromLoop f src n out).2.2.length := by
  induction f generalizing src n out with
  | zero => rfl
  | succ f ih =>
    let P (r : Nat × Nat × Bytes) : Prop := r.1 + out.length = n + r.2.2.length
    unfold sinkReadFromLoop
    generalize srcRead src 8 = x
    obtain ⟨d, e, src'⟩ := x
    have stop (e' : Nat) : P (n + d.length, e', out ++ d) := by
      show n + d.length + out.length = n + (out ++ d).length
      rw [List.length_append]; omega
    refine ite_both (P := P) (stop _) (ite_both (stop _) ?_)
    have := ih src' (n + d.length) (out ++ d)
    rw [List.length_append] at this
    show _ + out.length = n + _
    omega

end BfeVerif.C22
