import BfeVerif.C22.Proofs
/-!
  C22 — buffered I/O preserves the byte stream and counts it exactly.

  Reader: `ops.foldl Reader.apply (Reader.new cap src)` is the state after an arbitrary sequence of
  Read / ReadByte / UnreadByte / ReadRune / UnreadRune / Peek / ReadSlice / ReadBytes / ReadLine / WriteTo calls over an arbitrary
  scripted underlying reader `src` (any chunking, errors anywhere, (0,nil) reads).  The ghost field
  `consumed` is the list of bytes handed out and not un-read.
  Writer: likewise for Write / WriteString / WriteByte / WriteRune / Flush / ReadFrom over an arbitrary scripted
  underlying writer (short writes, errors); ghost `accepted` = bytes the Writer reported as taken,
  `out` = bytes the underlying writer received.

  These are theorems about the model of the REPAIRED code (fixes/C22-bufio-counters.md); the inputs
  on which the unrepaired code broke them are the first four `example`s and corpus/C22/witness.ops.
-/
namespace BfeVerif.C22

theorem C22_reader_inv (cap : Nat) (src : Script) (ops : List ROp) :
    RInv (srcBytes src) (ops.foldl Reader.apply (Reader.new cap src)) :=
  inv_ops _ ops (inv_new cap src)

/-- **stream preservation**: after any operation sequence, what was handed out, followed by what is
    buffered, followed by what the underlying reader still holds, is the underlying stream —
    nothing lost, duplicated or reordered, whatever the chunking. -/
theorem C22_stream (cap : Nat) (src : Script) (ops : List ROp) :
    let b := ops.foldl Reader.apply (Reader.new cap src)
    b.consumed ++ b.cur ++ srcBytes b.src = srcBytes src :=
  (C22_reader_inv cap src ops).stream

/-- **counter exactness (read side)**: `TotalRead` is the number of bytes consumed so far. -/
theorem C22_count_read (cap : Nat) (src : Script) (ops : List ROp) :
    let b := ops.foldl Reader.apply (Reader.new cap src)
    b.total = b.consumed.length :=
  (C22_reader_inv cap src ops).cnt

/-- the buffer indices stay inside the buffer (`r ≤ w ≤ len(buf)`) -/
theorem C22_indices_in_range (cap : Nat) (src : Script) (ops : List ROp) :
    let b := ops.foldl Reader.apply (Reader.new cap src)
    b.pre.length + b.cur.length ≤ b.cap :=
  (C22_reader_inv cap src ops).capOk

/-! Each method hands out exactly the bytes by which `consumed` grows, i.e. (with `C22_stream`) the
    next bytes of the underlying stream.  `h : RInv S b` holds for every reachable `b`. -/

theorem C22_read_out {S : Bytes} (b : Reader) (n : Nat) (h : RInv S b) :
    (b.read n).1.consumed = b.consumed ++ (b.read n).2.1 := (gave_read b n h).consumed_eq

theorem C22_readByte_out {S : Bytes} (b : Reader) (h : RInv S b) :
    b.readByte.1.consumed = b.consumed ++ b.readByte.2.1.toList := (gave_readByte b h).consumed_eq

theorem C22_readSlice_out {S : Bytes} (b : Reader) (d : UInt8) (h : RInv S b) :
    (b.readSlice d).1.consumed = b.consumed ++ (b.readSlice d).2.1 := (slicePost_readSlice b d h).1.consumed_eq

theorem C22_readBytes_out {S : Bytes} (b : Reader) (d : UInt8) (h : RInv S b) :
    (b.readBytes d).1.consumed = b.consumed ++ (b.readBytes d).2.1 := (gave_readBytes b d h).consumed_eq

theorem C22_readRune_out {S : Bytes} (b : Reader) (h : RInv S b) :
    b.readRune.1.consumed.length = b.consumed.length + b.readRune.2.2.1 ∧
      b.consumed <+: b.readRune.1.consumed := by
  obtain ⟨out, g, hlen⟩ := gave_readRune b h
  exact ⟨by rw [g.consumed_eq, List.length_append, hlen], out, g.consumed_eq.symm⟩

/-- UnreadRune fails with ErrInvalidUnreadRune and changes nothing, or moves the `lastRuneSize` last consumed bytes
    back and takes that many off TotalRead -/
theorem C22_unreadRune_out {S : Bytes} (b : Reader) (h : RInv S b) :
    (b.unreadRune.2 ≠ 0 → b.unreadRune.1 = b ∧ b.unreadRune.2 = 8) ∧
    (b.unreadRune.2 = 0 → ∃ k, b.lastRune = some k ∧ 1 ≤ k ∧ k ≤ b.consumed.length ∧
        b.unreadRune.1.consumed = b.consumed.take (b.consumed.length - k) ∧
        b.unreadRune.1.total + k = b.total ∧ b.unreadRune.1.cur.length = b.cur.length + k) := by
  rcases unreadRune_cases b with he | ⟨k, hk, hp, he⟩ <;> rw [he]
  · exact ⟨fun _ => ⟨rfl, rfl⟩, fun h0 => absurd h0 (Nat.succ_ne_zero 7)⟩
  · refine ⟨fun h0 => absurd rfl h0, fun _ => ?_⟩
    obtain ⟨hk1, hk2, hs⟩ := (h.rune k hk).resolve_left hp
    have hge : b.total ≥ k := h.cnt ▸ Nat.le_trans hk2 hs.length_le
    refine ⟨k, hk, hk1, h.cnt ▸ hge, rfl, ?_, ?_⟩
    · show (if b.total ≥ k then b.total - k else b.total) + k = b.total
      rw [if_pos hge, Nat.sub_add_cancel hge]
    · show (b.pre.drop (b.pre.length - k) ++ b.cur).length = b.cur.length + k
      rw [List.length_append, List.length_drop, Nat.sub_sub_self hk2, Nat.add_comm]

theorem C22_peek_out {S : Bytes} (b : Reader) (n : Nat) (h : RInv S b) :
    (b.peek n).1.consumed = b.consumed ∧ (b.peek n).2.1 <+: (b.peek n).1.cur :=
  have g := gave_peek b n h
  ⟨g.1.same, g.2⟩

theorem C22_writeTo_out {S : Bytes} (b : Reader) (ws : WScript) (h : RInv S b) :
    (b.writeTo ws).1.consumed = b.consumed ++ (b.writeTo ws).2.2.2 := (gave_writeTo b ws h).consumed_eq

/-- a successful UnreadByte moves exactly the last consumed byte back; a failing one only resets `lastRuneSize` -/
theorem C22_unreadByte_out (b : Reader) :
    (b.unreadByte.2 = 0 → b.unreadByte.1.consumed = b.consumed.dropLast ∧
        b.unreadByte.1.cur.length = b.cur.length + 1) ∧
    (b.unreadByte.2 ≠ 0 → b.unreadByte.1 = { b with lastRune := none }) := by
  unfold Reader.unreadByte
  split
  · rename_i hc _; simp [hc]
  · cases hy : b.pre.getLast? <;> simp

/-- ReadLine consumes the returned line plus the end-of-line bytes it dropped (nothing, "\n" or "\r\n");
    with `isPrefix` nothing is dropped (a trailing '\r' is put back, and un-counted) -/
theorem C22_readLine_out {S : Bytes} (b : Reader) (h : RInv S b) (hnp : b.readLine.2.2.2 ≠ 98) :
    ∃ eol, (eol = [] ∨ eol = [10] ∨ eol = [13, 10]) ∧ (b.readLine.2.2.1 = true → eol = []) ∧
      b.readLine.1.consumed = b.consumed ++ b.readLine.2.1 ++ eol :=
  (linePost_readLine b h).2 hnp

/-! ### the delegation branch of WriteTo (underlying reader is an io.WriterTo)

  Full statement (what C22 demands): the Reader invariant `RInv` is preserved, as for every other method.
  The code as it is does NOT satisfy it: it adds the delegated byte count to TotalRead but leaves
  `lastByte`, `lastRuneSize`, `r`, `w` untouched, so a following UnreadByte / UnreadRune gives back bytes that
  are not the last ones consumed (finding `deleg-stale-unread`, witness below).  What does hold: -/

/-- stream preservation and counter exactness survive the delegated WriteTo (for sinks that honour the
    io.Writer contract "short write ⇒ error", on which this branch relies in the standard library too) -/
theorem C22_writeTo_delegated_partial {S : Bytes} (b : Reader) (ws : WScript) (h : RInv S b)
    (hc : (wsWrite ws b.cur).2.1 = 0 → b.cur.length ≤ (wsWrite ws b.cur).1) :
    (b.writeToWT ws).1.consumed ++ (b.writeToWT ws).1.cur ++ srcBytes (b.writeToWT ws).1.src = S ∧
      (b.writeToWT ws).1.total = (b.writeToWT ws).1.consumed.length ∧
      (b.writeToWT ws).1.consumed = b.consumed ++ (b.writeToWT ws).2.2.2 := by
  have hw := gave_writeBuf b ws h
  have hcur : (b.writeBuf ws).2.2.1 = 0 → (b.writeBuf ws).1.cur = [] := fun he =>
    List.drop_eq_nil_of_le (hc he)
  let P (r : Reader × Nat × Nat × Bytes) : Prop :=
    r.1.consumed ++ r.1.cur ++ srcBytes r.1.src = S ∧ r.1.total = r.1.consumed.length ∧
      r.1.consumed = b.consumed ++ r.2.2.2
  unfold Reader.writeToWT
  generalize b.writeBuf ws = x at hw hcur
  obtain ⟨b1, n, e, ws1, o⟩ := x
  refine iteInduction (motive := P) (fun _ => ⟨hw.inv.stream, hw.inv.cnt, hw.consumed_eq⟩) fun he => ?_
  have hc1 : b1.cur = [] := hcur (Decidable.not_not.mp he)
  have hs := srcWriteTo_spec b1.src ws1
  generalize srcWriteTo b1.src ws1 = y at hs
  obtain ⟨m, err, s', w', o2⟩ := y
  refine ⟨?_, ?_, ?_⟩
  · have := hw.inv.stream
    rw [hc1] at this ⊢
    rw [← this, ← hs.1]; simp only [List.append_assoc, List.append_nil]
  · show b1.total + m = (b1.consumed ++ o2).length
    rw [List.length_append, hs.2, hw.inv.cnt]
  · show b1.consumed ++ o2 = b.consumed ++ (o ++ o2)
    rw [hw.consumed_eq, List.append_assoc]

/-- witness: "ab" then "c"; ReadByte a, delegated WriteTo hands b and c to the sink, UnreadByte succeeds
    and the next ReadByte returns 'b' although the last byte consumed was 'c': the invariant clause that
    ties `lastByte` to the consumed stream is broken by the delegation branch -/
theorem C22_witness_delegated_unread :
    let b0 := Reader.new 16 [([0x61, 0x62], 0), ([0x63], 0)]
    let b1 := (b0.readByte.1.writeToWT []).1
    b1.consumed = [0x61, 0x62, 0x63] ∧ b1.unreadByte.2 = 0 ∧ b1.unreadByte.1.readByte.2.1 = some 0x62 ∧
      ¬ RInv [0x61, 0x62, 0x63] b1 := by
  refine ⟨by decide, by decide, by decide, ?_⟩
  intro h
  have := h.last (by decide) 0x62 (by decide)
  revert this; decide

/-- **Reset**: the theorems above apply afresh to the new source, with an empty history and `TotalRead = 0` -/
theorem C22_reader_reset {S : Bytes} (b : Reader) (src : Script) (h : RInv S b) :
    RInv (srcBytes src) (b.reset src) ∧ (b.reset src).total = 0 ∧ (b.reset src).consumed = [] :=
  ⟨inv_empty h.capPos src, rfl, rfl⟩

/-! ### loop fuel of the Peek, ReadByte and ReadSlice loops

  For every fuel at least as large as the one the model supplies the loop result is the same, and the
  Peek loop ends in a state satisfying its own exit condition, i.e. not because the fuel ran out.  For ReadByte and
  ReadSlice the latter (their `99`/truncation branch is never what the method returns) is not stated.
  (The other fuel-indexed loops have no such theorem.) -/

theorem C22_fuel_peek (b : Reader) (n : Nat) (hn : n ≤ b.cap) :
    (∀ f, b.fuel ≤ f → Reader.peekLoop f b n = Reader.peekLoop b.fuel b n) ∧
    ¬ ((Reader.peekLoop b.fuel b n).cur.length < n ∧ (Reader.peekLoop b.fuel b n).err = 0) :=
  have hm := Nat.le_of_succ_le (mu_le_fuel b)
  ⟨stable_of_step _ b.fuel fun f hf => (peekLoop_stable_exit f b n hn (Nat.le_trans hm hf)).1, (peekLoop_stable_exit _ b n hn hm).2⟩

theorem C22_fuel_readByte (b : Reader) (hcap : 0 < b.cap) :
    ∀ f, b.fuel ≤ f → Reader.readByteLoop f { b with lastRune := none } = b.readByte :=
  stable_of_step _ b.fuel fun f hf =>
    readByteLoop_stable f _ hcap (Nat.le_trans (mu_le_fuel { b with lastRune := none }) hf)

theorem C22_fuel_readSlice (b : Reader) (d : UInt8) :
    ∀ f, b.fuel ≤ f → Reader.readSliceLoop f b d = Reader.readSliceLoop b.fuel b d :=
  stable_of_step _ b.fuel fun f hf => readSliceLoop_stable f b d (Nat.le_trans (mu_le_fuel b) hf)

theorem C22_writer_inv (cap : Nat) (ws : WScript) (ops : List WOp) :
    WInv (ops.foldl Writer.apply (Writer.new cap ws)) :=
  winv_ops _ ops (winv_new cap ws)

/-- **stream preservation (write side)**: what the underlying writer received followed by what is still buffered
    is what the Writer reported as taken — through short writes, errors and partial flushes. -/
theorem C22_writer_stream (cap : Nat) (ws : WScript) (ops : List WOp) :
    let b := ops.foldl Writer.apply (Writer.new cap ws)
    b.out ++ b.buf = b.accepted :=
  (C22_writer_inv cap ws ops).stream

/-- **counter exactness (write side)**: `TotalWrite` is the number of bytes taken so far. -/
theorem C22_count_write (cap : Nat) (ws : WScript) (ops : List WOp) :
    let b := ops.foldl Writer.apply (Writer.new cap ws)
    b.total = b.accepted.length :=
  (C22_writer_inv cap ws ops).cnt

/-- **Reset** (write side): unflushed data is dropped by design; history and counter restart at zero -/
theorem C22_writer_reset (b : Writer) (ws : WScript) :
    WInv (b.reset ws) ∧ (b.reset ws).total = 0 ∧ (b.reset ws).buf = [] := ⟨⟨rfl, rfl⟩, rfl, rfl⟩

/-- WriteRune keeps both Writer invariants (it is WriteByte, or an append of the UTF-8 encoding after an
    optional flush, or WriteString of the encoding for a tiny buffer) -/
theorem C22_writeRune_inv (b : Writer) (r : Nat) (h : WInv b) : WInv (b.writeRune r).1 :=
  winv_writeRune b r h

/-- the delegation branch of `Writer.ReadFrom` (underlying writer is an io.ReaderFrom, nothing buffered)
    keeps both Writer invariants -/
theorem C22_readFrom_delegated (b : Writer) (src : Script) (h : WInv b) : WInv (b.readFromRF src).1 := by
  unfold Writer.readFromRF
  refine iteInduction (motive := fun r : Writer × Nat × Nat => WInv r.1) (fun hb => ?_) fun _ => winv_readFrom b src h
  have hbe : b.buf = [] := List.isEmpty_iff.mp hb
  have hl := sinkReadFromLoop_len (srcMeasure src + 2) src 0 []
  generalize sinkReadFromLoop (srcMeasure src + 2) src 0 [] = x at hl
  obtain ⟨n, e, o⟩ := x
  have hs := h.stream
  rw [hbe, List.append_nil] at hs
  refine ⟨?_, ?_⟩
  · show b.out ++ o ++ b.buf = b.accepted ++ o
    rw [hbe, List.append_nil, hs]
  · show b.total + n = (b.accepted ++ o).length
    rw [List.length_append, h.cnt]
    dsimp only [List.length_nil] at hl
    omega

theorem C22_write_takes_prefix (direct : Bool) (b : Writer) (p : Bytes) (h : WInv b) :
    (Writer.write direct b p).1.accepted = b.accepted ++ p.take (Writer.write direct b p).2.1 :=
  (winv_write direct b p h).2

theorem C22_flush_complete (b : Writer) (h : WInv b) (hok : b.flush.2 = 0) :
    b.flush.1.out = b.flush.1.accepted := by
  obtain ⟨t, hb⟩ := took_flush h.stream
  have hs := t.stream
  rwa [hb hok, List.append_nil] at hs

/-! ### non-vacuity, and the inputs on which the unrepaired code failed -/

/-- an 11-byte line delivered byte by byte: TotalRead is 11 (the unrepaired ReadSlice left it at 1) -/
example :
    ((Reader.new 16 [([104], 0), ([101], 0), ([108], 0), ([108], 0), ([111], 0), ([32], 0), ([119], 0),
        ([111], 0), ([114], 0), ([108], 0), ([10], 0)]).readSlice 10).1.total = 11 := by decide +kernel

/-- "\r\n" straddling a full 16-byte buffer: 15 bytes consumed, TotalRead 15 (was 16), '\r' buffered -/
example :
    let r := (Reader.new 16 [([97, 97, 97, 97, 97, 97, 97, 97, 97, 97, 97, 97, 97, 97, 97, 13, 10, 98], 1)]).readLine
    r.1.total = 15 ∧ r.2.2.1 = true ∧ r.1.cur = [13] ∧ r.2.1.length = 15 := by decide +kernel

/-- UnreadByte after ReadSlice gives back the '\n' (the unrepaired code resurrected the 'a') -/
example :
    ([ROp.rb, .rs 10, .ub].foldl Reader.apply (Reader.new 16 [([97, 98, 10], 0)])).cur = [10] := by decide +kernel

/-- Writer.ReadFrom that stops on a flush error still counts the 2 bytes it took (was 0) -/
example : ((Writer.new 2 [(1, 7)]).readFrom [([1, 2], 0), ([3], 0)]).1.total = 2 := by decide +kernel

/-- a mixed sequence reaching refill, direct read, unread and peek -/
example :
    let b := [ROp.rb, .pk 16, .rd 20, .ub, .rl, .rd 16].foldl Reader.apply
      (Reader.new 16 [([1, 2, 3], 0), ([4, 5, 6, 7, 8, 9, 10, 11, 12, 13, 14, 15, 16, 17, 18, 19, 20], 0), ([21], 1)])
    b.total = b.consumed.length ∧ b.consumed ≠ [] := by decide +kernel

/-- "é" (c3 a9) split over two underlying reads: ReadRune gives U+00E9 size 2, TotalRead 2; UnreadRune takes
    both bytes back (TotalRead 0); a second UnreadRune is refused -/
example :
    let b0 := Reader.new 16 [([0xc3], 0), ([0xa9, 0x41], 0)]
    let r1 := b0.readRune
    let r2 := r1.1.unreadRune
    (r1.2.1, r1.2.2.1, r1.1.total) = (0xE9, 2, 2) ∧ (r2.2, r2.1.total, r2.1.cur) = (0, 0, [0xc3, 0xa9, 0x41]) ∧
      r2.1.unreadRune.2 = 8 := by decide +kernel

/-- an invalid lead byte is consumed alone as U+FFFD; UnreadRune after a ReadByte is refused -/
example :
    let b0 := Reader.new 16 [([0xff, 0x41], 1)]
    (b0.readRune.2.1, b0.readRune.2.2.1) = (0xFFFD, 1) ∧ b0.readRune.1.readByte.1.unreadRune.2 = 8 := by decide +kernel

end BfeVerif.C22
