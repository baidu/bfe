import BfeVerif.C07.Balance
import BfeVerif.C07.Proxy
/-! The frame `decTb conn tb` is carried through one clusterInvoke / dial loop by `loop_run` / `find_frame`;
    `Counted.set` joins it to the invariant. -/
namespace BfeVerif.C07

/-- contribution of a request whose Trans.Backend is `tb` to the count of backend `b` -/
def ind (tb : Option Nat) (b : Nat) : Int := if tb = some b then 1 else 0

theorem inflight_eq (rqs : List RqSt) (b : Nat) :
    inflight rqs b = match rqs with | [] => 0 | r :: rs => ind r.tb b + inflight rs b := by
  cases rqs <;> simp [inflight, ind]

theorem inflight_nonneg (rqs : List RqSt) (b : Nat) : 0 ≤ inflight rqs b := by
  induction rqs with
  | nil => simp [inflight]
  | cons r rs ih => simp only [inflight]; split <;> omega

theorem inflight_zero (rqs : List RqSt) (h : ∀ r ∈ rqs, r.tb = none) (b : Nat) : inflight rqs b = 0 := by
  induction rqs with
  | nil => rfl
  | cons r rs ih =>
    simp [inflight, h r List.mem_cons_self, ih fun r' hr' => h r' (List.mem_cons_of_mem _ hr')]

theorem inflight_setRq (rqs : List RqSt) (k : Nat) (old v : RqSt) (h : rqs[k]? = some old) (b : Nat) :
    inflight (setRq rqs k v) b = inflight rqs b - ind old.tb b + ind v.tb b := by
  induction rqs generalizing k with
  | nil => simp at h
  | cons r rs ih =>
    cases k with
    | zero =>
      obtain rfl : r = old := by simpa using h
      simp only [setRq, inflight, ind]; omega
    | succ k =>
      simp only [setRq, inflight]
      rw [ih k (by simpa using h)]; omega

theorem decTb_apply (conn : Nat → Int) (tb : Option Nat) (b : Nat) : decTb conn tb b = conn b - ind tb b := by
  cases tb with
  | none => exact (Int.sub_zero _).symm
  | some o =>
    simp only [decTb, upd, ind, Option.some.injEq]
    by_cases hb : b = o
    · rw [if_pos hb, if_pos hb.symm]; rfl
    · rw [if_neg hb, if_neg fun e => hb e.symm, Int.sub_zero]

theorem setRq_eq_set (rqs : List RqSt) (k : Nat) (v : RqSt) : setRq rqs k v = rqs.set k v := by
  induction rqs generalizing k with
  | nil => rfl
  | cons x xs ih => cases k <;> simp [setRq, ih]

/-- the invariant of both models (requests, proxied connections) -/
def Counted (conn : Nat → Int) (rqs : List RqSt) : Prop :=
  (∀ b, conn b = inflight rqs b) ∧
  (∀ r ∈ rqs, (r.invoked = false ∨ r.done = true) → r.tb = none)

theorem Counted.init (n : Nat) : Counted (fun _ => 0) (List.replicate n {}) := by
  have h : ∀ r ∈ List.replicate n ({} : RqSt), r.tb = none := fun r hr => (List.eq_of_mem_replicate hr) ▸ rfl
  exact ⟨fun b => (inflight_zero _ h b).symm, fun r hr _ => h r hr⟩

theorem Counted.set {conn conn' : Nat → Int} {rqs : List RqSt} {k : Nat} {old v : RqSt}
    (h : Counted conn rqs) (hk : rqs[k]? = some old) (hf : decTb conn' v.tb = decTb conn old.tb)
    (hv : (v.invoked = false ∨ v.done = true) → v.tb = none) : Counted conn' (setRq rqs k v) := by
  refine ⟨fun b => ?_, fun r hr hcond => ?_⟩
  · have := congrFun hf b
    rw [decTb_apply, decTb_apply] at this
    rw [inflight_setRq rqs k old v hk b, ← h.1 b]
    omega
  · rcases List.mem_or_eq_of_mem_set (setRq_eq_set rqs k v ▸ hr) with hr | rfl
    · exact h.2 r hr hcond
    · exact hv hcond

theorem Counted.balanced {conn : Nat → Int} {rqs : List RqSt} (h : Counted conn rqs) :
    (∀ b, conn b = inflight rqs b) ∧ (∀ b, 0 ≤ conn b) ∧
    ((∀ r ∈ rqs, r.invoked = true → r.done = true) → ∀ b, conn b = 0) := by
  refine ⟨h.1, fun b => h.1 b ▸ inflight_nonneg _ _, fun hall b => ?_⟩
  rw [h.1 b]
  refine inflight_zero _ (fun r hr => h.2 r hr ?_) b
  cases hi : r.invoked with
  | false => exact Or.inl rfl
  | true => exact Or.inr (hall r hr hi)

theorem step_counted (pol : Policy) (cfg : Cfg) (reqs : List ReqSpec) (g : G) (st : Step) (ch : List Nat)
    (h : Counted g.conn g.rqs) :
    Counted (step pol cfg reqs g st ch).conn (step pol cfg reqs g st ch).rqs := by
  -- the branches that change anything: 2 a request starts, 6 it ends
  fun_cases step pol cfg reqs g st ch with
  | case2 k rq r hr _ hinv lr =>
    refine h.set hr ?_ (by simp)
    -- `r` is not yet invoked, so `r.tb = none`; what is left is the frame of `invoke`
    rw [h.2 r (List.mem_of_getElem? hr) (Or.inl (by simpa using hinv))]
    unfold lr invoke
    cases rq.pre with
    | some act => rfl
    | none => exact (loop_run pol cfg rq 20 (entryLS g rq ch) .nil).2.1
  | case6 k r hr => exact h.set hr rfl fun _ => rfl
  | _ => exact h

theorem run_counted (pol : Policy) (cfg : Cfg) (reqs : List ReqSpec) (sched : List Step) (g : G)
    (chs : List (List Nat)) (h : Counted g.conn g.rqs) :
    Counted (runSched pol cfg reqs g sched chs).conn (runSched pol cfg reqs g sched chs).rqs := by
  induction sched generalizing g chs with
  | nil => exact h
  | cons st rest ih => exact ih _ _ (step_counted pol cfg reqs g st _ h)

open Px

theorem find_frame (dial : Nat → Bool) (n : Nat) (sc : List Pick) (conn : Nat → Int) :
    decTb (find dial n sc conn).2.1 (find dial n sc conn).1 = conn := by
  -- 1 out of iterations; 2 script empty, 3 scripted: balance error; 4 dial succeeds; 5 dial refused: +1 then -1 on `j`
  fun_induction find dial n sc conn with
  | case1 => rfl
  | case2 n conn r ih | case3 n ps conn r ih => exact ih
  | case4 n j ps conn c1 hd => exact decTb_inc conn j
  | case5 n j ps conn c1 hd r ih => exact ih.trans (decTb_inc conn j)

theorem pstep_counted (dial : Nat → Bool) (rm : Nat) (scripts : List (List Pick)) (g : PG) (st : Step)
    (h : Counted g.conn g.conns) :
    Counted (pstep dial rm scripts g st).conn (pstep dial rm scripts g st).conns := by
  -- 2 a connection starts, 5 it ends
  fun_cases pstep dial rm scripts g st with
  | case2 k sc r hr _ hinv =>
    refine h.set hr ?_ (by simp)
    rw [h.2 r (List.mem_of_getElem? hr) (Or.inl (by simpa using hinv))]
    exact find_frame dial (effRetry rm) sc g.conn
  | case5 k r hr => exact h.set hr rfl fun _ => rfl
  | _ => exact h

theorem prun_counted (dial : Nat → Bool) (rm : Nat) (scripts : List (List Pick)) (sched : List Step) (g : PG)
    (h : Counted g.conn g.conns) :
    Counted (prun dial rm scripts g sched).conn (prun dial rm scripts g sched).conns := by
  induction sched generalizing g with
  | nil => exact h
  | cons st rest ih => exact ih _ (pstep_counted dial rm scripts g st h)

end BfeVerif.C07
