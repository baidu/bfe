import BfeVerif.C07.Proofs
import BfeVerif.Generated.C07
/-!
  C07 — active-connection counts match in-flight requests.  The model is the repaired code
  (fix C07-forward-finish: a HandleForward Finish verdict clears Trans.Backend; before the fix the
  schedule `[inv 0, fin 0]` with script `[finish]` left the chosen backend at -1, see corpus/C07).

  `Trans.Backend` is set exactly when the request is sent to a backend (`C07_assigned_is_last_roundtrip`).
-/
namespace BfeVerif.C07

/-- **C07 (full strength)**: whatever the cluster configuration, the scripts (transport errors, retry
    decisions, HandleForward verdicts, panics), the schedule of clusterInvoke / FinishReq steps of several
    requests - with health-check events and reloads that remove a backend at arbitrary points in between -
    and the random cross-sub-cluster choices: after every schedule each backend's connNum
    equals the number of requests currently assigned to it, is never negative, and is zero once every
    invoked request has finished.  (A schedule is arbitrary, so this covers every prefix.) -/
theorem C07_balanced (pol : Policy) (cfg : Cfg) (reqs : List ReqSpec) (sched : List Step) (chs : List (List Nat)) :
    let g := runSched pol cfg reqs (G.init cfg reqs.length) sched chs
    (∀ b, g.conn b = inflight g.rqs b) ∧ (∀ b, 0 ≤ g.conn b) ∧
    ((∀ r ∈ g.rqs, r.invoked = true → r.done = true) → ∀ b, g.conn b = 0) := by
  exact (run_counted pol cfg reqs sched (G.init cfg _) chs (Counted.init _)).balanced

/-- The same inside a clusterInvoke: at the moment of every RoundTrip (to backend `b'`) of a request that
    starts from a consistent state, each backend's connNum is the number of OTHER requests assigned to it
    plus one for `b'` — also in the middle of a retry sequence that moves the request between backends. -/
theorem C07_roundtrip_snapshot (pol : Policy) (cfg : Cfg) (reqs : List ReqSpec) (sched : List Step) (chs : List (List Nat))
    (rq : ReqSpec) (ch : List Nat) (b' sub : Nat) (x : Bool) (snap : Nat → Int) (o : Rt) :
    let g := runSched pol cfg reqs (G.init cfg reqs.length) sched chs
    Ev.rt b' sub x snap o ∈ (loop pol cfg rq 20 (entryLS g rq ch) .nil).evs →
    ∀ b, snap b = inflight g.rqs b + (if b = b' then 1 else 0) := by
  intro g he b
  have h : Counted g.conn g.rqs := run_counted pol cfg reqs sched _ chs (Counted.init reqs.length)
  have := congrFun ((loop_run pol cfg rq 20 (entryLS g rq ch) .nil).1.mem_rt he).1 b
  -- `entryLS` starts with `tb = none`: the frame at entry is `g.conn` itself
  change (if b = b' then snap b + -1 else snap b) = g.conn b at this
  rw [← h.1 b, ← this]
  split <;> omega

/-- `Trans.Backend` after clusterInvoke is the backend of the last RoundTrip, and nothing if the last
    event was a HandleForward Finish verdict or no backend was ever selected. -/
theorem C07_assigned_is_last_roundtrip (pol : Policy) (cfg : Cfg) (rq : ReqSpec) (n : Nat) (s : LS) (last : Err) :
    (loop pol cfg rq n s last).st.tb =
      match (loop pol cfg rq n s last).evs.getLast? with
      | some (.rt b _ _ _ _) => some b
      | some (.fin _ _) => none
      | none => s.tb :=
  (loop_run pol cfg rq n s last).1.last

/-- **C07 for the websocket and TLS-stream proxies**: whatever the balance handler answers (errors, any
    backend), whichever dials succeed, and however the serve() calls of several client connections are
    started and ended: each backend's connNum equals the number of proxied connections currently holding
    it, is never negative, and is zero once every started serve() has returned. -/
theorem C07_proxy_balanced (dial : Nat → Bool) (rm : Nat) (scripts : List (List Px.Pick)) (sched : List Step) :
    let g := Px.prun dial rm scripts (Px.PG.init scripts.length) sched
    (∀ b, g.conn b = inflight g.conns b) ∧ (∀ b, 0 ≤ g.conn b) ∧
    ((∀ r ∈ g.conns, r.invoked = true → r.done = true) → ∀ b, g.conn b = 0) := by
  exact (prun_counted dial rm scripts sched (Px.PG.init _) (Counted.init _)).balanced

/-- **C07 (tie to the source, regenerated facts)**: in package bfe_server the connection counters and
    `request.Trans.Backend` are touched only where the model does it - in clusterInvoke (decrement / clear / SetRequestTransport / increment)
    and FinishReq (decrement), or in helpers that only these two (transitively) call (the extractor follows
    same-package helpers, methods and closures) -
    so the callback points consulted in ServeHTTP (HandleBeforeLocation, HandleFoundProduct, HandleAfterLocation,
    HandleReadResponse) cannot change a counter whatever they answer; and FinishReq's decrement is a `defer`
    registered before the HandleRequestFinish callback block, so it runs for every verdict (also the early
    return on Finish) and when a filter panics - which is how `step (.fin k)` models it. -/
theorem C07_sites_as_modelled :
    BfeVerif.Generated.C07.invokeKinds = ["clear", "dec", "inc", "set"] ∧
    BfeVerif.Generated.C07.finishKinds = ["dec"] ∧
    BfeVerif.Generated.C07.counterSitesConfined = true ∧
    BfeVerif.Generated.C07.finishReqDecDeferredFirst = true := by
  decide +kernel

/-- a refused dial gives the count back; an established connection holds exactly one -/
example : let g := Px.prun (fun j => j == 1) 0 [[.be 0, .err, .be 1]] (Px.PG.init 1) [.inv 0]
    g.conn 0 = 0 ∧ g.conn 1 = 1 := by decide +kernel
example : let g := Px.prun (fun j => j == 1) 0 [[.be 0, .err, .be 1]] (Px.PG.init 1) [.inv 0, .fin 0]
    g.conn 0 = 0 ∧ g.conn 1 = 0 := by decide +kernel

/-! Non-vacuity / regression examples with the policy of the code (`realPolicy`).
    `cfg1`: one sub-cluster `a` with two live backends (ids 0 and 1), WRR; `cfgLC`: the same with WLC. -/
def cfg1 : Cfg := ⟨2, 0, 0, 0, 0, 0, [⟨"a", 1, false, [⟨true, 1⟩, ⟨true, 1⟩]⟩], 0⟩
def cfgLC : Cfg := { cfg1 with mode := 1 }

/-- a Finish verdict on the first attempt: the counter stays 0 -/
example : let g := runSched realPolicy cfg1 [⟨true, true, [⟨.finish, .ok 200⟩], [], none⟩] (G.init cfg1 1) [.inv 0, .fin 0] []
    g.conn 0 = 0 ∧ g.conn 1 = 0 := by decide +kernel

/-- connect error on a0, retry goes to a1, Finish verdict there: both counters are 0 afterwards -/
example : let g := runSched realPolicy cfg1 [⟨true, true, [⟨.goon, .connect⟩, ⟨.finish, .ok 200⟩], [], none⟩] (G.init cfg1 1) [.inv 0] []
    g.conn 0 = 0 ∧ g.conn 1 = 0 ∧ (g.rqs.map (·.tb)) = [none] := by decide +kernel

/-- two requests in flight on different backends -/
example : let g := runSched realPolicy cfg1 [⟨true, true, [], [], none⟩, ⟨false, false, [⟨.goon, .write⟩], [], none⟩] (G.init cfg1 2) [.inv 0, .inv 1] []
    g.conn 0 = 1 ∧ g.conn 1 = 1 := by decide +kernel

/-- least-connection: with request 0 holding a0, request 1 goes to a1, and after it finished request 2 goes to
    a1 again (the counters feed the choice) -/
example : let g := runSched realPolicy cfgLC [⟨true, true, [], [], none⟩, ⟨true, true, [], [], none⟩, ⟨true, true, [], [], none⟩] (G.init cfgLC 3) [.inv 0, .inv 1, .fin 1, .inv 2] []
    g.conn 0 = 1 ∧ g.conn 1 = 1 ∧ (g.rqs.map (·.tb)) = [some 0, none, some 1] := by decide +kernel

/-- the callback replaces the backend chosen by Balance (a0) by a1: the request is counted on a1, the
    one it is sent to, and released from a1 by FinishReq -/
example : let g := runSched realPolicy cfg1 [⟨true, true, [⟨.replace 1, .ok 200⟩], [], none⟩] (G.init cfg1 1) [.inv 0] []
    g.conn 0 = 0 ∧ g.conn 1 = 1 := by decide +kernel
example : let g := runSched realPolicy cfg1 [⟨true, true, [⟨.replace 1, .ok 200⟩], [], none⟩] (G.init cfg1 1) [.inv 0, .fin 0] []
    g.conn 0 = 0 ∧ g.conn 1 = 0 := by decide +kernel

/-- HandleRequestFinish filters: whatever they answer (Finish, another verdict, a panic) the request's backend is
    released; a request that a HandleBeforeLocation filter ended never took a backend and releases nothing -/
example : let g := runSched realPolicy cfg1 [⟨true, true, [], [.goon, .finish], none⟩, ⟨true, true, [], [.panic], none⟩,
      ⟨true, true, [], [.other], none⟩] (G.init cfg1 3) [.inv 0, .inv 1, .inv 2, .fin 0, .fin 1, .fin 2] []
    g.conn 0 = 0 ∧ g.conn 1 = 0 := by decide +kernel
example : let g := runSched realPolicy cfg1 [⟨true, true, [], [.finish], some 1⟩] (G.init cfg1 1) [.inv 0, .fin 0] []
    g.conn 0 = 0 ∧ g.conn 1 = 0 := by decide +kernel
example : finChain [.goon, .finish, .panic] finFilters 0 = (1, 2, false) := by decide +kernel

/-- health-check events (a backend is taken out and comes back) while a request is in flight on it leave its
    count alone; the request still releases it afterwards -/
example : let g := runSched realPolicy cfg1 [⟨true, true, [], [], none⟩] (G.init cfg1 1) [.inv 0, .down 0, .up 0] []
    g.conn 0 = 1 ∧ g.conn 1 = 0 := by decide +kernel
example : let g := runSched realPolicy cfg1 [⟨true, true, [], [], none⟩] (G.init cfg1 1) [.inv 0, .down 0, .up 0, .fin 0] []
    g.conn 0 = 0 ∧ g.conn 1 = 0 := by decide +kernel

/-- a backend removed by a reload of the backend table while a request is in flight on it: the old object keeps
    the count until FinishReq, is never negative, and new requests go elsewhere -/
example : let g := runSched realPolicy cfg1 [⟨true, true, [], [], none⟩, ⟨true, true, [], [], none⟩] (G.init cfg1 2) [.inv 0, .remove 0, .inv 1] []
    g.conn 0 = 1 ∧ g.conn 1 = 1 := by decide +kernel
example : let g := runSched realPolicy cfg1 [⟨true, true, [], [], none⟩, ⟨true, true, [], [], none⟩] (G.init cfg1 2) [.inv 0, .remove 0, .inv 1, .fin 0, .fin 1] []
    g.conn 0 = 0 ∧ g.conn 1 = 0 := by decide +kernel

/-- a panicking HandleForward filter leaves nothing counted; a panic inside RoundTrip (after IncConnNum) leaves the
    request counted for ever because conn.serve's recover skips FinishReq - the model mirrors this (known finding
    `leak-after-panic`); `C07_balanced`'s equation still holds, its last clause does not apply (the request is
    never `done`) -/
example : let g := runSched realPolicy cfg1 [⟨true, true, [⟨.panic, .ok 200⟩], [], none⟩] (G.init cfg1 1) [.inv 0, .fin 0] []
    g.conn 0 = 0 ∧ g.conn 1 = 0 := by decide +kernel
example : let g := runSched realPolicy cfg1 [⟨true, true, [⟨.goon, .panic⟩], [], none⟩] (G.init cfg1 1) [.inv 0, .fin 0] []
    g.conn 0 = 1 ∧ (g.rqs.map (·.done)) = [false] := by decide +kernel

end BfeVerif.C07
