import BfeVerif.C07.Model
/-! What `BalanceGslb.Balance` guarantees to the retry loop, and what one clusterInvoke can then do (`Run`), whatever
    the policy.  `decTb conn tb`, the counters once the request has given its backend back, is what all OTHER
    requests hold: a frame that no action of the request itself changes. -/
namespace BfeVerif.C07

theorem decTb_inc (conn : Nat → Int) (j : Nat) : decTb (upd conn j 1) (some j) = conn := by
  funext b
  simp only [decTb, upd]
  split <;> omega

/-- what a successful `Balance` at RetryTime `r` promises about the sub-cluster it chose; the `Bool` is `viaCross` -/
inductive Picked (cfg : Cfg) (r : Nat) : Nat → Bool → Prop
  | own : (r : Int) ≤ cfg.rm + cfg.cr → (r : Int) ≤ cfg.rm → (cfg.subs.getD (primary cfg) default).black = false →
      Picked cfg r (primary cfg) false
  | cross {sub} : (r : Int) ≤ cfg.rm + cfg.cr → cfg.cr > 0 → sub ∈ crossCands cfg (primary cfg) → Picked cfg r sub true

theorem crossPhase_spec {pol : Policy} {cfg : Cfg} {s s1 : LS} {res : BalRes}
    (h : crossPhase pol cfg (primary cfg) s = (res, s1)) (hr : cfg.cr > 0 → (s.retry : Int) ≤ cfg.rm + cfg.cr) :
    s1.conn = s.conn ∧ s1.tb = s.tb ∧ s1.retry = s.retry ∧ ∀ b sub x, res = .ok b sub x → Picked cfg s1.retry sub x := by
  revert h
  fun_cases crossPhase pol cfg (primary cfg) s with
  | case3 hcr s2 cands hlen =>
    rintro ⟨⟩
    refine ⟨rfl, rfl, rfl, ?_⟩
    rintro _ _ _ ⟨⟩
    have hi : s.choices.headD 0 % cands.length < cands.length :=
      Nat.mod_lt _ (Nat.pos_of_ne_zero (by simpa using hlen))
    refine .cross (hr (by omega)) (by omega) ?_
    show cands.getD (s.choices.headD 0 % cands.length) 0 ∈ cands
    rw [List.getD_eq_getElem?_getD, List.getElem?_eq_getElem hi]
    exact List.getElem_mem hi
  | _ =>
    rintro ⟨⟩
    exact ⟨rfl, rfl, rfl, nofun⟩

/-- conjuncts 1-2: the frame of C07; 3 and the `.ok` part: retry budget, black hole and sub-cluster choice of C08 -/
theorem balance_spec {pol : Policy} {cfg : Cfg} {s s1 : LS} {res : BalRes}
    (h : balance pol cfg s = (res, s1)) :
    s1.conn = s.conn ∧ s1.tb = s.tb ∧ s.retry ≤ s1.retry ∧ ∀ b sub x, res = .ok b sub x → Picked cfg s1.retry sub x := by
  revert h
  fun_cases balance pol cfg s with
  | case1 | case2 =>
    rintro ⟨⟩
    exact ⟨rfl, rfl, Nat.le_refl _, nofun⟩
  | case3 h0 p hbl hin =>   -- a backend of the hashed sub-cluster
    rintro ⟨⟩
    refine ⟨rfl, rfl, Nat.le_refl _, ?_⟩
    rintro _ _ _ ⟨⟩
    exact .own (by dsimp only; omega) hin (by simpa using hbl)
  | case4 h0 p hbl hin =>   -- none there: the cross phase, with RetryTime raised to RetryMax
    intro h
    obtain ⟨hc, ht, hr, hok⟩ := crossPhase_spec h (by dsimp only; omega)
    exact ⟨hc, ht, by dsimp only at hr; omega, hok⟩
  | case5 h0 p hbl hin =>   -- past RetryMax: the cross phase
    intro h
    obtain ⟨hc, ht, hr, hok⟩ := crossPhase_spec h (fun _ => by omega)
    exact ⟨hc, ht, Nat.le_of_eq hr.symm, hok⟩

/-- the events of one clusterInvoke entered with `Trans.Backend = tb` at RetryTime `r`, and the `Trans.Backend` it
    leaves; `F` = what all other requests hold.  `rt`: Balance answered at RetryTime `r1`; the loop goes on at `r1 + 1`,
    and if anything follows, the failure was one that may be retried.  `F` and `snap` serve C07, `r` and `Picked` C08 -/
inductive Run (cfg : Cfg) (rq : ReqSpec) (F : Nat → Int) : Option Nat → Nat → List Ev → Option Nat → Prop
  | stop {tb r} : Run cfg rq F tb r [] tb
  | fin {tb r b sub} : Run cfg rq F tb r [.fin b sub] none
  | rt {tb r r1 b sub snap o tb'} (x : Bool) (evs : List Ev) : r ≤ r1 → Picked cfg r1 sub x → decTb snap (some b) = F →
      (evs ≠ [] → allowRetry cfg rq o = true) → Run cfg rq F (some b) (r1 + 1) evs tb' →
      Run cfg rq F tb r (.rt b sub x snap o :: evs) tb'

theorem Run.weaken {cfg rq F tb r r' evs tb'} (h : Run cfg rq F tb r' evs tb') (hr : r ≤ r') :
    Run cfg rq F tb r evs tb' := by
  cases h with
  | stop => exact .stop
  | fin => exact .fin
  | rt x evs h1 h2 h3 h4 h5 => exact .rt x evs (Nat.le_trans hr h1) h2 h3 h4 h5

/-- all that C07 and C08 use of `loop`: a `Run`, the frame kept (the step of C07's invariant), one event per
    iteration at most (the `≤ n` of `C08_bound`) -/
theorem loop_run (pol : Policy) (cfg : Cfg) (rq : ReqSpec) (n : Nat) (s : LS) (last : Err) :
    Run cfg rq (decTb s.conn s.tb) s.tb s.retry (loop pol cfg rq n s last).evs (loop pol cfg rq n s last).st.tb ∧
    decTb (loop pol cfg rq n s last).st.conn (loop pol cfg rq n s last).st.tb = decTb s.conn s.tb ∧
    (loop pol cfg rq n s last).evs.length ≤ n := by
  -- 1 no iteration left; 2 Balance asks for a cross retry (`continue`); 3 Balance fails; 4 HandleForward ends the
  -- request; 5 a response; 6 a failure that is retried (the recursive call); 7 a failure that is not
  fun_induction loop pol cfg rq n s last with
  | case1 => exact ⟨.stop, rfl, Nat.le_refl _⟩
  | case2 n s last s1 heq ih =>
    obtain ⟨hc, ht, hr, _⟩ := balance_spec heq
    rw [← hc, ← ht]
    exact ⟨ih.1.weaken (Nat.le_succ_of_le hr), ih.2.1, Nat.le_succ_of_le ih.2.2⟩
  | case3 n s last e s1 hne heq =>
    obtain ⟨hc, ht, _⟩ := balance_spec heq
    rw [← hc, ← ht]
    exact ⟨.stop, rfl, Nat.zero_le _⟩
  | case4 n s last b0 sub x s1 heq =>
    obtain ⟨hc, ht, _⟩ := balance_spec heq
    rw [← hc, ← ht]
    exact ⟨.fin, rfl, Nat.succ_le_succ (Nat.zero_le _)⟩
  | case5 n s last b0 sub x s1 heq | case7 n s last b0 sub x s1 heq =>
    obtain ⟨hc, ht, hr, hp⟩ := balance_spec heq
    rw [← hc, ← ht]
    exact ⟨.rt _ _ hr (hp _ _ _ rfl) (decTb_inc _ _) (fun h => absurd rfl h) .stop, decTb_inc _ _,
      Nat.succ_le_succ (Nat.zero_le _)⟩
  | case6 n s last b0 sub x s1 heq conn1 a hfwd b conn2 s2 e hnok hal r ih =>
    obtain ⟨hc, ht, hr, hp⟩ := balance_spec heq
    -- the frame at entry, written as the frame of the recursive call's entry state (one more on `b`, `b` given back)
    rw [← hc, ← ht, ← decTb_inc (decTb s1.conn s1.tb) b]
    exact ⟨.rt _ _ hr (hp _ _ _ rfl) rfl (fun _ => hal) ih.1, ih.2.1, Nat.succ_le_succ ih.2.2⟩

theorem Run.mem_rt {cfg rq F tb r evs tb' b sub x snap o} (h : Run cfg rq F tb r evs tb')
    (he : .rt b sub x snap o ∈ evs) : decTb snap (some b) = F ∧ ∃ r1, Picked cfg r1 sub x := by
  induction h with
  | stop => cases he
  | fin => exact nomatch List.mem_singleton.mp he
  | rt _ _ _ hp hF _ _ ih =>
    rcases List.mem_cons.mp he with h | he
    · obtain ⟨rfl, rfl, rfl, rfl, -⟩ := Ev.rt.inj h
      exact ⟨hF, _, hp⟩
    · exact ih he

theorem Run.last {cfg rq F tb r evs tb'} (h : Run cfg rq F tb r evs tb') :
    tb' = match evs.getLast? with
      | some (.rt b _ _ _ _) => some b
      | some (.fin _ _) => none
      | none => tb := by
  induction h with
  | stop | fin => rfl
  | rt _ evs _ _ _ _ _ ih =>
    rw [ih, List.getLast?_cons]
    cases evs.getLast? with
    | none => rfl
    | some y => cases y <;> rfl

end BfeVerif.C07
