import BfeVerif.C08.Model
import BfeVerif.C07.Balance
/-! `Run` (what one clusterInvoke can log, `C07/Balance.lean`) is all these proofs know of `loop`. -/
namespace BfeVerif.C08
open BfeVerif.C07

theorem crossCandsAux_eq (ss : List Sub) (i p : Nat) :
    crossCandsAux ss i p = ((ss.zipIdx i).filter fun sj => sj.2 ≠ p && crossOK sj.1).map (·.2) := by
  induction ss generalizing i with
  | nil => rfl
  | cons s rest ih =>
    rw [crossCandsAux, ih, List.zipIdx_cons, List.filter_cons]
    split <;> rfl

theorem mem_crossCands {cfg : Cfg} {p q : Nat} (h : q ∈ crossCands cfg p) :
    q ≠ p ∧ ∃ sc, cfg.subs[q]? = some sc ∧ crossOK sc = true := by
  rw [crossCands, crossCandsAux_eq] at h
  obtain ⟨⟨sc, _⟩, hf, rfl⟩ := List.mem_map.mp h
  obtain ⟨hm, hc⟩ := List.mem_filter.mp hf
  simp only [Bool.and_eq_true, decide_eq_true_eq] at hc
  exact ⟨hc.1, sc, List.mk_mem_zipIdx_iff_getElem?.mp hm, hc.2⟩

theorem subOK_of_picked {cfg : Cfg} {r sub : Nat} {x : Bool} (h : Picked cfg r sub x) (b : Nat) (snap : Nat → Int)
    (o : Rt) : SubOK cfg (.rt b sub x snap o) := by
  cases h with
  | own _ _ hbl => exact ⟨fun _ => ⟨rfl, hbl⟩, nofun⟩
  | cross _ hcr hm =>
    obtain ⟨h1, sc, h3, h4⟩ := mem_crossCands hm
    simp only [crossOK, Bool.and_eq_true, decide_eq_true_eq, Bool.not_eq_true'] at h4
    exact ⟨nofun, fun _ => ⟨hcr, h1, sc, h3, h4.2, h4.1⟩⟩

theorem mayResend_of_allowRetry (cfg : Cfg) (rq : ReqSpec) (o : Rt) (h : allowRetry cfg rq o = true) :
    MayResend cfg rq o := by
  -- connect: always; write, rhdr, timeout, broken: `checkAllowRetry`; the rest: `allowRetry` is false
  cases o <;> simp_all [allowRetry, MayResend, Rt.failed]

theorem run_resend {cfg rq F tb r evs tb'} (h : Run cfg rq F tb r evs tb') : ResendOK cfg rq evs := by
  induction h with
  | stop | fin => trivial
  | rt _ evs _ _ _ hal _ ih =>
    cases evs with
    | nil => trivial
    | cons e' rest => exact ⟨mayResend_of_allowRetry cfg rq _ (hal nofun), ih⟩

theorem resendOK_index (cfg : Cfg) (rq : ReqSpec) (l : List Ev) (h : ResendOK cfg rq l) :
    ∀ i, i + 1 < l.length → ∃ b sub x snap o, l[i]? = some (.rt b sub x snap o) ∧ MayResend cfg rq o := by
  induction l with
  | nil => nofun
  | cons e rest ih =>
    intro i hi
    cases rest with
    | nil => exact absurd hi (by simp)
    | cons e' rest' =>
      cases i with
      | zero =>
        cases e with
        | rt b sub x snap o => exact ⟨b, sub, x, snap, o, rfl, h.1⟩
        | fin _ _ => exact h.1.elim
      | succ i => exact ih h.2 i (Nat.lt_of_succ_lt_succ hi)

/-- `c` attempts that fit the budget left after `RetryTime = r1 + 1` fit the budget left after any `r ≤ r1`;
    `max 0 (B + 1 - r)` is the shape of `C08_bound` -/
theorem budget_skip {c r r1 : Nat} {B : Int} (h : (c : Int) ≤ max 0 (B + 1 - ((r1 + 1 : Nat) : Int)))
    (hr : r ≤ r1) : (c : Int) ≤ max 0 (B + 1 - r) := by
  omega

/-- and if `r1 ≤ B`, so do they together with the attempt made at `r1` -/
theorem budget_step {c r r1 : Nat} {B : Int} (h : (c : Int) ≤ max 0 (B + 1 - ((r1 + 1 : Nat) : Int)))
    (hr : r ≤ r1) (hB : (r1 : Int) ≤ B) : ((c + 1 : Nat) : Int) ≤ max 0 (B + 1 - r) := by
  omega

theorem run_budget {cfg rq F tb r evs tb'} (h : Run cfg rq F tb r evs tb') :
    (rtCount evs : Int) ≤ max 0 (cfg.rm + cfg.cr + 1 - r) ∧ (inCount evs : Int) ≤ max 0 (cfg.rm + 1 - r) := by
  induction h with
  | stop | fin => exact ⟨Int.le_max_left _ _, Int.le_max_left _ _⟩
  | rt _ _ hr hp _ _ _ ih =>
    cases hp with
    | own hB hin => exact ⟨budget_step ih.1 hr hB, budget_step ih.2 hr hin⟩
    | cross hB => exact ⟨budget_step ih.1 hr hB, budget_skip ih.2 hr⟩   -- `inCount` does not step

theorem rtCount_le_length (evs : List Ev) : rtCount evs ≤ evs.length := by
  induction evs with
  | nil => exact Nat.le_refl _
  | cons e es ih => cases e <;> simp only [rtCount, List.length_cons] <;> omega

end BfeVerif.C08
