import BfeVerif.C14.Proofs
/-!
  C14 — configuration interpretation is deterministic.

  FULL STATEMENT (`C14_det_statement`): for every host_rule.data the loader accepts, every order in which Go may
  range over `Hosts`, `HostTags` and `HostMap` gives the same acceptance and the same (product, tag) for every
  request host.  The code VIOLATES it (`C14_witness_case`, `C14_witness_tag`, replayed on the real code by
  corpus/C14/known.ops; a third way, the duplicate test under the empty host tag, is repaired in /repo:
  `C14_empty_tag_dup_rejected`).  Proved: the `_partial` theorems, one per stage (trie, tag → product map), and
  `C14_hostcheck_order_independent`; they are not composed into `SameMeaning (interpret …) (interpret …)` under
  their hypotheses.

  After the host table: the GSLB and SLB state after reloads (map order and history do not show in it), and the
  acceptance of the check functions under a permutation of the map they range over.
-/
namespace BfeVerif.C14
open BfeVerif.C13

/-- two load results mean the same: both rejected, or both accepted with the same decision for every host -/
def SameMeaning : Res (Entries × String) → Res (Entries × String) → Prop
  | .ok a, .ok b => ∀ q, decision a.1 a.2 q = decision b.1 b.2 q
  | .err, .err => True
  | .crash, .crash => True
  | _, _ => False

/-- the property at full strength (FALSE for the code as it is: see the witnesses) -/
def C14_det_statement : Prop :=
  ∀ (norm : String → List String) (f : HostFile) (hosts tags hosts1 hosts2 tags1 tags2 : List (String × Option (List String)))
    (σ1 σ2 : List (String × String) → List (String × String)),
    f.hosts = some hosts → f.hostTags = some tags →
    hosts1.Perm hosts → hosts2.Perm hosts → tags1.Perm tags → tags2.Perm tags →
    (∀ l, (σ1 l).Perm l) → (∀ l, (σ2 l).Perm l) →
    SameMeaning (interpret norm f hosts1 tags1 σ1) (interpret norm f hosts2 tags2 σ2)

theorem C14_lookup_det_partial (es es' : Entries) (hp : es.Perm es') (hn : (es.map (·.1)).Nodup)
    (dp : String) (q : List String) : decision es dp q = decision es' dp q := by
  rw [decision, decision, lookup, lookup, lookupFrom_congr (entryAt_perm hp hn)]

/-- `buildHostRoute`'s trie answers every lookup identically for every iteration order of HostMap, provided the
    normalised host names (lower-cased, reversed, trailing dot dropped) are pairwise distinct -/
theorem C14_build_det_partial (norm : String → List String) (hm hm' tm : List (String × String))
    (hp : hm.Perm hm') (hn : (hm.map fun ht => norm ht.1).Nodup) (dp : String) (q : List String) :
    decision (buildEntries norm hm tm) dp q = decision (buildEntries norm hm' tm) dp q :=
  C14_lookup_det_partial _ _ ((hp.map _).filter _) (keys_nodup_buildEntries norm hm tm hn) dp q

/-- the host-tag → product map does not depend on the order in which Go ranges over `HostTags`, provided no host tag is
    listed twice (under two products, or twice under one) -/
theorem C14_tagmap_det_partial (tags tags' : List (String × Option (List String))) (hp : tags.Perm tags')
    (hs : ∀ kv ∈ tags, kv.2.isSome = true) (hn : (allValues tags).Nodup)
    (m m' : List (String × String)) (h1 : buildTagMap tags [] = .ok m) (h2 : buildTagMap tags' [] = .ok m')
    (t : String) : mapGet m t = mapGet m' t := by
  cases (buildTagMap_eq tags [] hs).symm.trans h1
  cases (buildTagMap_eq tags' [] fun kv hkv => hs kv (hp.mem_iff.mpr hkv)).symm.trans h2
  exact mapGet_invert_perm hp hn [] t

/-! ### the negation of the full statement: two independent witnesses, and a third, repaired in /repo -/

/-- stands in for `normBuild`, which sends `B.COM` and `b.com` to one key as well (`["moc", "b"]` by `#eval`) but is
    stuck in the kernel (`String.splitOn`) -/
def exNorm (s : String) : List String := if s == "B.COM" then ["b.com"] else [s]

/-- (a) `B.COM` under tag t2 and `b.com` under tag t3 pass the exact-string duplicate check, normalise to the
    same trie path, and the last one written wins. -/
theorem C14_witness_case :
    ∃ (hm hm' : List (String × String)), hm.Perm hm' ∧
      decision (buildEntries exNorm hm [("t2", "p1"), ("t3", "p1")]) "" ["b.com"] ≠
      decision (buildEntries exNorm hm' [("t2", "p1"), ("t3", "p1")]) "" ["b.com"] := by
  refine ⟨[("B.COM", "t2"), ("b.com", "t3")], [("b.com", "t3"), ("B.COM", "t2")], ?_, ?_⟩
  · exact List.Perm.swap _ _ _
  · decide +kernel

def exTagFile (tags : List (String × Option (List String))) : HostFile :=
  { version := some "v1", defaultProduct := none, hosts := some [("t1", some ["a.org"])], hostTags := some tags }

/-- (b) a host tag listed under two products: `hostTag2Product[tag] = product` keeps whichever product the map
    iteration visited last. -/
theorem C14_witness_tag :
    (hostLoad (exTagFile [("p1", some ["t1"]), ("p2", some ["t1"])])).bind (fun c => .ok c.hostTagMap) = .ok [("t1", "p2")] ∧
    (hostLoad (exTagFile [("p2", some ["t1"]), ("p1", some ["t1"])])).bind (fun c => .ok c.hostTagMap) = .ok [("t1", "p1")] := by
  constructor <;> decide +kernel

def exEmptyTag (hosts : List (String × Option (List String))) : HostFile :=
  { version := some "v1", defaultProduct := none, hosts := some hosts, hostTags := some [("p1", some ["", "t2"])] }

/-- a host listed under the empty host tag and under `t2` is rejected in both orders, the duplicate test being
    `_, dup := host2HostTag[h]`.  (Before /repo commit 73b0231 it was `host2HostTag[h] != ""`, which does not see a host
    stored under the empty tag: even ACCEPTANCE depended on the order.) -/
theorem C14_empty_tag_dup_rejected :
    hostLoad (exEmptyTag [("", some ["w.a.com"]), ("t2", some ["w.a.com"])]) = .err ∧
    hostLoad (exEmptyTag [("t2", some ["w.a.com"]), ("", some ["w.a.com"])]) = .err := by
  constructor <;> decide +kernel

/-- by witness (b) -/
theorem C14_not_det : ¬ C14_det_statement := by
  intro h
  have := h (fun s => [s]) (exTagFile [("p1", some ["t1"]), ("p2", some ["t1"])]) _ _ _ _ _
    [("p2", some ["t1"]), ("p1", some ["t1"])] id id rfl rfl .rfl .rfl .rfl (.swap _ _ _) (fun _ => .rfl) (fun _ => .rfl)
  have h1 : interpret (fun s => [s]) (exTagFile [("p1", some ["t1"]), ("p2", some ["t1"])])
      [("t1", some ["a.org"])] [("p1", some ["t1"]), ("p2", some ["t1"])] id =
      .ok ([(["a.org"], ("p2", "t1"))], "") := by decide +kernel
  have h2 : interpret (fun s => [s]) (exTagFile [("p1", some ["t1"]), ("p2", some ["t1"])])
      [("t1", some ["a.org"])] [("p2", some ["t1"]), ("p1", some ["t1"])] id =
      .ok ([(["a.org"], ("p1", "t1"))], "") := by decide +kernel
  rw [h1, h2] at this
  exact absurd (this ["a.org"]) (by decide +kernel)

/-! non-vacuity of the partial theorems: distinct normalised names, two orders, same answers -/
example : ([("a.com", "t1"), ("b.com", "t2")].map fun ht => exNorm ht.1).Nodup := by decide +kernel
example : decision (buildEntries exNorm [("a.com", "t1"), ("b.com", "t2")] [("t1", "p1")]) "" ["a.com"]
    = some ("p1", "t1") := by decide +kernel

/-! ### GSLB: the meaning of a gslb conf does not depend on map order or reload history -/

/-- whatever state `g` the balancer of a cluster is in, reloading `conf` (a Go map, ranged over in any order) leaves
    the state a FRESH `Init` of the same conf in any other order produces, up to `avail` where it is dead.
    (Holds because `Reload` sorts BEFORE the weight pass; with the sort after it, `avail` indexes the unsorted list.) -/
theorem C14_subcluster_sorted (g : Gslb) (hg : (g.subs.map (·.name)).Nodup) (conf conf' : List Sub)
    (hp : conf.Perm conf') (hn : (conf.map (·.name)).Nodup) (hv : sumPos conf > 0) :
    ∃ g', gslbInit conf' = some g' ∧ (gslbReload g conf).norm = g'.norm ∧
      ∀ h, gslbSelect (gslbReload g conf) h = gslbSelect g' h := by
  have hv' : ¬ sumPos conf ≤ 0 := by omega
  have hne : sumPos conf' ≠ 0 := by rw [← sumPos_perm hp]; omega
  have hnorm := reload_norm_eq g hg conf conf' hp hn hv'
  refine ⟨initState conf', gslbInit_eq conf' hne, hnorm, fun h => ?_⟩
  rw [← select_norm (gslbReload g conf), hnorm, select_norm]

/-- the same after ANY sequence of reloads (valid or rejected) -/
theorem C14_subcluster_history (first : List Sub) (g0 : Gslb) (h0 : gslbInit first = some g0)
    (hist : List (List Sub)) (final final' : List Sub)
    (hf : (first.map (·.name)).Nodup) (hh : ∀ c ∈ hist, (c.map (·.name)).Nodup)
    (hp : final.Perm final') (hn : (final.map (·.name)).Nodup) (hv : sumPos final > 0) :
    ∃ g', gslbInit final' = some g' ∧
      ∀ h, gslbSelect (gslbReload (gslbHistory g0 hist) final) h = gslbSelect g' h := by
  have hg := history_names_nodup hist g0 (init_names_nodup hf h0) hh
  obtain ⟨g', h1, _, h3⟩ := C14_subcluster_sorted (gslbHistory g0 hist) hg final final' hp hn hv
  exact ⟨g', h1, h3⟩

/-- any correct sort gives the list the model's `mergeSort` gives (so pdqsort's instability is irrelevant) -/
theorem C14_sort_unique (l s : List Sub) (hn : (l.map (·.name)).Nodup) (hp : s.Perm l)
    (ho : s.Pairwise fun a b => subLe a b = true) : s = l.mergeSort subLe :=
  sorted_perm_unique hn hp (List.mergeSort_perm l subLe) ho
    (List.pairwise_mergeSort subLe_trans subLe_total l)

/-- non-vacuity: the hypotheses are satisfiable, and an instance — running {sub-b:100}, reload to
    {sub-c:0, sub-a:0, sub-b:100}: every selection equals the one after a fresh load of {sub-a, sub-b, sub-c}. -/
example : (([⟨"sub-c", 0⟩, ⟨"sub-a", 0⟩, ⟨"sub-b", 100⟩] : List Sub).map (·.name)).Nodup ∧
    sumPos [⟨"sub-c", 0⟩, ⟨"sub-a", 0⟩, ⟨"sub-b", 100⟩] > 0 := by decide +kernel
example (g0 : Gslb) (h0 : gslbInit [⟨"sub-b", 100⟩] = some g0) :
    ∃ g', gslbInit [⟨"sub-a", 0⟩, ⟨"sub-b", 100⟩, ⟨"sub-c", 0⟩] = some g' ∧
      ∀ h, gslbSelect (gslbReload (gslbHistory g0 []) [⟨"sub-c", 0⟩, ⟨"sub-a", 0⟩, ⟨"sub-b", 100⟩]) h = gslbSelect g' h :=
  C14_subcluster_history [⟨"sub-b", 100⟩] g0 h0 [] _ _ (by decide +kernel) (fun _ h => nomatch h)
    (by decide +kernel) (by decide +kernel) (by decide +kernel)

/-! ### SLB: session-sticky selection is a function of the final backend set only -/

/-- ANY state of a sub-cluster's balancer (earlier sticky requests may have sorted the list), updated to the backend
    set `conf` in any Go-map order, selects like a balancer freshly initialised with the same set in any file order.
    (Holds because `Update` always clears `sorted`; if it is cleared only when the COUNT
    changes, a same-count replacement leaves new backends appended unsorted.) -/
theorem C14_slb_history_independent (s : Slb) (hs : (s.backends.map (·.name)).Nodup) (conf conf' : List Sub)
    (hp : conf.Perm conf') (hn : (conf.map (·.name)).Nodup) (h : Int) :
    (slbSticky (slbUpdate s conf) h).1 = (slbSticky (slbInit conf') h).1 := by
  rw [slbSticky, slbSticky, slbEnsureSorted_update s hs hp hn]

/-- the same after a whole history of updates and sticky requests starting from a fresh `Init` -/
theorem C14_slb_history (first : List Sub) (ops : List SlbOp) (final final' : List Sub)
    (hf : (first.map (·.name)).Nodup) (hops : ∀ c, SlbOp.update c ∈ ops → (c.map (·.name)).Nodup)
    (hp : final.Perm final') (hn : (final.map (·.name)).Nodup) (h : Int) :
    (slbSticky (slbUpdate (slbRun (slbInit first) ops) final) h).1 = (slbSticky (slbInit final') h).1 :=
  C14_slb_history_independent _ (slbRun_nodup ops (slbInit first) hf hops) final final' hp hn h

/-- why the flag matters: a state whose list is marked sorted but is not (what a same-count `Update` leaves behind when
    `sorted` is not cleared) selects differently from a fresh load of the same backends -/
theorem C14_witness_slb_stale_sorted :
    (slbSticky { backends := [⟨"10.0.0.3:80", 1⟩, ⟨"10.0.0.0:80", 1⟩], sorted := true } 0).1 = some "10.0.0.3:80" ∧
    stickyWalk [⟨"10.0.0.0:80", 1⟩, ⟨"10.0.0.3:80", 1⟩] 0 = some "10.0.0.0:80" := by
  constructor <;> decide +kernel

/-! ### `HostTableConfCheck` -/

/-- `HostTableConfCheck` is a conjunction of ∀-conditions over `Hosts` and `HostTags`.
    (With `find := false` hoisted out of the per-tag loop the check becomes "the FIRST tag visited is owned", which is
    order dependent: the model of the real code below checks every tag.) -/
theorem C14_hostcheck_order_independent (f : HostFile) (hosts hosts' tags tags' : List (String × Option (List String)))
    (hp : hosts.Perm hosts') (tp : tags.Perm tags') :
    hostCheck { f with hosts := some hosts, hostTags := some tags } =
    hostCheck { f with hosts := some hosts', hostTags := some tags' } := by
  rw [(hostCheck_decides _).eq_ite, (hostCheck_decides _).eq_ite, hostCheckOk_perm f hp tp]

theorem C14_orphan_tag_rejected (f : HostFile) (hosts tags : List (String × Option (List String)))
    (hh : f.hosts = some hosts) (ht : f.hostTags = some tags)
    (orphan : ∃ kv ∈ hosts, ∀ pt ∈ tags, kv.1 ∉ pt.2.getD []) : hostCheck f ≠ .ok () := by
  intro h
  have h := (hostCheck_decides f).ok_iff.mp h
  simp only [hostCheckOk, hh, ht, Bool.and_eq_true, List.all_eq_true] at h
  obtain ⟨kv, hkv, hno⟩ := orphan
  obtain ⟨pt, hpt, hin⟩ := (contains_allValues tags kv.1).mp (h.2.1.2 kv hkv).2
  exact hno pt hpt hin

def exOrphan (hosts : List (String × Option (List String))) : HostFile :=
  { version := some "1", defaultProduct := none, hosts := some hosts, hostTags := some [("p", some ["good"])] }
/-- non-vacuity: a valid tag and an orphan tag, in both orders → rejected both times -/
example : hostCheck (exOrphan [("good", some ["a.com"]), ("orphan", some ["b.com"])]) = .err ∧
    hostCheck (exOrphan [("orphan", some ["b.com"]), ("good", some ["a.com"])]) = .err := by
  constructor <;> decide +kernel

/-! ### the other check functions: acceptance -/

theorem C14_vip_order_independent (parseIP : ParseIP) (f : VipFile) (vips' : List (String × List String))
    (hp : f.vips.Perm vips') : (vipLoad parseIP f).isOk = (vipLoad parseIP { f with vips := vips' }).isOk := by
  rw [(vipLoad_decides parseIP f).isOk, (vipLoad_decides parseIP _).isOk]
  simp only [docVip, hp.all_eq]

/-- `BasicRule`, `ProductRule`: product → rule list; the rules of one product stay in file order -/
theorem C14_route_order_independent (condOk : CondOk) (f : RouteFile)
    (basic basic' : List (String × List BasicRuleFile)) (adv adv' : List (String × List AdvRuleFile))
    (hb : basic.Perm basic') (ha : adv.Perm adv') :
    (routeLoad condOk { f with basic := some basic, adv := some adv }).isOk =
    (routeLoad condOk { f with basic := some basic', adv := some adv' }).isOk := by
  rw [(routeLoad_decides condOk _).isOk, (routeLoad_decides condOk _).isOk]
  simp only [docRoute, Option.getD_some, hb.all_eq, ha.all_eq]
  rfl

theorem C14_cluster_conf_order_independent (v : Option String) (cfg cfg' : List (String × ClusterConf))
    (hp : cfg.Perm cfg') :
    (ccLoad (some { version := v, config := some cfg })).isOk = (ccLoad (some { version := v, config := some cfg' })).isOk := by
  rw [(ccLoad_decides _).isOk, (ccLoad_decides _).isOk]
  cases v with
  | none => rfl
  | some v => exact hp.all_eq

theorem C14_gslb_order_independent (f : GslbFile) (cs cs' : List (String × List (String × Int))) (hp : cs.Perm cs') :
    gslbLoad { f with clusters := some cs } = gslbLoad { f with clusters := some cs' } := by
  unfold gslbLoad
  cases f.hostname <;> cases f.ts <;> simp only [deref_some, Res.ok_bind]
  rw [forAllM_eq_perm (fun _ => failIf_ne_crash _) hp, hp.length_eq]

/-- separately, the sub-cluster weights of one cluster: Go's `int` sum wraps, but addition modulo 2^64 still commutes -/
theorem C14_gslb_weights_order_independent (l l' : List (String × Int)) (hp : l.Perm l') :
    gslbTotal l 0 = gslbTotal l' 0 := gslbTotal_perm hp 0

/-- `Config`: cluster → sub-cluster → backend list; only the outer map is permuted: the sub-cluster maps (Go maps as
    well) and the backend lists stay in file order -/
theorem C14_cluster_table_order_independent (f : CtFile)
    (cfg cfg' : List (String × List (String × List (Option Backend)))) (hp : cfg.Perm cfg') :
    ctLoad { f with config := some cfg } = ctLoad { f with config := some cfg' } := by
  unfold ctLoad
  cases f.version <;> simp only [deref_some, Res.ok_bind]
  rw [forAllM_eq_perm (fun _ => forAllM_ne_crash _ fun _ _ => (subClusterCheck_decides _).ne_crash) hp, hp.length_eq]

theorem C14_name_conf_order_independent (c c' : List (String × List Instance)) (hp : c.Perm c') :
    nameLoad { config := c } = nameLoad { config := c' } := by
  unfold nameLoad
  exact forAllM_eq_perm (fun _ => forAllM_ne_crash _ fun _ _ => failIf_ne_crash _) hp

end BfeVerif.C14
