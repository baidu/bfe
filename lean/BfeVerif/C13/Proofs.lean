import BfeVerif.C13.Model
/-!
  Each loader is walked once, for one statement `(load f).Decides (doc f) Q` (`Res.Decides` below), where needed after
  it has been brought into a form without nil checks (`routeLoad_eq`, `ccLoad_some`, `subClusterLoop_eq`).  The two loops
  that refuse a key already stored (host names, keys of the rule tree) share one acceptance test, `fresh`.
  The `_ok_iff` lemmas are for a user who holds `= .ok _` as a hypothesis; no walk below goes through them.
-/
namespace BfeVerif.C13

variable {α β : Type}
@[simp] theorem Res.ok_bind (a : α) (f : α → Res β) : (Res.ok a).bind f = f a := rfl
@[simp] theorem Res.err_bind (f : α → Res β) : Res.err.bind f = .err := rfl
@[simp] theorem Res.crash_bind (f : α → Res β) : Res.crash.bind f = .crash := rfl

theorem Res.bind_ok_iff {x : Res α} {f : α → Res β} {b : β} :
    x.bind f = .ok b ↔ ∃ a, x = .ok a ∧ f a = .ok b := by
  cases x <;> simp

theorem Res.bind_ok_unit {x : Res Unit} {f : Unit → Res β} {b : β} :
    x.bind f = .ok b ↔ x = .ok () ∧ f () = .ok b := by
  cases x <;> simp

theorem Res.bind_ne_crash {x : Res α} {f : α → Res β} (hx : x ≠ .crash)
    (hf : ∀ a, x = .ok a → f a ≠ .crash) : x.bind f ≠ .crash := by
  cases x with
  | ok a => exact hf a rfl
  | err => simp
  | crash => exact absurd rfl hx

theorem Res.bind_congr {x : Res α} {f g : α → Res β} (h : ∀ a, x = .ok a → f a = g a) : x.bind f = x.bind g := by
  cases x with
  | ok a => exact h a rfl
  | err => rfl
  | crash => rfl

theorem Res.isOk_iff {x : Res α} : x.isOk = true ↔ ∃ a, x = .ok a := by
  cases x <;> simp [Res.isOk]

theorem Res.isOk_unit {x : Res Unit} : x.isOk = true ↔ x = .ok () := by
  cases x <;> simp [Res.isOk]

theorem Res.unit_ext : ∀ {x y : Res Unit}, x ≠ .crash → y ≠ .crash → x.isOk = y.isOk → x = y
  | .ok _, .ok _, _, _, _ => rfl
  | .err, .err, _, _, _ => rfl
  | .ok _, .err, _, _, h | .err, .ok _, _, _, h => nomatch h
  | .crash, _, hx, _, _ => absurd rfl hx
  | _, .crash, _, hy, _ => absurd rfl hy

/-- `b`: the formula over the file that decides acceptance; `Q`: what a later step of the loader relies on -/
structure Res.Decides (x : Res α) (b : Bool) (Q : α → Prop := fun _ => True) : Prop where
  ne_crash : x ≠ .crash
  isOk : x.isOk = b
  post : ∀ a, x = .ok a → Q a

namespace Res.Decides
variable {Q : α → Prop} {R : β → Prop}

theorem ok_post {a : α} (h : Q a) : (Res.ok a).Decides true Q := ⟨nofun, rfl, fun _ e => by cases e; exact h⟩
theorem ok (a : α) : (Res.ok a).Decides true := ok_post trivial
theorem err : (Res.err : Res α).Decides false Q := ⟨nofun, rfl, nofun⟩
theorem self {x : Res α} (h : x ≠ .crash) : x.Decides x.isOk := ⟨h, rfl, fun _ _ => trivial⟩

theorem of_bool (b : Bool) (a : α) : (if b then Res.ok a else .err).Decides b := by
  cases b
  · exact err
  · exact ok a

theorem bind {x : Res α} {f : α → Res β} {b c : Bool} (hx : x.Decides b Q) (hf : ∀ a, x = .ok a → (f a).Decides c R) :
    (x.bind f).Decides (b && c) R := by
  rw [← hx.isOk]
  cases x with
  | ok a => exact hf a rfl
  | err => exact err
  | crash => exact absurd rfl hx.ne_crash

theorem ite {c : Prop} [Decidable c] {x y : Res α} {a b : Bool} (hx : x.Decides a Q) (hy : y.Decides b Q) :
    (if c then x else y).Decides (if c then a else b) Q := by
  split <;> assumption

theorem ite_err {c : Prop} [Decidable c] {x : Res α} {b : Bool} (hx : x.Decides b Q) :
    (if c then .err else x).Decides (!decide c && b) Q := by
  by_cases h : c
  · rw [if_pos h, decide_eq_true h]; exact err
  · rw [if_neg h, decide_eq_false h]; exact hx

theorem congr {x : Res α} {b b' : Bool} (h : x.Decides b Q) (e : b = b') : x.Decides b' Q := e ▸ h

theorem ok_iff {x : Res Unit} {b : Bool} {Q : Unit → Prop} (h : x.Decides b Q) : x = .ok () ↔ b = true := by
  rw [← Res.isOk_unit, h.isOk]

theorem bind_ok {x : Res α} {b : Bool} (hx : x.Decides b Q) (g : α → β) : (x.bind fun a => .ok (g a)).Decides b :=
  (hx.bind fun a _ => ok (g a)).congr (Bool.and_true b)

theorem exists_ok {x : Res α} {b : Bool} (hx : x.Decides b Q) (hb : b = true) : ∃ a, x = .ok a :=
  Res.isOk_iff.mp (hx.isOk.trans hb)

theorem eq_ite {x : Res Unit} {b : Bool} (h : x.Decides b) : x = if b then .ok () else .err :=
  Res.unit_ext h.ne_crash (of_bool b ()).ne_crash (h.isOk.trans (of_bool b ()).isOk.symm)
end Res.Decides

theorem failIf_decides : ∀ b : Bool, (failIf b).Decides (!b)
  | true => .err
  | false => .ok ()

theorem failIf_ne_crash (b : Bool) : failIf b ≠ .crash := (failIf_decides b).ne_crash

theorem failIf_ok_iff {b : Bool} : failIf b = .ok () ↔ b = false := by
  rw [(failIf_decides b).ok_iff, Bool.not_eq_true']

theorem deref_some (a : α) : deref (some a) = .ok a := rfl
attribute [simp] deref_some

theorem deref_ne_crash {o : Option α} (h : o.isSome = true) : deref o ≠ .crash := by
  cases o with
  | none => simp at h
  | some a => simp

theorem deref_ok_iff {o : Option α} {a : α} : deref o = .ok a ↔ o = some a := by
  cases o <;> simp [deref]

theorem forAllM_ok_iff {f : α → Res Unit} : ∀ l : List α, forAllM f l = .ok () ↔ ∀ x ∈ l, f x = .ok ()
  | [] => by simp [forAllM]
  | x :: xs => by rw [forAllM, Res.bind_ok_unit, forAllM_ok_iff xs, List.forall_mem_cons]

theorem forAllM_decides {f : α → Res Unit} {p : α → Bool} :
    ∀ l : List α, (∀ x ∈ l, (f x).Decides (p x)) → (forAllM f l).Decides (l.all p)
  | [], _ => .ok ()
  | x :: xs, h =>
    (h x List.mem_cons_self).bind fun _ _ => forAllM_decides xs fun y hy => h y (List.mem_cons_of_mem _ hy)

theorem forAllM_ne_crash {f : α → Res Unit} (l : List α) (h : ∀ x ∈ l, f x ≠ .crash) : forAllM f l ≠ .crash :=
  (forAllM_decides l fun x hx => .self (h x hx)).ne_crash

theorem forAllM_eq_perm {f : α → Res Unit} (hf : ∀ x, f x ≠ .crash) {l l' : List α} (hp : l.Perm l') :
    forAllM f l = forAllM f l' :=
  have h (l) := forAllM_decides l fun x _ => .self (hf x)
  Res.unit_ext (h l).ne_crash (h l').ne_crash ((h l).isOk.trans (hp.all_eq.trans (h l').isOk.symm))

theorem mapGet_cons (a : String) (b : β) (m : List (String × β)) (k : String) :
    mapGet ((a, b) :: m) k = if a = k then some b else mapGet m k := by
  by_cases h : a = k <;> simp [mapGet, h]

theorem mapGet_mapSet : ∀ (m : List (String × β)) (k k' : String) (v : β),
    mapGet (mapSet m k v) k' = if k = k' then some v else mapGet m k'
  | [], k, k', v => mapGet_cons k v [] k'
  | (a, b) :: rest, k, k', v => by
    rw [mapSet]
    by_cases hak : a = k
    · subst hak
      rw [if_pos (beq_self_eq_true a), mapGet_cons, mapGet_cons]
      split <;> rfl
    · rw [if_neg (by simpa using hak), mapGet_cons, mapGet_cons, mapGet_mapSet rest]
      by_cases h : a = k'
      · rw [if_pos h, if_neg (h ▸ Ne.symm hak), if_pos h]
      · rw [if_neg h, if_neg h]

theorem mapHas_iff (m : List (String × β)) (k : String) : mapHas m k = true ↔ ∃ kv ∈ m, kv.1 = k := by
  simp only [mapHas, List.any_eq_true, beq_iff_eq]

theorem mapHas_eq_isSome (m : List (String × β)) (k : String) : mapHas m k = (mapGet m k).isSome := by
  rw [mapGet, Option.isSome_map, List.isSome_find?]; rfl

theorem mapHas_mapSet (m : List (String × β)) (k : String) (v : β) :
    mapHas (mapSet m k v) = fun k' => mapHas m k' || k' == k := by
  funext k'
  rw [mapHas_eq_isSome, mapHas_eq_isSome, mapGet_mapSet]
  by_cases h : k = k'
  · rw [if_pos h, h, beq_self_eq_true, Bool.or_true]; rfl
  · rw [if_neg h, beq_eq_false_iff_ne.mpr (Ne.symm h), Bool.or_false]

theorem mem_mapSet {x : String × β} (m : List (String × β)) (k : String) (v : β) (h : x ∈ mapSet m k v) :
    x.2 = v ∨ x ∈ m := by
  fun_induction mapSet m k v with
  | case1 => exact Or.inl (by rw [List.mem_singleton.mp h])
  | case2 => exact (List.mem_cons.mp h).imp (fun e => by rw [e]) (List.mem_cons_of_mem _)
  | case3 _ _ _ _ _ _ ih =>
    rcases List.mem_cons.mp h with rfl | h
    · exact Or.inr List.mem_cons_self
    · exact (ih h).imp_right (List.mem_cons_of_mem _)

variable {κ : Type}

/-- the duplicate test of a loop that refuses a key already stored (`addHosts`, `insertPaths`): each key against the
    store, which is known through its membership test `has` only (`mapHas m`, `refused t`), and against the keys met so far -/
def fresh [BEq κ] (has : κ → Bool) : List κ → Bool
  | [] => true
  | k :: ks => !has k && fresh (fun x => has x || x == k) ks

theorem fresh_append [BEq κ] (a b : List κ) (has : κ → Bool) :
    fresh has (a ++ b) = (fresh has a && fresh (fun x => has x || a.contains x) b) := by
  induction a generalizing has with
  | nil => simp only [fresh, List.nil_append, List.contains_nil, Bool.or_false, Bool.true_and]
  | cons k a ih => simp only [List.cons_append, fresh, ih, Bool.and_assoc, List.contains_cons, Bool.or_assoc]

theorem fresh_iff [BEq κ] [LawfulBEq κ] (l : List κ) (has : κ → Bool) :
    fresh has l = true ↔ (∀ k ∈ l, has k = false) ∧ l.Nodup := by
  induction l generalizing has with
  | nil => exact iff_of_true rfl ⟨nofun, .nil⟩
  | cons k l ih =>
    simp only [fresh, ih, Bool.and_eq_true, Bool.not_eq_true', Bool.or_eq_false_iff, beq_eq_false_iff_ne, ne_eq,
      List.forall_mem_cons, List.nodup_cons, forall_and, List.forall_mem_ne', and_assoc, and_left_comm]

/-! ### host_rule.data

  This loader alone is brought to a closed form (`hostLoad_eq`, of which `hostLoad_decides` is a corollary):
  `C13_closed_host` and the tag-map theorems of C14 speak of the maps it returns (`invert`). -/
abbrev PMap := List (String × Option (List String))

theorem allValues_cons (k : String) (o : Option (List String)) (m : PMap) :
    allValues ((k, o) :: m) = o.getD [] ++ allValues m := rfl

theorem contains_allValues (tags : PMap) (x : String) :
    (allValues tags).contains x = true ↔ ∃ pt ∈ tags, x ∈ pt.2.getD [] := by
  rw [List.contains_eq_mem, decide_eq_true_iff, allValues, List.mem_flatMap]

theorem tagListed_eq (tag : String) (m : PMap) (h : allSome m = true) :
    tagListed tag m = .ok ((allValues m).contains tag) := by
  induction m with
  | nil => rfl
  | cons kv rest ih =>
    obtain ⟨k, _ | tl⟩ := kv
    · nomatch h
    · rw [tagListed, deref_some, Res.ok_bind, ih h, allValues_cons, Option.getD_some, List.contains_append]
      cases tl.contains tag <;> rfl

/-- what `HostTableConfCheck` accepts; `docHost` asks in addition that no host is listed twice, which `addHosts` tests -/
def hostCheckOk (c : HostFile) : Bool :=
  c.version.isSome &&
  match c.hosts, c.hostTags with
  | some hosts, some tags =>
    allSome tags && hosts.all (fun kv => kv.2.isSome && (allValues tags).contains kv.1) &&
    (match c.defaultProduct with | none => true | some dp => mapHas tags dp)
  | _, _ => false

theorem hostCheck_decides : ∀ c : HostFile, (hostCheck c).Decides (hostCheckOk c)
  | ⟨none, _, _, _⟩ => .err
  | ⟨some _, _, none, _⟩ => .err
  | ⟨some _, _, some _, none⟩ => .err
  | ⟨some v, dp, some hosts, some tags⟩ => by
    have hdp : Res.Decides (match dp with | none => .ok () | some dp => failIf (!mapHas tags dp))
        (match dp with | none => true | some dp => mapHas tags dp) := by
      cases dp with
      | none => exact .ok ()
      | some d => exact (failIf_decides _).congr (Bool.not_not _)
    have h0 : (forAllM (fun kv => failIf kv.2.isNone) tags).Decides (allSome tags) :=
      forAllM_decides tags fun kv _ => (failIf_decides _).congr (Option.not_isNone _)
    -- `tagListed` dereferences every list of `HostTags`: the first loop has made sure of them
    have htag (h1 : allSome tags = true) (kv : String × Option (List String)) :
        ((failIf kv.2.isNone).bind fun _ => (tagListed kv.1 tags).bind fun found => failIf (!found)).Decides
          (kv.2.isSome && (allValues tags).contains kv.1) := by
      rw [tagListed_eq kv.1 tags h1]
      exact ((failIf_decides _).bind fun _ _ => failIf_decides _).congr (by rw [Option.not_isNone, Bool.not_not])
    unfold hostCheck
    dsimp only
    exact (h0.bind fun _ h1 => (forAllM_decides hosts fun kv _ => htag (h0.ok_iff.mp h1) kv).bind fun _ _ => hdp).congr
      (Bool.and_assoc ..).symm

theorem all_and (p q : α → Bool) : ∀ l : List α, l.all (fun x => p x && q x) = (l.all p && l.all q)
  | [] => rfl
  | x :: l => by
    simp only [List.all_cons, all_and p q l, Bool.and_assoc, Bool.and_left_comm]

theorem docHost_eq (f : HostFile) : docHost f = (hostCheckOk f && nodupB (allValues (f.hosts.getD []))) := by
  obtain ⟨v, dp, _ | hosts, _ | tags⟩ := f
  case some.some =>
    -- a: Version; b, c: no null list in Hosts, HostTags; d: every host tag listed; e: no host twice; f: DefaultProduct
    have key : ∀ a b c d e f : Bool, (a && (b && c && d && e && f)) = (a && (c && (b && d) && f) && e) := by decide +kernel
    simp only [docHost, hostCheckOk, all_and, Option.getD_some]
    exact key ..
  all_goals simp only [docHost, hostCheckOk, Bool.and_false, Bool.false_and]

theorem mapGet_addTags (p : String) : ∀ (ts : List String) (m : List (String × String)) (t : String),
    mapGet (addTags p ts m) t = if t ∈ ts then some p else mapGet m t
  | [], m, t => by simp [addTags]
  | x :: xs, m, t => by
    rw [addTags, mapGet_addTags p xs (mapSet m x p) t, mapGet_mapSet]
    by_cases h1 : t ∈ xs
    · simp [h1]
    · by_cases h2 : x = t
      · subst h2; simp [h1]
      · simp [h1, h2, Ne.symm h2]

theorem mapHas_addTags (p : String) (ts : List String) (m : List (String × String)) :
    mapHas (addTags p ts m) = fun t => mapHas m t || ts.contains t := by
  funext t
  rw [mapHas_eq_isSome, mapHas_eq_isSome, mapGet_addTags]
  by_cases h : t ∈ ts <;> simp [h]

theorem mem_addTags {p : String} {x : String × String} : ∀ (ts : List String) (m : List (String × String)),
    x ∈ addTags p ts m → x.2 = p ∨ x ∈ m
  | [], _, h => Or.inr h
  | t :: ts, m, h => (mem_addTags ts _ h).elim Or.inl (mem_mapSet m t p)

-- `addTags` is the loop of `buildTagMap`, here with tag and hosts for product and tags: only the duplicate test differs
theorem addHosts_eq (tag : String) (hs : List String) (m : List (String × String)) :
    addHosts tag hs m = if fresh (mapHas m) hs then .ok (addTags tag hs m) else .err := by
  induction hs generalizing m with
  | nil => rfl
  | cons h hs ih =>
    rw [addHosts, fresh]
    cases mapHas m h
    · rw [ih, mapHas_mapSet]; rfl
    · rfl

/-- a `map[string]*[]string` turned round (listed value ↦ key, a later entry overwriting an earlier one): both maps
    that `HostRuleConfLoad` builds (`buildTagMap_eq`, `buildHostMap_eq`) -/
def invert : PMap → List (String × String) → List (String × String)
  | [], m => m
  | (k, o) :: rest, m => invert rest (addTags k (o.getD []) m)

theorem mem_invert {x : String × String} : ∀ (l : PMap) (m : List (String × String)),
    x ∈ invert l m → (∃ kv ∈ l, x.2 = kv.1) ∨ x ∈ m
  | [], _, h => Or.inr h
  | (k, o) :: rest, m, h =>
    (mem_invert rest _ h).elim (fun ⟨kv, hkv, e⟩ => Or.inl ⟨kv, List.mem_cons_of_mem _ hkv, e⟩) fun h =>
      (mem_addTags _ m h).imp_left fun e => ⟨(k, o), List.mem_cons_self, e⟩

theorem mapHas_invert (t : String) (l : PMap) (m : List (String × String)) :
    mapHas (invert l m) t = (mapHas m t || (allValues l).contains t) := by
  induction l generalizing m with
  | nil => exact (Bool.or_false _).symm
  | cons kv rest ih => rw [invert, ih, mapHas_addTags, allValues_cons, List.contains_append, Bool.or_assoc]

theorem buildTagMap_eq : ∀ (l : PMap) (m : List (String × String)), (∀ kv ∈ l, kv.2.isSome = true) →
    buildTagMap l m = .ok (invert l m)
  | [], _, _ => rfl
  | (_, none) :: _, _, h => nomatch h _ List.mem_cons_self
  | (_, some _) :: rest, _, h => buildTagMap_eq rest _ fun kv hkv => h kv (List.mem_cons_of_mem _ hkv)

theorem buildHostMap_eq (l : PMap) (m : List (String × String)) (h : ∀ kv ∈ l, kv.2.isSome = true) :
    buildHostMap l m = if fresh (mapHas m) (allValues l) then .ok (invert l m) else .err := by
  induction l generalizing m with
  | nil => rfl
  | cons kv rest ih =>
    obtain ⟨tag, o⟩ := kv
    obtain ⟨hs, rfl⟩ := Option.isSome_iff_exists.mp (h _ List.mem_cons_self)
    rw [buildHostMap, deref_some, Res.ok_bind, addHosts_eq, allValues_cons, Option.getD_some, fresh_append]
    cases fresh (mapHas m) hs
    · rfl
    · rw [if_pos rfl, Res.ok_bind, ih _ fun kv hkv => h kv (List.mem_cons_of_mem _ hkv), mapHas_addTags]
      rfl

theorem nodupB_iff : ∀ l : List String, nodupB l = true ↔ l.Nodup
  | [] => by simp [nodupB]
  | x :: xs => by simp [nodupB, nodupB_iff xs]

theorem buildHostMap_nil (l : PMap) (h : ∀ kv ∈ l, kv.2.isSome = true) :
    buildHostMap l [] = if nodupB (allValues l) then .ok (invert l []) else .err := by
  rw [buildHostMap_eq l [] h]
  exact ite_cond_congr (propext ((fresh_iff _ _).trans ((and_iff_right fun _ _ => rfl).trans (nodupB_iff _).symm)))

/-- what `HostRuleConfLoad` returns -/
def hostConfOf (f : HostFile) : HostConf :=
  { defaultProduct := f.defaultProduct.getD "", hostMap := invert (f.hosts.getD []) [],
    hostTagMap := invert (f.hostTags.getD []) [] }

theorem hostLoad_eq : ∀ f : HostFile, hostLoad f = if docHost f then .ok (hostConfOf f) else .err
  | ⟨some v, dp, some hosts, some tags⟩ => by
    rw [docHost_eq, hostLoad, (hostCheck_decides _).eq_ite]
    cases h : hostCheckOk ⟨some v, dp, some hosts, some tags⟩
    · rfl
    · simp only [hostCheckOk, allSome, Bool.and_eq_true, List.all_eq_true] at h
      dsimp only [deref_some, Res.ok_bind]
      rw [if_pos rfl, Res.ok_bind, buildHostMap_nil hosts fun kv hkv => (h.2.1.2 kv hkv).1, buildTagMap_eq tags [] h.2.1.1,
        Bool.true_and, Option.getD_some]
      cases nodupB (allValues hosts) <;> rfl
  | ⟨none, _, _, _⟩ | ⟨some _, _, none, _⟩ | ⟨some _, _, some _, none⟩ => rfl

theorem hostLoad_decides (f : HostFile) : (hostLoad f).Decides (docHost f) := by
  rw [hostLoad_eq]; exact .of_bool _ _

theorem hostLoad_ok {f : HostFile} {c : HostConf} (h : hostLoad f = .ok c) : docHost f = true ∧ c = hostConfOf f := by
  rw [hostLoad_eq] at h
  split at h
  · cases h; exact ⟨‹_›, rfl⟩
  · nomatch h

theorem vipAddAll_decides (parseIP : ParseIP) (p : String) : ∀ (l : List String) (m : List (String × String)),
    (vipAddAll parseIP p l m).Decides (l.all fun v => (parseIP v).isSome)
  | [], m => .ok m
  | v :: vs, m => by
    rw [vipAddAll, List.all_cons]
    cases parseIP v with
    | none => exact .err
    | some c => exact vipAddAll_decides parseIP p vs _

theorem vipBuild_decides (parseIP : ParseIP) : ∀ (l : List (String × List String)) (m : List (String × String)),
    (vipBuild parseIP l m).Decides (l.all fun kv => kv.2.all fun v => (parseIP v).isSome)
  | [], m => .ok m
  | (p, vs) :: rest, m => (vipAddAll_decides parseIP p vs m).bind fun m' _ => vipBuild_decides parseIP rest m'

theorem vipLoad_decides (parseIP : ParseIP) (f : VipFile) : (vipLoad parseIP f).Decides (docVip parseIP f) := by
  rw [vipLoad, docVip, bne]
  cases f.version == ""
  · exact vipBuild_decides parseIP f.vips []
  · exact .err

theorem convertAdvRules_decides (condOk : CondOk) : ∀ (rs : List AdvRuleFile) (acc : List (String × String)),
    (convertAdvRules condOk rs acc).Decides (rs.all (docAdvRule condOk))
  | [], acc => .ok acc
  | r :: rs, acc => by
    rw [convertAdvRules, List.all_cons, docAdvRule]
    cases r.clusterName with
    | none => exact .err
    | some cn =>
      cases r.cond with
      | none => exact .err
      | some c =>
        show Res.Decides (if condOk c = true then _ else _) (condOk c && _)
        cases condOk c
        · exact .err
        · exact convertAdvRules_decides condOk rs _

theorem convertAdv_decides (condOk : CondOk) :
    ∀ (l : List (String × List AdvRuleFile)) (acc : List (String × List (String × String))),
      (convertAdv condOk l acc).Decides (l.all fun pr => pr.2.all (docAdvRule condOk))
  | [], acc => .ok acc
  | (_, rules) :: rest, _ => (convertAdvRules_decides condOk rules []).bind fun _ _ => convertAdv_decides condOk rest _

abbrev Key := (Bool × String) × (Bool × String)

-- `none` in front: one `Nodup` then says both that every key is `some` and that the keys differ pairwise
theorem nodupKeys_iff (ks : List (Option Key)) : nodupKeys ks = true ↔ (none :: ks).Nodup := by
  induction ks with
  | nil => exact iff_of_true rfl (List.pairwise_singleton ..)
  | cons x xs ih =>
    rw [(List.Perm.swap x none xs).nodup_iff, List.nodup_cons, ← ih, List.mem_cons, nodupKeys, Bool.and_eq_true,
      Bool.and_eq_true, Bool.not_eq_true', List.contains_eq_mem, decide_eq_false_iff_not, not_or, Option.isSome_iff_ne_none]

/-- does `Insert` refuse the key: `pathKey` rejected the path (`none`, as `ruleKeys` lists it), or the key is stored -/
def refused (t : RuleTree) : Option Key → Bool
  | none => true
  | some k => treeHas t k

theorem refused_concat (t : RuleTree) (k : Key) (cl : String) :
    refused (t ++ [(k, cl)]) = fun x => refused t x || x == some k := by
  funext x
  cases x with
  | none => rfl
  | some x => simp [refused, treeHas, BEq.comm (a := k)]

theorem nodupKeys_eq (ks : List (Option Key)) : nodupKeys ks = fresh (refused []) ks := by
  rw [Bool.eq_iff_iff, nodupKeys_iff, fresh_iff, List.nodup_cons]
  refine and_congr_left' ⟨fun h k hk => ?_, fun h hn => nomatch h _ hn⟩
  cases k with
  | none => exact absurd hk h
  | some k => rfl

/-! The postcondition of each level of `Insert` (what the tree returned refuses) is what the acceptance of the next
  insertion depends on. -/
theorem insertPaths_decides (hk : Bool × String) (cl : String) (ps : List String) (t : RuleTree) :
    (insertPaths hk cl ps t).Decides (fresh (refused t) (ps.map fun p => (pathKey p).map fun pk => (hk, pk)))
      fun t' => refused t' = fun x => refused t x || (ps.map fun p => (pathKey p).map fun pk => (hk, pk)).contains x := by
  induction ps generalizing t with
  | nil => exact .ok_post (funext fun x => (Bool.or_false _).symm)
  | cons p ps ih =>
    rw [insertPaths, List.map_cons, fresh]
    cases pathKey p with
    | none => exact .err
    | some pk =>
      have ih := ih (t ++ [((hk, pk), cl)])
      simp only [refused_concat, Bool.or_assoc, ← List.contains_cons] at ih
      exact (Res.Decides.ite_err ih).congr (by rw [Bool.decide_eq_true]; rfl)

theorem insertHosts_decides (paths : List String) (cl : String) (hs : List String) (t : RuleTree) :
    (insertHosts paths cl hs t).Decides
      (hs.all (· != "") && fresh (refused t) (hs.flatMap fun h => paths.map fun p => (pathKey p).map fun pk => (hostKey h, pk)))
      fun t' => refused t' = fun x => refused t x ||
        (hs.flatMap fun h => paths.map fun p => (pathKey p).map fun pk => (hostKey h, pk)).contains x := by
  induction hs generalizing t with
  | nil => exact .ok_post (funext fun x => (Bool.or_false _).symm)
  | cons h hs ih =>
    have key : ∀ p q r s : Bool, (!p && (q && (r && s))) = (!p && r && (q && s)) := by decide
    have h1 := insertPaths_decides (hostKey h) cl paths t
    rw [insertHosts, List.flatMap_cons, fresh_append, List.all_cons, bne]
    refine (Res.Decides.ite_err (h1.bind fun t' ht' => ?_)).congr (by rw [Bool.decide_eq_true]; exact key ..)
    have ih := ih t'
    simp only [h1.post t' ht', Bool.or_assoc, ← List.contains_append] at ih
    exact ih

theorem hostPatternOk_ne {h : String} (hp : hostPatternOk h = true) : h ≠ "" := by
  unfold hostPatternOk at hp
  simp only [Bool.and_eq_true, bne_iff_ne, ne_eq] at hp
  exact hp.1.1

theorem defaultedHosts_ne_empty (r : BasicRuleFile) (h : r.hostname.all hostPatternOk = true) :
    (if r.hostname.isEmpty then ["*"] else r.hostname).all (· != "") = true := by
  split
  · decide
  · exact List.all_eq_true.mpr fun x hx => bne_iff_ne.mpr (hostPatternOk_ne (List.all_eq_true.mp h x hx))

theorem convertBasicRules_decides (rs : List BasicRuleFile) (t : RuleTree) (acc : List BasicRule) :
    (convertBasicRules rs t acc).Decides (rs.all docBasicRule && fresh (refused t) (rs.flatMap ruleKeys))
      fun res => refused res.1 = fun x => refused t x || (rs.flatMap ruleKeys).contains x := by
  induction rs generalizing t acc with
  | nil => exact .ok_post (funext fun x => (Bool.or_false _).symm)
  | cons r rs ih =>
    -- e: neither host nor path; H, P: the pattern tests; N: no host pattern is empty (`Insert` tests it again);
    -- F, G: the keys of `r`, of `rs` are accepted; D: `rs` is as documented
    have key : ∀ e H P N F D G : Bool, (H = true → N = true) →
        (!e && (!!H && (!!P && (N && F && (D && G))))) = (true && !e && H && P && D && (F && G)) := by decide +kernel
    rw [convertBasicRules, List.flatMap_cons, fresh_append, List.all_cons, docBasicRule]
    cases hc : r.clusterName with
    | none => exact .err
    | some cn =>
      dsimp only [deref_some, Res.ok_bind]
      have h1 := insertHosts_decides (if r.path.isEmpty then ["*"] else r.path) cn
        (if r.hostname.isEmpty then ["*"] else r.hostname) t
      refine (Res.Decides.ite_err (.ite_err (.ite_err (h1.bind fun t' ht' => ?_)))).congr
        (by simp only [Bool.decide_eq_true]; exact key _ _ _ _ _ _ _ (defaultedHosts_ne_empty r))
      have ih := ih t' (acc ++ [{ hostname := r.hostname, path := r.path, clusterName := cn }])
      simp only [h1.post t' ht', Bool.or_assoc, ← List.contains_append] at ih
      exact ih

theorem convertBasic_decides :
    ∀ (l : List (String × List BasicRuleFile)) (acc : List (String × (RuleTree × List BasicRule))),
      (convertBasic l acc).Decides (l.all fun pr => pr.2.all docBasicRule && nodupKeys (pr.2.flatMap ruleKeys))
  | [], acc => .ok acc
  | (_, rules) :: rest, _ =>
    ((convertBasicRules_decides rules [] []).congr (congrArg _ (nodupKeys_eq _).symm)).bind fun _ _ => convertBasic_decides rest _

theorem routeLoad_eq (condOk : CondOk) (f : RouteFile) : routeLoad condOk f =
    if f.version.isSome && (f.basic.isSome || f.adv.isSome) then
      (convertBasic (f.basic.getD []) []).bind fun bm =>
        (convertAdv condOk (f.adv.getD []) []).bind fun am => .ok { basic := bm, adv := am }
    else .err := by
  obtain ⟨_ | v, _ | b, _ | a⟩ := f <;> rfl

theorem routeLoad_decides (condOk : CondOk) (f : RouteFile) : (routeLoad condOk f).Decides (docRoute condOk f) := by
  rw [routeLoad_eq, docRoute, Bool.and_assoc]
  cases f.version.isSome && (f.basic.isSome || f.adv.isSome)
  · exact .err
  · exact (convertBasic_decides _ []).bind fun bm _ => (convertAdv_decides condOk _ []).bind_ok _

/-! ### cluster_conf.data

  Each check is walked once, `.ite_err (.bind …)` mirroring its body; the formula read off is identified with the
  documented one by a Boolean tautology in the tests the code makes. -/
theorem backendBasicCheck_decides (c : BackendBasic) : (backendBasicCheck c).Decides (docBackendBasic c) := by
  -- unfolded first: left to unify `if … then .ok _ else .err` with `backendBasicCheck c`, Lean evaluates the strings
  unfold backendBasicCheck
  dsimp only [deref_some, Res.ok_bind]
  refine (Res.Decides.of_bool _ _).congr ?_
  unfold docBackendBasic
  cases c.protocol with
  | none => decide +kernel
  | some p => rfl

theorem backendCheckCheck_decides (c : BackendCheck) : (backendCheckCheck c).Decides (docBackendCheck c) := by
  -- p, q: Schem is "http", "tcp"; a, b: the Uri and StatusCode tests; n: SuccNum < 1
  have key : ∀ p q a b n : Bool,
      (!(!p && !q) && ((if p then a && b else true) && !n)) = ((p || q) && (!p || a && b) && !n) := by decide
  have h : (backendCheckCheck c).Decides _ :=
    .ite_err (.bind (.ite (.ite_err (failIf_decides _)) (.ok ())) fun _ _ => .ite_err (.ok _))
  refine h.congr ?_
  simp only [docBackendCheck, bne, Bool.decide_eq_true, Bool.and_true, Bool.not_not, ge_iff_le, ← Int.not_lt, decide_not]
  exact key ..

theorem hashConfCheck_decides : ∀ c : HashConf, (hashConfCheck c).Decides (docHashConf c)
  | ⟨st, hdr⟩ => by
    -- eᵢ: HashStrategy is i; hb: the HashHeader test of strategies 0 and 2
    have key : ∀ e0 e1 e2 e3 hb : Bool, (!(!e0 && !e1 && !e2 && !e3) && (if (e0 || e2) then hb else true)) =
        ((e0 || e1 || e2 || e3) && (!(e0 || e2) || hb)) := by decide
    unfold hashConfCheck docHashConf
    cases hdr with
    | none =>
      refine Res.Decides.congr (.ite_err (.ite .err (.ok _))) ?_
      simp only [bne, Bool.decide_eq_true]
      exact key ..
    | some h =>
      dsimp only [deref_some, Res.ok_bind]
      cases getCookieKey h with
      | none =>
        refine Res.Decides.congr (.ite_err (.ite (.ite_err (.ok _)) (.ok _))) ?_
        simp only [bne, Bool.decide_eq_true, Bool.and_true]
        exact key ..
      | some k =>
        refine Res.Decides.congr (.ite_err (.ite (.ite_err (.ite_err (.ok _))) (.ok _))) ?_
        simp only [bne, Bool.decide_eq_true, Bool.and_true]
        exact key ..

theorem gslbBasicCheck_decides (c : GslbBasic) : (gslbBasicCheck c).Decides (docGslbBasic c) := by
  unfold gslbBasicCheck docGslbBasic
  dsimp only [deref_some, Res.ok_bind]
  exact (hashConfCheck_decides _).bind fun _ _ => .of_bool _ _

theorem clusterConfCheck_decides (c : ClusterConf) :
    (clusterConfCheck c).Decides (docClusterConf c) fun c' => basicInit c' = .ok () :=
  ((backendBasicCheck_decides _).bind fun _ _ => (backendCheckCheck_decides _).bind fun _ _ =>
    (gslbBasicCheck_decides _).bind fun _ _ => .ok_post (by rfl)).congr (by rw [Bool.and_true, ← Bool.and_assoc]; rfl)

theorem clusterToConfCheck_decides : ∀ l : List (String × ClusterConf),
    (clusterToConfCheck l).Decides (l.all fun kv => docClusterConf kv.2)
      fun l' => l'.map (·.1) = l.map (·.1) ∧ forAllM (fun kv => basicInit kv.2) l' = .ok ()
  | [] => .ok_post ⟨rfl, rfl⟩
  | (n, c) :: rest => by
    have hc := clusterConfCheck_decides c
    have ih := clusterToConfCheck_decides rest
    rw [clusterToConfCheck, List.all_cons]
    refine hc.bind fun c' hc' => (ih.bind fun rest' hr => .ok_post ?_).congr (Bool.and_true _)
    exact ⟨congrArg (n :: ·) (ih.post _ hr).1, by rw [forAllM, hc.post _ hc']; exact (ih.post _ hr).2⟩

theorem clusterToConfCheck_names :
    ∀ (l l' : List (String × ClusterConf)), clusterToConfCheck l = .ok l' → l'.map (·.1) = l.map (·.1) :=
  fun l l' h => ((clusterToConfCheck_decides l).post l' h).1

theorem ccLoad_some (v : String) (cfg : List (String × ClusterConf)) :
    ccLoad (some { version := some v, config := some cfg }) =
      (clusterToConfCheck cfg).bind fun cfg' => .ok (cfg'.map (·.1)) := by
  show (clusterToConfCheck cfg).bind _ = _
  exact Res.bind_congr fun cfg' h => by rw [((clusterToConfCheck_decides cfg).post cfg' h).2]; rfl

theorem ccLoad_decides : ∀ f : Option ClusterFile, (ccLoad f).Decides (docCluster f)
  | some ⟨some v, some cfg⟩ => by rw [ccLoad_some]; exact (clusterToConfCheck_decides cfg).bind_ok _
  | none | some ⟨none, _⟩ | some ⟨some _, none⟩ => .err

theorem backendConfCheck_eq : ∀ b : Option Backend, backendConfCheck b = if docBackend b then .ok () else .err
  | none => rfl
  | some ⟨n, a, p, w⟩ => by cases n <;> cases a <;> cases p <;> cases w <;> rfl

theorem subClusterLoop_eq : ∀ (l : List (Option Backend)) (a : Bool),
    subClusterLoop l a = if l.all docBackend then .ok (a || l.any posWeight) else .err
  | [], a => by simp [subClusterLoop]
  | b :: rest, a => by
    rw [subClusterLoop, backendConfCheck_eq, List.all_cons, List.any_cons]
    match b with
    | some ⟨some _, some _, some _, some w⟩ =>
      show subClusterLoop rest (a || decide (w > 0)) = if (true && rest.all docBackend) = true
        then .ok (a || (decide (w > 0) || rest.any posWeight)) else .err
      rw [subClusterLoop_eq rest, Bool.or_assoc, Bool.true_and]
    | none | some ⟨none, _, _, _⟩ | some ⟨some _, none, _, _⟩ | some ⟨some _, some _, none, _⟩
    | some ⟨some _, some _, some _, none⟩ => rfl

theorem subClusterCheck_eq (l : List (Option Backend)) :
    subClusterCheck l = if l.all docBackend && l.any posWeight then .ok () else .err := by
  rw [subClusterCheck, subClusterLoop_eq]
  cases l.all docBackend <;> cases l.any posWeight <;> rfl

theorem subClusterCheck_decides (l : List (Option Backend)) :
    (subClusterCheck l).Decides (l.all docBackend && l.any posWeight) := by
  rw [subClusterCheck_eq]
  exact .of_bool _ ()

theorem ctLoad_decides : ∀ f : CtFile, (ctLoad f).Decides (docCt f)
  | ⟨some _, some cfg⟩ =>
    (forAllM_decides cfg fun _ _ => forAllM_decides _ fun sv _ => subClusterCheck_decides sv.2).bind_ok _
  | ⟨none, _⟩ | ⟨some _, none⟩ => .err

theorem gslbLoad_decides : ∀ f : GslbFile, (gslbLoad f).Decides (docGslb f)
  | ⟨some cs, some _, some _⟩ =>
    have h (t : Int) : (failIf (t ≤ 0)).Decides (t > 0) :=
      (decide_not.symm.trans (decide_eq_decide.mpr Int.not_le)) ▸ failIf_decides _
    (forAllM_decides cs fun kv _ => h (gslbTotal kv.2 0)).bind_ok _
  -- `hostname`, `ts` are variables here: `docGslb` is `_ && _ && false`
  | ⟨none, _, _⟩ => Res.Decides.err.congr (Bool.and_false _).symm
  | ⟨some _, none, _⟩ | ⟨some _, some _, none⟩ => .err

theorem gslbLoad_ok_clusters : ∀ {g : GslbFile} {n : Nat}, gslbLoad g = .ok n → g.clusters.isSome = true
  | ⟨some _, _, _⟩, _, _ => rfl
  | ⟨none, _, _⟩, _, h => nomatch h

theorem ctLoad_ok_config : ∀ {c : CtFile} {n : Nat}, ctLoad c = .ok n → c.config.isSome = true
  | ⟨_, some _⟩, _, _ => rfl
  | ⟨none, none⟩, _, h | ⟨some _, none⟩, _, h => nomatch h

theorem xcheck_decides (s : ServerData) : (xcheck s).Decides (closedB s) := by
  have h : (xcheck s).Decides _ :=
    (forAllM_decides _ fun _ _ => failIf_decides _).bind fun _ _ =>
    (forAllM_decides _ fun _ _ => failIf_decides _).bind fun _ _ =>
    (forAllM_decides _ fun _ _ => failIf_decides _).bind fun _ _ =>
    forAllM_decides _ fun _ _ => .ite (.ok ()) (failIf_decides _)
  refine h.congr ?_
  simp only [closedB, ServerData.routeProducts, List.all_append, Bool.not_not, Bool.and_assoc, Bool.if_true_left,
    Bool.decide_eq_true]

/-- `C13_no_crash` and `C13_closed` are its two halves -/
def Outcome.Good : Outcome → Prop
  | .crash => False
  | .ok s => xcheck s = .ok ()
  | _ => True

theorem loadAll_good (parseIP : ParseIP) (condOk : CondOk) (hj vj rj cj : JVal) :
    (loadAll parseIP condOk hj vj rj cj).Good := by
  fun_cases loadAll parseIP condOk hj vj rj cj
  -- fifteen branches: five are panics of one stage, the last has passed `xcheck`, the others are errors
  case case3 h => exact (hostLoad_decides _).ne_crash h
  case case6 h => exact (vipLoad_decides _ _).ne_crash h
  case case9 h => exact (routeLoad_decides _ _).ne_crash h
  case case12 h => exact (ccLoad_decides _).ne_crash h
  case case14 h => exact (xcheck_decides _).ne_crash h
  case case15 h => exact h
  all_goals trivial

theorem Outcome.Good.isCrash : ∀ {o : Outcome}, o.Good → o.isCrash = false
  | .crash, h => h.elim
  | .ok _, _ | .errTable, _ | .errCluster, _ | .errXref, _ => rfl

end BfeVerif.C13
