import BfeVerif.C18.Model
/-! Everything up to `matchPrim_eq_specPrim` serves that one theorem.  After it, two parts that stand for themselves:
    "missing attribute" (for `C18_missing_false`) and `canonKey` under a change of case (for
    `C18_header_name_case_insensitive`; it rests on the case-folding lemmas far above). -/
namespace BfeVerif.C18
open BfeVerif.C17 (Bytes splitOn upper bytesLt)

/-! ### Go string comparison -/
theorem u8_lt_irrefl (a : UInt8) : ¬ a < a := UInt8.lt_irrefl a

theorem bytesLt_iff (a b : Bytes) : bytesLt a b = true ↔ a < b := by
  induction a generalizing b with
  | nil => cases b <;> simp [bytesLt]
  | cons x xs ih => cases b <;> simp [bytesLt, ih, List.cons_lt_cons_iff]

theorem bytesLt_false_iff (a b : Bytes) : bytesLt b a = false ↔ a ≤ b := by
  rw [← Bool.not_eq_true, bytesLt_iff, List.not_lt]

theorem bytesLt_irrefl (a : Bytes) : bytesLt a a = false := (bytesLt_false_iff a a).mpr (List.le_refl a)

theorem bytesLe_iff (a b : Bytes) : bytesLe a b = true ↔ a ≤ b := by
  rw [bytesLe, Bool.not_eq_true', bytesLt_false_iff]

/-! ### sort.Strings -/
/-- in the model's `bytesLt` (Go's `<` on strings), not core's `≤`: the statements about the search speak of the model only -/
def Sorted (l : List Bytes) : Prop := List.Pairwise (fun a b => bytesLt b a = false) l

theorem sorted_iff (l : List Bytes) : Sorted l ↔ l.Pairwise (· ≤ ·) := by
  simp only [Sorted, bytesLt_false_iff]

/-- so that order and permutation are core's `List.pairwise_merge` and `List.merge_perm_append` -/
theorem insertSorted_eq_merge (x : Bytes) (l : List Bytes) : insertSorted x l = List.merge [x] l bytesLe := by
  induction l with
  | nil => rw [List.merge_right]; rfl
  | cons y ys ih => rw [insertSorted, List.cons_merge_cons, List.nil_merge, ih]

theorem sortStrings_perm (l : List Bytes) : (sortStrings l).Perm l := by
  induction l with
  | nil => exact .nil
  | cons x xs ih =>
    rw [sortStrings, insertSorted_eq_merge]
    exact (List.merge_perm_append bytesLe).trans (ih.cons x)

theorem sorted_insert (x : Bytes) (l : List Bytes) (h : Sorted l) : Sorted (insertSorted x l) := by
  simp only [sorted_iff, ← bytesLe_iff, insertSorted_eq_merge] at h ⊢
  refine List.pairwise_merge (fun a b c => ?_) (fun a b => ?_) _ _ (List.pairwise_singleton _ _) h
  · simp only [bytesLe_iff]; exact List.le_trans
  · simp only [Bool.or_eq_true, bytesLe_iff]; exact List.le_total a b

theorem sorted_sortStrings (l : List Bytes) : Sorted (sortStrings l) := by
  induction l with
  | nil => exact List.Pairwise.nil
  | cons x xs ih => exact sorted_insert x _ ih

/-! ### sort.SearchStrings -/
theorem sorted_getD {a : List Bytes} (h : a.Pairwise (· ≤ ·)) {p q : Nat} (hpq : p ≤ q) (hq : q < a.length) :
    a.getD p [] ≤ a.getD q [] := by
  rcases Nat.lt_or_eq_of_le hpq with hlt | rfl
  · rw [← List.getElem_eq_getD (h := hq), ← List.getElem_eq_getD (h := Nat.lt_trans hlt hq)]
    exact List.pairwise_iff_getElem.mp h p q _ hq hlt
  · exact List.le_refl _

/-- loop invariant: everything left of `i` is below `x`, nothing from `j` on is -/
theorem searchLoop_spec (a : List Bytes) (x : Bytes) (hs : a.Pairwise (· ≤ ·)) (fuel i j : Nat)
    (hij : i ≤ j) (hj : j ≤ a.length) (hf : j - i ≤ fuel)
    (hlo : ∀ k, k < i → a.getD k [] < x) (hhi : ∀ k, j ≤ k → k < a.length → x ≤ a.getD k []) :
    (∀ k, k < searchLoop a x fuel i j → a.getD k [] < x) ∧
    (∀ k, searchLoop a x fuel i j ≤ k → k < a.length → x ≤ a.getD k []) ∧
    searchLoop a x fuel i j ≤ a.length := by
  fun_induction searchLoop a x fuel i j with
  | case1 i j => exact ⟨hlo, (by omega : i = j) ▸ hhi, by omega⟩
  | case2 fuel i j hlt h hc ih =>
    rw [bytesLt_iff] at hc
    exact ih (by omega) hj (by omega) (fun k hk => List.lt_of_le_of_lt (sorted_getD hs (by omega) (by omega)) hc) hhi
  | case3 fuel i j hlt h hc ih =>
    rw [Bool.not_eq_true, bytesLt_false_iff] at hc
    exact ih (by omega) (by omega) (by omega) hlo fun k hk1 hk2 => List.le_trans hc (sorted_getD hs hk1 hk2)
  | case4 fuel i j hlt => exact ⟨hlo, (by omega : i = j) ▸ hhi, by omega⟩

theorem searchStrings_spec (a : List Bytes) (x : Bytes) (hs : a.Pairwise (· ≤ ·)) :
    (∀ k, k < searchStrings a x → a.getD k [] < x) ∧
    (∀ k, searchStrings a x ≤ k → k < a.length → x ≤ a.getD k []) ∧ searchStrings a x ≤ a.length :=
  searchLoop_spec a x hs _ 0 a.length (Nat.zero_le _) (Nat.le_refl _) (Nat.le_succ _)
    (fun _ hk => absurd hk (Nat.not_lt_zero _)) (fun _ h1 h2 => absurd h2 (Nat.not_lt.mpr h1))

theorem inSorted_iff_mem (a : List Bytes) (v : Bytes) (hs : Sorted a) : inSorted v a = true ↔ v ∈ a := by
  rw [sorted_iff] at hs
  obtain ⟨hlo, hhi, hlen⟩ := searchStrings_spec a v hs
  unfold inSorted
  simp only [Bool.and_eq_true, decide_eq_true_eq, beq_iff_eq]
  generalize searchStrings a v = n at *
  constructor
  · rintro ⟨hl, rfl⟩
    rw [← List.getElem_eq_getD (h := hl)]; exact List.getElem_mem hl
  · intro hm
    obtain ⟨k, hk, rfl⟩ := List.mem_iff_getElem.mp hm
    have hkd := List.getElem_eq_getD (h := hk) []
    -- k is not left of n (a[k] < a[k] is absurd), so n < length and a[k] ≤ a[n] ≤ a[k]
    have hge : n ≤ k := Nat.le_of_not_lt fun h => List.lt_irrefl _ (hkd ▸ hlo k h)
    have hl : n < a.length := by omega
    exact ⟨hl, List.le_antisymm (hkd ▸ sorted_getD hs hge hk) (hhi n (Nat.le_refl n) hl)⟩

/-! ### case folding -/
def up1 (b : UInt8) : UInt8 := if 97 ≤ b && b ≤ 122 then b - 32 else b

theorem upper_eq_map : upper = List.map up1 := by
  funext s; simp [upper, up1]

theorem lower1_toNat (b : UInt8) :
    (lower1 b).toNat = if 65 ≤ b.toNat ∧ b.toNat ≤ 90 then b.toNat + 32 else b.toNat := by
  unfold lower1
  simp only [Bool.and_eq_true, decide_eq_true_eq, UInt8.le_iff_toNat_le, UInt8.toNat_ofNat]
  split
  · rw [UInt8.toNat_add]; simp; omega
  · rfl

theorem up1_toNat (b : UInt8) :
    (up1 b).toNat = if 97 ≤ b.toNat ∧ b.toNat ≤ 122 then b.toNat - 32 else b.toNat := by
  unfold up1
  simp only [Bool.and_eq_true, decide_eq_true_eq, UInt8.le_iff_toNat_le, UInt8.toNat_ofNat]
  split
  · rw [UInt8.toNat_sub_of_le _ _ (by rw [UInt8.le_iff_toNat_le]; simp; omega)]; simp
  · rfl

theorem lower_up (a : UInt8) : lower1 (up1 a) = lower1 a := by
  rw [← UInt8.toNat_inj, lower1_toNat, lower1_toNat, up1_toNat]
  repeat' split
  all_goals omega

theorem up_lower (a : UInt8) : up1 (lower1 a) = up1 a := by
  rw [← UInt8.toNat_inj, up1_toNat, up1_toNat, lower1_toNat]
  repeat' split
  all_goals omega

theorem up1_eq_iff_lower1 (a b : UInt8) : (up1 a = up1 b) ↔ (lower1 a = lower1 b) := by
  constructor
  · intro h; rw [← lower_up a, ← lower_up b, h]
  · intro h; rw [← up_lower a, ← up_lower b, h]

def fold1 (f : Bool) (b : UInt8) : UInt8 := if f then up1 b else b

theorem upperIf_eq_map (f : Bool) : upperIf f = List.map (fold1 f) := by
  funext s; cases f
  · exact (List.map_id s).symm
  · simp [upperIf, fold1, upper_eq_map]

theorem eqv_iff (fold : Bool) (a b : Bytes) : eqv fold a b = true ↔ upperIf fold a = upperIf fold b := by
  rw [upperIf_eq_map]
  induction a generalizing b with
  | nil => cases b <;> simp [eqv]
  | cons x xs ih =>
    cases b with
    | nil => simp [eqv]
    | cons y ys => cases fold <;> simp [eqv, ih ys, fold1, up1_eq_iff_lower1]

theorem eqv_eq (fold : Bool) (a b : Bytes) : eqv fold a b = (upperIf fold a == upperIf fold b) := by
  rw [Bool.eq_iff_iff, eqv_iff]; simp

theorem hasPrefix_fold (f : Bool) (v p : Bytes) :
    hasPrefix (upperIf f v) (upperIf f p) = (decide (p.length ≤ v.length) && eqv f p (v.take p.length)) := by
  unfold hasPrefix
  rw [eqv_eq, upperIf_eq_map, List.length_map, List.length_map, List.map_take, BEq.comm]

theorem hasSuffix_fold (f : Bool) (v p : Bytes) :
    hasSuffix (upperIf f v) (upperIf f p) =
      (decide (p.length ≤ v.length) && eqv f p (v.drop (v.length - p.length))) := by
  unfold hasSuffix
  rw [eqv_eq, upperIf_eq_map, List.length_map, List.length_map, List.map_drop, BEq.comm]

theorem containsB_fold (f : Bool) (v p : Bytes) :
    containsB (upperIf f v) (upperIf f p) =
      (List.range (v.length + 1)).any (fun i =>
        decide (i + p.length ≤ v.length) && eqv f p ((v.drop i).take p.length)) := by
  unfold containsB
  simp only [eqv_eq, upperIf_eq_map, List.length_map, List.map_take, List.map_drop]
  congr 1; funext i; rw [BEq.comm]

/-! ### matchers -/
theorem inMWith_eq_spec (sort : List Bytes → List Bytes)
    (hsorted : ∀ l, Sorted (sort l)) (hmem : ∀ l v, v ∈ sort l ↔ v ∈ l)
    (ps : Bytes) (fold : Bool) (v : Bytes) : inMWith sort ps fold v = specIn ps fold v := by
  unfold inMWith specIn patterns
  rw [Bool.eq_iff_iff, inSorted_iff_mem _ _ (hsorted _), hmem]
  simp only [List.mem_map, List.any_eq_true, eqv_iff]

theorem inM_eq_spec (ps : Bytes) (fold : Bool) : inM ps fold = specIn ps fold :=
  funext (inMWith_eq_spec sortStrings sorted_sortStrings (fun l _ => (sortStrings_perm l).mem_iff) ps fold)

theorem prefixM_eq_spec (ps : Bytes) (fold : Bool) : prefixM ps fold = specPrefix ps fold := by
  funext v; simp only [prefixM, specPrefix, patterns, List.any_map, Function.comp_def, hasPrefix_fold]

theorem suffixM_eq_spec (ps : Bytes) (fold : Bool) : suffixM ps fold = specSuffix ps fold := by
  funext v; simp only [suffixM, specSuffix, patterns, List.any_map, Function.comp_def, hasSuffix_fold]

theorem containM_eq_spec (ps : Bytes) (fold : Bool) : containM ps fold = specContain ps fold := by
  funext v; simp only [containM, specContain, patterns, List.any_map, Function.comp_def, containsB_fold]

theorem hasSuffix_singleton (s : Bytes) (c : UInt8) : hasSuffix s [c] = (s.getLast? == some c) := by
  rw [Bool.eq_iff_iff]
  simp only [hasSuffix, List.length_cons, List.length_nil, Bool.and_eq_true, decide_eq_true_eq, beq_iff_eq]
  rw [List.getLast?_eq_some_iff]
  constructor
  · rintro ⟨hl, hd⟩
    refine ⟨s.take (s.length - 1), ?_⟩
    rw [← hd, List.take_append_drop]
  · rintro ⟨ys, rfl⟩
    simp

theorem addSlash_eq_norm (s : Bytes) : addSlash s = norm s := by
  unfold addSlash norm; rw [hasSuffix_singleton]

theorem pathElemM_eq_spec (ps : Bytes) (fold : Bool) : pathElemM ps fold = specPathElem ps fold := by
  funext v
  simp only [pathElemM, specPathElem, patterns, List.any_map, Function.comp_def, hasPrefix_fold, addSlash_eq_norm]

theorem exactM_eq_eqv (p v : Bytes) : exactM p v = eqv true p v := by
  rw [eqv_eq]; simp [exactM, upperIf, BEq.comm]

/-! ### fetchers -/
theorem assoc_isSome (k : Bytes) (l : List (Bytes × Bytes)) :
    (assoc k l).isSome = l.any (fun kv => kv.1 == k) := by
  fun_induction assoc k l with
  | case1 => rfl
  | case2 a v rest h => simp [h]
  | case3 a v rest h ih => simp [h, ih]

theorem assoc_some_mem {k v : Bytes} {l : List (Bytes × Bytes)} (h : assoc k l = some v) : (k, v) ∈ l := by
  fun_induction assoc k l with
  | case1 => cases h
  | case2 a w rest hk => cases h; rw [← beq_iff_eq.mp hk]; exact List.mem_cons_self
  | case3 a w rest hk ih => exact List.mem_cons_of_mem _ (ih h)

theorem headerGet_ne_nil (hs : List (Bytes × Bytes)) (hne : ∀ kv ∈ hs, kv.2 ≠ []) (k : Bytes) :
    (headerGet hs k != []) = hs.any (fun kv => kv.1 == canonKey k) := by
  rw [← assoc_isSome]
  unfold headerGet
  cases h : assoc (canonKey k) hs with
  | none => simp
  | some v =>
    have := hne _ (assoc_some_mem h)
    simp [this]

theorem any_comm {α β : Type} (l1 : List α) (l2 : List β) (p : α → β → Bool) :
    l1.any (fun a => l2.any (fun b => p a b)) = l2.any (fun b => l1.any (fun a => p a b)) := by
  rw [Bool.eq_iff_iff]
  simp only [List.any_eq_true]
  constructor
  · rintro ⟨a, ha, b, hb, h⟩; exact ⟨b, hb, a, ha, h⟩
  · rintro ⟨b, hb, a, ha, h⟩; exact ⟨a, ha, b, hb, h⟩

theorem splitOn_head (sep : UInt8) (s : Bytes) :
    (splitOn sep s).head? = some (s.takeWhile (· != sep)) := by
  fun_induction splitOn sep s with
  | case1 => rfl
  | case2 c rest h ih => rw [h] at ih; cases ih
  | case3 c rest h t hs hc ih => rw [beq_iff_eq] at hc; simp [hc]
  | case4 c rest h t hs hc ih =>
    rw [hs, List.head?_cons, Option.some.injEq] at ih; rw [beq_iff_eq] at hc
    simp [hc, ih]

theorem specHostPort_plain (h : Bytes) (hh : h.head? ≠ some 91) :
    specHostPort h = (h.takeWhile (· != 58), match h.dropWhile (· != 58) with | 58 :: p => some p | _ => none) := by
  unfold specHostPort
  split
  · exact absurd rfl hh
  · rfl

theorem specHostPort_fst (h : Bytes) (hh : h.head? ≠ some 91) : (specHostPort h).1 = hostOf h := by
  rw [specHostPort_plain h hh]; rfl

theorem specHostPort_snd_getD (h : Bytes) (h1 : h.head? ≠ some 91) (h2 : h.head? ≠ some 58) :
    (specHostPort h).2.getD [56, 48] = portOf h := by
  rw [specHostPort_plain h h1]; unfold portOf
  -- h = t ++ d with d empty or starting with the first ':'
  have hd := fun w => List.head_dropWhile_not (· != 58) (l := h) w
  have happ := List.takeWhile_append_dropWhile (p := (· != 58)) (l := h)
  generalize h.takeWhile (· != 58) = t at *
  generalize h.dropWhile (· != 58) = d at *
  subst happ
  cases d with
  | nil => simp
  | cons c p =>
    have hc : c = 58 := by simpa using hd (by simp)
    have ht : 0 < t.length := List.length_pos_iff.mpr (by rintro rfl; exact h2 (by rw [hc]; rfl))
    simp [hc, ht]

theorem onStr_str (v : Bytes) (m : Bytes → Bool) : onStr (.str v) m = m v := rfl

theorem onStr_getD {a : Option Bytes} (h : a.isSome) (m : Bytes → Bool) : onStr (.str (a.getD [])) m = attr a m := by
  cases a with
  | none => cases h
  | some v => rfl

theorem some_onStr_getD {a : Option Bytes} (h : a.isSome) {m m' : Bytes → Bool} (hm : m = m') :
    some (onStr (.str (a.getD [])) m) = some (attr a m') := by
  rw [hm, onStr_getD h]

theorem onStr_cookie (r : Req) (k : Bytes) (m : Bytes → Bool) : onStr (cookieF r k) m = attr (assoc k r.cookies) m := by
  unfold cookieF; cases assoc k r.cookies <;> rfl

theorem onStr_rhdrF (r : Req) (k : Bytes) (h : ∀ p, r.resp = some p → (assoc (canonKey k) p.headers).isSome)
    (m : Bytes → Bool) : onStr (rhdrF r k) m = attr (sRh r k) m := by
  unfold rhdrF sRh
  cases hr : r.resp with
  | none => rfl
  | some p => exact onStr_getD (h p hr) m

theorem onStr_tls (r : Req) (F : Tls → Fetched) (G : Tls → Option Bytes) (m : Bytes → Bool)
    (hFG : ∀ t, onStr (F t) m = attr (G t) m) :
    onStr (match r.secure, r.tls with | true, some t => F t | _, _ => .err) m = attr ((specTls r).bind G) m := by
  unfold specTls
  cases r.tls with
  | none => cases r.secure <;> rfl
  | some t =>
    cases r.secure with
    | false => rfl
    | true => exact hFG t

theorem onStr_sniOf (r : Req) (m : Bytes → Bool) :
    onStr (sniOf r) m = attr ((specTls r).bind fun t => if t.sni.isEmpty then none else some t.sni) m :=
  onStr_tls r _ _ m fun t => by cases t.sni.isEmpty <;> rfl

theorem onStr_caOf (r : Req) (m : Bytes → Bool) :
    onStr (caOf r) m =
      attr ((specTls r).bind fun t => if t.clientAuth && !t.ca.isEmpty then some t.ca else none) m :=
  onStr_tls r _ _ m fun t => by cases t.clientAuth <;> cases t.ca.isEmpty <;> rfl

theorem onStr_ctxOf (r : Req) (k : Bytes) (m : Bytes → Bool) :
    onStr (ctxOf r k) m =
      match r.ctx with
      | some c => !k.isEmpty && (match c.find? (fun e => e.1 == k) with
          | some (_, some v) => m v
          | _ => false)
      | none => false := by
  unfold ctxOf
  cases r.ctx with
  | none => rfl
  | some c =>
    cases k.isEmpty with
    | true => rfl
    | false =>
      dsimp only [Bool.false_eq_true, if_false, Bool.not_false, Bool.true_and]
      cases c.find? (fun e => e.1 == k) with
      | none => rfl
      | some e =>
        obtain ⟨_, _ | v⟩ := e <;> rfl

theorem mRe_eq_sRe (o : Orc) (p : Bytes) {f : Fetched} {a : Option Bytes} (h : ∀ m, onStr f m = attr a m) :
    mRe o p f = sRe o p a := by
  unfold mRe sRe; rw [h]

theorem mHash_eq_specHash (o : Orc) (p : Bytes) (ins : Bool) {f : Fetched} {a : Option Bytes}
    (h : ∀ m, onStr f m = attr a m) : mHash o p ins f = specHash o p ins a := by
  unfold mHash specHash
  cases hashSections p with
  | none => rfl
  | some secs => exact congrArg some (h _)

theorem mIpRange_eq_specIpRange (o : Orc) (a0 a1 : Bytes) (ip : Option Bytes) : mIpRange o a0 a1 ip = specIpRange o a0 a1 ip := by
  unfold mIpRange specIpRange
  cases o.x.parseIP a0 <;> cases o.x.parseIP a1 <;> rfl

theorem ipFetch_eq_attr (ip : Option Bytes) (m : Bytes → Bool) : ipFetch ip m = attr ip m := by
  cases ip <;> rfl

/-! ### model = documented meaning -/
def unconditional : List String := ["default_t", "req_cip_trusted", "req_proto_secure", "req_proto_match", "req_host_tag_in", "req_method_in", "req_path_in", "req_path_prefix_in", "req_path_suffix_in", "req_path_contain", "req_path_element_prefix_in", "req_path_regmatch", "req_url_regmatch", "req_query_exist", "req_query_key_in", "req_query_key_prefix_in", "req_cookie_key_in", "req_cookie_value_in", "req_cookie_value_prefix_in", "req_cookie_value_suffix_in", "req_cookie_value_contain", "req_cookie_value_hash_in", "req_tag_match", "req_context_value_in", "req_cip_range", "req_vip_range", "ses_vip_range", "ses_sip_range", "req_cip_hash_in", "req_vip_in", "res_code_in", "ses_tls_sni_in", "ses_tls_client_auth", "ses_tls_client_ca_in", "bfe_time_range", "bfe_periodic_time_range"]

def headerValuePrims : List String := ["req_header_value_in", "req_header_value_prefix_in", "req_header_value_suffix_in", "req_header_value_contain", "req_header_value_regmatch", "req_header_value_hash_in"]
def queryValuePrims : List String := ["req_query_value_in", "req_query_value_prefix_in", "req_query_value_suffix_in", "req_query_value_contain", "req_query_value_regmatch", "req_query_value_hash_in"]
def valuePrims : List String := headerValuePrims ++ queryValuePrims
def hostPrims : List String := ["req_host_in", "req_host_suffix_in", "req_host_regmatch", "req_port_in"]

/-- Each field is one way in which the fetchers of primitive.go differ from the documents.
    For a literal name the default proofs settle the fields that speak of other names. -/
structure Regular (prim : String) (a0 : Bytes) (r : Req) : Prop where
  /-- the host name is cut at the first ':', also inside an IPv6 literal -/
  host : prim ∈ hostPrims → r.host.head? ≠ some 91 := by simp [hostPrims]
  /-- `strings.Index(Host, ":") > 0`: a Host value that starts with ':' has port "80" -/
  port : prim = "req_port_in" → r.host.head? ≠ some 58 := by simp
  /-- `Header.Get` / `Values.Get` return "" for an absent key, and "" is then matched like a value -/
  ua : prim = "req_ua_regmatch" → (assoc (canonKey uaKey) r.headers).isSome := by simp
  query : prim ∈ queryValuePrims → (assoc a0 r.query).isSome := by simp [queryValuePrims]
  header : prim ∈ headerValuePrims → (assoc (canonKey a0) r.headers).isSome := by simp [headerValuePrims]
  resValue : prim = "res_header_value_in" → ∀ p, r.resp = some p → (assoc (canonKey a0) p.headers).isSome := by simp
  /-- presence of a header is tested by `Get(key) != ""` -/
  headerKey : prim = "req_header_key_in" → ∀ kv ∈ r.headers, kv.2 ≠ [] := by simp
  resKey : prim = "res_header_key_in" → ∀ p, r.resp = some p → ∀ kv ∈ p.headers, kv.2 ≠ [] := by simp

/-- `matchPrim` and `specPrim` dispatch by the same match on the name, so one `split` pairs the branches
    (names outside funcProtos: both sides reject). -/
theorem matchPrim_eq_specPrim (o : Orc) (prim : String) (a0 a1 : Bytes) (fold : Bool) (r : Req)
    (h : Regular prim a0 r) : matchPrim o prim a0 a1 fold r = specPrim o prim a0 a1 fold r := by
  unfold matchPrim specPrim
  split
  · rfl                                                                          -- default_t
  · rfl                                                                          -- req_cip_trusted
  · rfl                                                                          -- req_proto_secure
  · rw [exactM_eq_eqv]; rfl                                                      -- req_proto_match
  · rw [specHostPort_fst _ (h.host (by simp [hostPrims])), inM_eq_spec]; rfl     -- req_host_in
  · rw [specHostPort_fst _ (h.host (by simp [hostPrims])), suffixM_eq_spec]      -- req_host_suffix_in
  · rw [inM_eq_spec]                                                             -- req_host_tag_in
  · rw [specHostPort_fst _ (h.host (by simp [hostPrims]))]; rfl                  -- req_host_regmatch
  · rw [specHostPort_snd_getD _ (h.host (by simp [hostPrims])) (h.port rfl), inM_eq_spec]  -- req_port_in
  · rw [inM_eq_spec]                                                             -- req_method_in
  · rw [inM_eq_spec]                                                             -- req_path_in
  · rw [prefixM_eq_spec]                                                         -- req_path_prefix_in
  · rw [suffixM_eq_spec]                                                         -- req_path_suffix_in
  · rw [containM_eq_spec]                                                        -- req_path_contain
  · rw [pathElemM_eq_spec]                                                       -- req_path_element_prefix_in
  · rfl                                                                          -- req_path_regmatch
  · rfl                                                                          -- req_url_regmatch
  · exact mRe_eq_sRe o a0 (onStr_getD (h.ua rfl))                                -- req_ua_regmatch
  · cases r.query <;> rfl                                                        -- req_query_exist
  · simp only [assoc_isSome, patterns]                                           -- req_query_key_in
  · rw [any_comm]; rfl                                                           -- req_query_key_prefix_in
  · exact some_onStr_getD (h.query (by simp [queryValuePrims])) (inM_eq_spec a1 fold)  -- req_query_value_in
  · exact some_onStr_getD (h.query (by simp [queryValuePrims])) (prefixM_eq_spec a1 fold)  -- req_query_value_prefix_in
  · exact some_onStr_getD (h.query (by simp [queryValuePrims])) (suffixM_eq_spec a1 fold)  -- req_query_value_suffix_in
  · exact some_onStr_getD (h.query (by simp [queryValuePrims])) (containM_eq_spec a1 fold)  -- req_query_value_contain
  · exact mRe_eq_sRe o a1 (onStr_getD (h.query (by simp [queryValuePrims])))     -- req_query_value_regmatch
  · exact mHash_eq_specHash o a1 fold (onStr_getD (h.query (by simp [queryValuePrims])))  -- req_query_value_hash_in
  · simp only [headerGet_ne_nil _ (h.headerKey rfl), patterns]                   -- req_header_key_in
  · exact some_onStr_getD (h.header (by simp [headerValuePrims])) (inM_eq_spec a1 fold)  -- req_header_value_in
  · exact some_onStr_getD (h.header (by simp [headerValuePrims])) (prefixM_eq_spec a1 fold)  -- req_header_value_prefix_in
  · exact some_onStr_getD (h.header (by simp [headerValuePrims])) (suffixM_eq_spec a1 fold)  -- req_header_value_suffix_in
  · exact some_onStr_getD (h.header (by simp [headerValuePrims])) (containM_eq_spec a1 fold)  -- req_header_value_contain
  · exact mRe_eq_sRe o a1 (onStr_getD (h.header (by simp [headerValuePrims])))   -- req_header_value_regmatch
  · exact mHash_eq_specHash o a1 fold (onStr_getD (h.header (by simp [headerValuePrims])))  -- req_header_value_hash_in
  · simp only [assoc_isSome, patterns]                                           -- req_cookie_key_in
  · rw [inM_eq_spec, onStr_cookie]                                               -- req_cookie_value_in
  · rw [prefixM_eq_spec, onStr_cookie]                                           -- req_cookie_value_prefix_in
  · rw [suffixM_eq_spec, onStr_cookie]                                           -- req_cookie_value_suffix_in
  · rw [containM_eq_spec, onStr_cookie]                                          -- req_cookie_value_contain
  · exact mHash_eq_specHash o a1 fold (onStr_cookie r a0)                        -- req_cookie_value_hash_in
  · cases tagsOf r a0 with                                                       -- req_tag_match
    | none => rfl
    | some ts => simp [splitOn_head]
  · rw [inM_eq_spec, onStr_ctxOf]; rfl                                           -- req_context_value_in
  · exact mIpRange_eq_specIpRange o a0 a1 r.cip                                  -- req_cip_range
  · exact mIpRange_eq_specIpRange o a0 a1 r.vip                                  -- req_vip_range
  · exact mIpRange_eq_specIpRange o a0 a1 r.vip                                  -- ses_vip_range
  · exact mIpRange_eq_specIpRange o a0 a1 r.sip                                  -- ses_sip_range
  · exact mHash_eq_specHash o a0 false fun m => by cases r.cip <;> rfl           -- req_cip_hash_in
  · simp only [ipFetch_eq_attr, List.any_beq', patterns]; rfl                    -- req_vip_in
  · rw [inM_eq_spec]; cases r.resp <;> rfl                                       -- res_code_in
  · cases hr : r.resp with                                                       -- res_header_key_in
    | none => rfl
    | some p => simp [headerGet_ne_nil _ (h.resKey rfl p hr), patterns, attr]
  · rw [inM_eq_spec, onStr_rhdrF r a0 (h.resValue rfl)]                          -- res_header_value_in
  · rw [inM_eq_spec, onStr_sniOf]                                                -- ses_tls_sni_in
  · unfold specTls; cases r.secure <;> cases r.tls <;> rfl                       -- ses_tls_client_auth
  · rw [inM_eq_spec, onStr_caOf]                                                 -- ses_tls_client_ca_in
  · simp only [Bool.decide_and]                                                  -- bfe_time_range
  · simp only [clockSecs, Bool.decide_and]; rfl                                  -- bfe_periodic_time_range
  · rfl                                                                          -- any other name

def conditionalPrims : List String :=
  hostPrims ++ valuePrims ++ ["req_ua_regmatch", "res_header_value_in", "req_header_key_in", "res_header_key_in"]

theorem Regular.of_not_mem {prim : String} (h : prim ∉ conditionalPrims) (a0 : Bytes) (r : Req) : Regular prim a0 r := by
  simp only [conditionalPrims, valuePrims, List.mem_append, List.mem_cons, List.not_mem_nil, not_or, or_false] at h
  obtain ⟨⟨hh, hhv, hqv⟩, hua, hrv, hhk, hrk⟩ := h
  exact { host := fun hc => absurd hc hh, port := fun hc => absurd (hc ▸ by simp [hostPrims]) hh,
          ua := fun hc => absurd hc hua, query := fun hc => absurd hc hqv, header := fun hc => absurd hc hhv,
          resValue := fun hc => absurd hc hrv, headerKey := fun hc => absurd hc hhk, resKey := fun hc => absurd hc hrk }

theorem unconditional_not_conditional : ∀ p ∈ unconditional, p ∉ conditionalPrims := by decide +kernel

/-! `matchPrim` and `specPrim` on three primitives, each for itself: nothing rests on these six. -/
theorem mEq_default_t (o : Orc) (a0 a1 : Bytes) (fold : Bool) (r : Req) :
    matchPrim o "default_t" a0 a1 fold r = ( some true) := rfl

theorem mEq_req_cip_trusted (o : Orc) (a0 a1 : Bytes) (fold : Bool) (r : Req) :
    matchPrim o "req_cip_trusted" a0 a1 fold r = ( some r.trusted) := rfl

theorem mEq_req_proto_secure (o : Orc) (a0 a1 : Bytes) (fold : Bool) (r : Req) :
    matchPrim o "req_proto_secure" a0 a1 fold r = ( some r.secure) := rfl

theorem sEq_default_t (o : Orc) (a0 a1 : Bytes) (fold : Bool) (r : Req) :
    specPrim o "default_t" a0 a1 fold r = ( some true) := rfl

theorem sEq_req_cip_trusted (o : Orc) (a0 a1 : Bytes) (fold : Bool) (r : Req) :
    specPrim o "req_cip_trusted" a0 a1 fold r = ( some r.trusted) := rfl

theorem sEq_req_proto_secure (o : Orc) (a0 a1 : Bytes) (fold : Bool) (r : Req) :
    specPrim o "req_proto_secure" a0 a1 fold r = ( some r.secure) := rfl

/-! ### missing attribute -/
theorem onStr_err {f : Fetched} (h : f = .err) (m : Bytes → Bool) : onStr f m = false := by rw [h]; rfl

theorem mHash_err {f : Fetched} (h : f = .err) {o : Orc} {p : Bytes} {ins : Bool} : mHash o p ins f ≠ some true := by
  unfold mHash; cases hashSections p <;> simp [h, onStr]

theorem ipFetch_none {ip : Option Bytes} (h : ip = none) (m : Bytes → Bool) : ipFetch ip m = false := by rw [h]; rfl

theorem mIpRange_none {ip : Option Bytes} (h : ip = none) {o : Orc} {a0 a1 : Bytes} : mIpRange o a0 a1 ip ≠ some true := by
  unfold mIpRange
  simp only [ipFetch_none h]
  repeat' split
  all_goals simp

theorem ite_some_ne_true {c : Prop} [Decidable c] {b : Bool} (h : b = false) : (if c then some b else none) ≠ some true := by
  rw [h]; split <;> simp

theorem cookieF_none {r : Req} {k : Bytes} (h : assoc k r.cookies = none) : cookieF r k = .err := by unfold cookieF; rw [h]
theorem rhdrF_none {r : Req} (h : r.resp = none) (k : Bytes) : rhdrF r k = .err := by unfold rhdrF; rw [h]
theorem ctxOf_none {r : Req} (h : r.ctx = none) (k : Bytes) : ctxOf r k = .err := by unfold ctxOf; rw [h]

theorem tls_absent {r : Req} (h : r.secure = false ∨ r.tls = none) :
    sniOf r = .err ∧ caOf r = .err ∧ (match r.secure, r.tls with | true, some t => t.clientAuth | _, _ => false) = false := by
  unfold sniOf caOf
  rcases h with h | h
  · rw [h]; exact ⟨rfl, rfl, rfl⟩
  · rw [h]; cases r.secure <;> exact ⟨rfl, rfl, rfl⟩

/-- The two branches of `matchPrim` without a fetcher, written out: `C18_missing_false` meets them by unfolding
    `matchPrim` at the literal name (reducing that match inside a tactic proof is slow to check). -/
theorem time_range_no_clock (o : Orc) (a0 a1 : Bytes) (r : Req) (h : timeOf o r = none) :
    (match o.x.parseTime a0, o.x.parseTime a1 with
      | some s, some e =>
        if s > e then none else some (match timeOf o r with | some t => decide (s ≤ t) && decide (t ≤ e) | none => false)
      | _, _ => none) ≠ some true ∧
    (match C17.parseTimeOfDay o.x a0, C17.parseTimeOfDay o.x a1 with
      | some (some (s1, o1)), some (some (s2, o2)) =>
        if s1 > s2 then none else if o1 != o2 then none
        else some (match timeOf o r with
          | some t => decide ((s1 : Int) ≤ clockSecs t o1) && decide (clockSecs t o1 ≤ (s2 : Int))
          | none => false)
      | _, _ => none) ≠ some true := by
  rw [h]
  constructor
  · rcases o.x.parseTime a0 with _ | s <;> rcases o.x.parseTime a1 with _ | e <;> simp
  · rcases C17.parseTimeOfDay o.x a0 with _ | _ | ⟨s1, o1⟩ <;>
      rcases C17.parseTimeOfDay o.x a1 with _ | _ | ⟨s2, o2⟩ <;> simp

/-! ### Header.Get is case-insensitive -/
theorem canonLoop_cons (up : Bool) (c : UInt8) (rest : Bytes) :
    canonLoop up (c :: rest) = (if up then up1 c else lower1 c) :: canonLoop (c == 45) rest := by
  cases up <;> simp [canonLoop, up1, lower1]

theorem dash_up (c : UInt8) : (up1 c == 45) = (c == 45) := by
  rw [Bool.eq_iff_iff, beq_iff_eq, beq_iff_eq, ← UInt8.toNat_inj, ← UInt8.toNat_inj, up1_toNat]
  simp only [UInt8.toNat_ofNat]
  split <;> omega

theorem token_up (c : UInt8) : tokenByte (up1 c) = tokenByte c := by
  by_cases h : 97 ≤ c.toNat ∧ c.toNat ≤ 122
  · have h' := up1_toNat c
    rw [if_pos h] at h'
    have letter : ∀ d : UInt8, 65 ≤ d.toNat → d.toNat ≤ 122 → (d.toNat ≤ 90 ∨ 97 ≤ d.toNat) → tokenByte d = true := by
      intro d h1 h2 h3
      simp only [tokenByte, UInt8.le_iff_toNat_le, UInt8.toNat_ofNat, Bool.or_eq_true, Bool.and_eq_true,
        decide_eq_true_eq]
      omega
    rw [letter c (by omega) h.2 (.inr h.1), letter _ (by omega) (by omega) (.inl (by omega))]
  · have : up1 c = c := by rw [← UInt8.toNat_inj, up1_toNat, if_neg h]
    rw [this]

theorem canonLoop_upper (up : Bool) (k : Bytes) : canonLoop up (upper k) = canonLoop up k := by
  rw [upper_eq_map]
  induction k generalizing up with
  | nil => rfl
  | cons c cs ih =>
    rw [List.map_cons, canonLoop_cons, canonLoop_cons, dash_up, ih, lower_up, (up1_eq_iff_lower1 _ _).mpr (lower_up c)]

theorem allToken_upper (k : Bytes) : (upper k).all tokenByte = k.all tokenByte := by
  rw [upper_eq_map, List.all_map]
  congr 1; funext c
  exact token_up c

/-- every reader of a header (`headerGet`, `rhdrF`, `sRh`, the header branches of `specPrim`) takes the name through `canonKey` -/
theorem canonKey_eq_of_eqv {k k' : Bytes} (h : eqv true k k' = true) (ht : k.all tokenByte = true) :
    canonKey k = canonKey k' := by
  -- the canonical key and the token test depend on the name only through its upper-case form
  have h : upper k = upper k' := (eqv_iff true k k').mp h
  have ht' : k'.all tokenByte = true := by rw [← allToken_upper, ← h, allToken_upper]; exact ht
  unfold canonKey
  rw [if_pos ht, if_pos ht', ← canonLoop_upper, h, canonLoop_upper]

end BfeVerif.C18
