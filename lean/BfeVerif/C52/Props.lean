import BfeVerif.C52.Proofs
/-!
  C52 — CORS headers are granted only to allowed origins and vary on Origin.
  `handle` is the model of corsPreflightHandler + corsHandler with `addVaryHeader` as fixed (the appended
  value is stored).
-/
namespace BfeVerif.C52

/-- The request carries an Origin that the governing rule (first rule of the product whose condition
    matches) allows: `%origin`, `*`, or an exact member of AccessControlAllowOrigins. -/
def Granted (hasRules : Bool) (rules : List Rule) (req : Req) : Prop :=
  req.origin ≠ [] ∧ ∃ r, governing hasRules rules = some r ∧ allowedBy req.origin r = true

def witnessRule : Rule :=
  { hit := true, origins := [[0x61]], creds := false, expose := [], methods := [], headers := [], maxAge := none }
def witnessReq : Req := { method := [0x47], origin := [0x78], acrm := [] }

example : Granted true [witnessRule] { witnessReq with origin := [0x61] } :=
  ⟨by decide +kernel, witnessRule, by decide +kernel, by decide +kernel⟩

/-- When the Origin is not allowed (no Origin, no governing rule, or not in the rule's list) the module changes
    nothing: the preflight answer is bare, a backend response keeps every header (in particular no
    Access-Control-Allow-* header is added). -/
theorem C52_only_allowed (hasRules : Bool) (rules : List Rule) (req : Req) (backend : Hdr)
    (h : ¬ Granted hasRules rules req) :
    (handle hasRules rules req backend).2 = baseHdr (handle hasRules rules req backend).1 backend := by
  rw [handle_eq]
  cases hg : governing hasRules rules with
  | none => rfl
  | some r =>
    have hc : ¬ (req.origin != [] && allowedBy req.origin r) = true := fun hc =>
      have ⟨ho, ha⟩ := Bool.and_eq_true_iff.mp hc
      h ⟨bne_iff_ne.mp ho, r, hg, ha⟩
    exact if_neg hc

/-- When granted, Access-Control-Allow-Origin is exactly one value: `*` if the rule lists `*` (and not `%origin`),
    otherwise the request's own Origin echoed. -/
theorem C52_echo_or_star (hasRules : Bool) (rules : List Rule) (req : Req) (backend : Hdr) (r : Rule)
    (ho : req.origin ≠ []) (hg : governing hasRules rules = some r) (ha : allowedBy req.origin r = true) :
    (handle hasRules rules req backend).2.acao = [expectedAcao req.origin r] ∧
    (expectedAcao req.origin r = req.origin ∨ (expectedAcao req.origin r = sStar ∧ sStar ∈ r.origins)) := by
  rw [handle_granted backend ho hg ha]
  exact ⟨rfl, expectedAcao_cases _ r⟩

/-- For a rule the loader accepts, `*` stands alone, so "`*` as configured" is unambiguous. -/
theorem C52_star_as_configured (r : Rule) (o : Str) (hok : ruleOk r = true) (hs : sStar ∈ r.origins) :
    expectedAcao o r = sStar := by
  unfold expectedAcao
  rw [(star_of_ruleOk hok hs).2]
  rfl

example : ruleOk { witnessRule with origins := [sStar] } = true ∧ sStar ∈ ({ witnessRule with origins := [sStar] } : Rule).origins := by
  decide +kernel

/-- Granted responses: every pre-existing Vary value is kept, in order, and some Vary line has the member
    `Origin` (or is `*`). -/
theorem C52_vary (hasRules : Bool) (rules : List Rule) (req : Req) (backend : Hdr) (r : Rule)
    (ho : req.origin ≠ []) (hg : governing hasRules rules = some r) (ha : allowedBy req.origin r = true) :
    (baseHdr (handle hasRules rules req backend).1 backend).vary <+: (handle hasRules rules req backend).2.vary ∧
    varyCovers (handle hasRules rules req backend).2.vary = true := by
  rw [handle_granted backend ho hg ha]
  exact ⟨addVary_prefix _, varyCovers_addVary _⟩

example : (handle true [witnessRule] { witnessReq with origin := [0x61] }
    { vary := [[0x41]] }).2.vary = [[0x41], sOrigin] := by decide +kernel
/-- the fixed `addVaryHeader` on a Vary line that names another header only (`A-E`) -/
example : addVary [[0x41, 0x2d, 0x45]] = [[0x41, 0x2d, 0x45], sOrigin] := by decide +kernel

/-- The property's Vary clause read literally: *whenever* the response depends on the request's Origin
    (some other Origin value would have produced a different response) Vary lists Origin. -/
def C52_vary_full : Prop :=
  ∀ (hasRules : Bool) (rules : List Rule) (req : Req) (backend : Hdr),
    (∃ o', handle hasRules rules { req with origin := o' } backend ≠ handle hasRules rules req backend) →
    varyCovers (handle hasRules rules req backend).2.vary = true

/-- **Finding** (`vary-absent-when-not-granted`): `addVaryHeader` is only reached on the granted path.  With the
    rule "allow origin `a`", a request from origin `x` gets a response without CORS headers *and without*
    `Vary: Origin`, although origin `a` would have got a different response — a shared cache may serve the
    denied variant to `a`. -/
theorem C52_witness_vary_not_granted : ¬ C52_vary_full := by
  intro h
  have := h true [witnessRule] witnessReq {} ⟨[0x61], by decide⟩
  revert this
  decide

/-- `C52_vary_full` restricted to the responses the module grants is `C52_vary`; for every other response
    the Vary header is simply the backend's (`C52_only_allowed`), so it lists Origin iff the backend did. -/
theorem C52_vary_full_partial (hasRules : Bool) (rules : List Rule) (req : Req) (backend : Hdr) :
    Granted hasRules rules req ∨ varyCovers (baseHdr (handle hasRules rules req backend).1 backend).vary = true →
    varyCovers (handle hasRules rules req backend).2.vary = true := by
  intro h
  by_cases hg : Granted hasRules rules req
  · obtain ⟨ho, r, hr, ha⟩ := hg
    exact (C52_vary hasRules rules req backend r ho hr ha).2
  · rcases h with h | h
    · exact absurd h hg
    · rw [C52_only_allowed hasRules rules req backend hg]; exact h

/-- **Model meets the spec oracle**: on the model's own result the oracle the driver applies to the
    implementation answers `ok`, except for the recorded finding, which it reports exactly when the module
    declined (not granted) under a governing rule and the untouched Vary does not list Origin. -/
theorem C52_model_meets_spec (hasRules : Bool) (rules : List Rule) (req : Req) (backend : Hdr) :
    let res := handle hasRules rules req backend
    verdict hasRules rules req backend res.1 res.2 = "ok" ∨
    (verdict hasRules rules req backend res.1 res.2 = "FAIL:vary-absent-when-not-granted" ∧
      ¬ Granted hasRules rules req ∧ (governing hasRules rules).isSome = true ∧
      varyCovers (baseHdr res.1 backend).vary = false) ∨
    (verdict hasRules rules req backend res.1 res.2 = "FAIL:star-with-credentials" ∧
      Granted hasRules rules req ∧ res.2.acao = [sStar] ∧ res.2.acac = [sTrue]) := by
  intro res
  have hk : res.1 = _ := congrArg Prod.fst (handle_eq hasRules rules req backend)
  by_cases hG : Granted hasRules rules req
  · obtain ⟨ho, r, hg, ha⟩ := hG
    have h2 : res.2 = _ := handle_granted backend ho hg ha
    rw [h2, verdict_grant backend hk ho hg ha]
    split
    · rename_i h
      have ⟨h3, h4⟩ := Bool.and_eq_true_iff.mp h
      exact .inr (.inr ⟨rfl, ⟨ho, r, hg, ha⟩, eq_of_beq h3, eq_of_beq h4⟩)
    · exact .inl rfl
  · have h2 : res.2 = _ := C52_only_allowed hasRules rules req backend hG
    rw [h2, verdict_base backend hk fun r hg ⟨ho, ha⟩ => hG ⟨ho, r, hg, ha⟩]
    split
    · rename_i h
      have ⟨h3, h4⟩ := Bool.and_eq_true_iff.mp h
      exact .inr (.inl ⟨rfl, hG, h3, by simpa using h4⟩)
    · exact .inl rfl

/-- The module answers a request itself (204, never reaching the backend) exactly when it is an OPTIONS request
    with an Origin and a supported Access-Control-Request-Method and some rule of the product governs it. -/
theorem C52_preflight_answered_iff (hasRules : Bool) (rules : List Rule) (req : Req) (backend : Hdr) :
    (handle hasRules rules req backend).1 = Kind.P ↔
      (req.method = sOptions ∧ req.origin ≠ [] ∧ req.acrm ∈ supportedMethods ∧
        (governing hasRules rules).isSome = true) := by
  rw [handle_eq, ← answeredByModule_iff]
  show (if answeredByModule hasRules rules req = true then Kind.P else Kind.N) = Kind.P ↔ _
  cases answeredByModule hasRules rules req <;> decide

/-- The complete header set of a granted preflight answer: the allowed origin,
    `Access-Control-Allow-Credentials: true` iff configured, the configured method and header lists joined by
    commas (absent when empty), `Access-Control-Max-Age` iff configured, no Expose-Headers, `Vary: Origin`. -/
theorem C52_preflight_response (hasRules : Bool) (rules : List Rule) (req : Req) (backend : Hdr) (r : Rule)
    (hp : isPreflight req = true) (hg : governing hasRules rules = some r) (ha : allowedBy req.origin r = true) :
    handle hasRules rules req backend =
      (Kind.P, { acao := [expectedAcao req.origin r],
                 acac := if r.creds then [sTrue] else [],
                 acam := if r.methods.length > 0 then [joinComma r.methods] else [],
                 acah := if r.headers.length > 0 then [joinComma r.headers] else [],
                 acma := match r.maxAge with | some m => [itoa m] | none => [],
                 aceh := [],
                 vary := [sOrigin] }) := by
  have ho := bne_iff_ne.mpr (origin_ne_of_isPreflight hp)
  rw [handle_eq]
  simp only [answeredByModule, hg, hp, ho, ha, Option.isSome_some, Bool.and_self, if_true]
  -- left over: the `match` on `maxAge` and `addVary [] = [sOrigin]`
  simp [grant, baseHdr]
  exact ⟨rfl, rfl⟩

/-- The answer lists what the rule allows; it does not depend on WHICH supported method is asked for nor on
    Access-Control-Request-Headers (the module never compares them with AccessControlAllowMethods /
    AccessControlAllowHeaders — under Fetch that comparison is the browser's). -/
theorem C52_preflight_ignores_requested (hasRules : Bool) (rules : List Rule) (req : Req) (backend : Hdr)
    (a1 a2 h1 h2 : Str) (hs1 : a1 ∈ supportedMethods) (hs2 : a2 ∈ supportedMethods) :
    handle hasRules rules { req with acrm := a1, acrh := h1 } backend =
    handle hasRules rules { req with acrm := a2, acrh := h2 } backend := by
  have e : isPreflight { req with acrm := a1, acrh := h1 } = isPreflight { req with acrm := a2, acrh := h2 } := by
    unfold isPreflight
    dsimp only
    rw [List.contains_iff_mem.mpr hs1, List.contains_iff_mem.mpr hs2]
  rw [handle_eq, handle_eq]
  unfold answeredByModule
  rw [e]

theorem C52_max_age_range (r : Rule) (m : Int) (hok : ruleOk r = true) (hm : r.maxAge = some m) :
    -1 ≤ m ∧ m ≤ 86400 := by
  unfold ruleOk at hok
  simp only [Bool.and_eq_true, hm] at hok
  -- the last conjunct of `ruleOk` is the max-age test
  obtain ⟨-, hma⟩ := hok
  simp at hma
  omega

/-- For a loader-accepted rule and a request whose Origin is not the literal `*` (a credentialed `%origin` rule
    would echo that one), a granted `Access-Control-Allow-Origin: *` is never accompanied by a module-set credentials
    header: the rule has credentials off and Access-Control-Allow-Credentials is whatever the backend sent. -/
theorem C52_star_no_credentials (hasRules : Bool) (rules : List Rule) (req : Req) (backend : Hdr) (r : Rule)
    (hok : ruleOk r = true) (ho : req.origin ≠ []) (hns : req.origin ≠ sStar)
    (hg : governing hasRules rules = some r) (ha : allowedBy req.origin r = true)
    (hstar : (handle hasRules rules req backend).2.acao = [sStar]) :
    r.creds = false ∧
    (handle hasRules rules req backend).2.acac = (baseHdr (handle hasRules rules req backend).1 backend).acac := by
  rw [handle_granted backend ho hg ha] at hstar ⊢
  have hexp : expectedAcao req.origin r = sStar := List.singleton_inj.mp hstar
  have hmem : sStar ∈ r.origins := by
    rcases expectedAcao_cases req.origin r with h | h
    · exact absurd (h.symm.trans hexp) hns
    · exact h.2
  have hc := (star_of_ruleOk hok hmem).1
  refine ⟨hc, ?_⟩
  show (if r.creds = true then _ else _) = _
  rw [hc]
  rfl

/-- **Finding** (`star-with-credentials`): the module does not look at credentials headers the backend already
    put on the response.  Rule `AccessControlAllowOrigins ["*"]` (credentials off), backend response carrying
    `Access-Control-Allow-Credentials: true`: the client receives `*` together with `true`, which Fetch
    forbids (browsers then refuse credentialed requests: fails closed). -/
theorem C52_witness_star_with_credentials :
    let r : Rule := { witnessRule with origins := [sStar] }
    ruleOk r = true ∧
    (handle true [r] { witnessReq with origin := [0x61] } { acac := [sTrue] }).2.acao = [sStar] ∧
    (handle true [r] { witnessReq with origin := [0x61] } { acac := [sTrue] }).2.acac = [sTrue] := by decide

/-- Not a violation of bfe's documentation (the loader comment says so), but worth knowing: a credentialed
    rule may list `*` as method / header, which Fetch then treats as the literal name `*`. -/
example : ruleOk { witnessRule with origins := [sPctOrigin], creds := true, methods := [sStar], headers := [sStar] } = true := by
  decide +kernel

/-- Whatever the history of reloads (accepted and rejected configurations, same or different version strings,
    products added / removed / changed), the rules the handlers see for a product are exactly those of the
    LAST ACCEPTED configuration; nothing of an earlier configuration survives. -/
theorem C52_reload_in_force (cs : List Conf) (product : Str) :
    lookup (tableAfter cs) product = rulesInForce cs product := by
  rw [tableAfter_eq, rulesInForce]
  cases inForce cs <;> rfl

/-- After any history, a successfully loaded configuration alone decides the answer. -/
theorem C52_reload_last_conf (cs : List Conf) (c : Conf) (hok : confOk c = true)
    (product : Str) (req : Req) (backend : Hdr) :
    handleH (cs ++ [c]) product req backend = handleH [c] product req backend := by
  unfold handleH
  rw [C52_reload_in_force, C52_reload_in_force]
  unfold rulesInForce inForce
  simp [hok]

theorem C52_reload_rejected_keeps (cs : List Conf) (c : Conf) (hbad : confOk c = false)
    (product : Str) (req : Req) (backend : Hdr) :
    handleH (cs ++ [c]) product req backend = handleH cs product req backend := by
  unfold handleH
  rw [C52_reload_in_force, C52_reload_in_force]
  unfold rulesInForce inForce
  simp [hbad]

/-- a product withdrawn by a reload gets no CORS header any more -/
example : (handleH [{ version := [1], products := [([0x70], [{ witnessRule with origins := [sPctOrigin] }])] },
                    { version := [1], products := [] }]
    [0x70] witnessReq {}).2 = {} := by decide +kernel

end BfeVerif.C52
