import BfeVerif.C52.Model
/-! C52 — `handle_eq`: both handlers answer with the headers they start from or with `grant` over them. -/
namespace BfeVerif.C52

theorem matchOrigin_eq (o : Str) (r : Rule) :
    matchOrigin o r = (allowedBy o r, if allowedBy o r then expectedAcao o r else []) := by
  unfold matchOrigin allowedBy expectedAcao
  cases r.origins.contains sPctOrigin <;> cases r.origins.contains sStar <;> cases r.origins.contains o <;> rfl

theorem expectedAcao_cases (o : Str) (r : Rule) :
    expectedAcao o r = o ∨ (expectedAcao o r = sStar ∧ sStar ∈ r.origins) := by
  unfold expectedAcao
  split
  · rename_i h
    exact .inr ⟨rfl, List.contains_iff_mem.mp (Bool.and_eq_true_iff.mp h).1⟩
  · exact .inl rfl

theorem addVary_cases (v : List Str) : addVary v = v ++ [sOrigin] ∨ (addVary v = v ∧ varyCovers v = true) := by
  cases v with
  | nil => exact .inl rfl
  | cons a t =>
    unfold addVary
    dsimp only [getFirst, List.headD_cons]
    -- only the FIRST Vary line `a` is inspected: empty / `*` / names Origin / else
    split
    · exact .inl rfl
    split
    · rename_i h
      rw [eq_of_beq h]
      exact .inr ⟨rfl, rfl⟩
    split
    · rename_i h
      obtain ⟨x, hx, hx2⟩ := List.any_eq_true.mp h
      refine .inr ⟨rfl, ?_⟩
      unfold varyCovers
      rw [List.any_cons, Bool.or_eq_true]
      exact .inl (List.any_eq_true.mpr ⟨x, hx, by rw [hx2]; rfl⟩)
    · exact .inl rfl

theorem addVary_prefix (v : List Str) : v <+: addVary v := by
  rcases addVary_cases v with h | h
  · rw [h]
    exact List.prefix_append _ _
  · rw [h.1]
    exact List.prefix_refl _

theorem varyCovers_addVary (v : List Str) : varyCovers (addVary v) = true := by
  rcases addVary_cases v with h | h
  · rw [h, varyCovers, List.any_append, Bool.or_eq_true]
    exact .inr rfl
  · rw [h.1]
    exact h.2

/-- a granted response over the headers `base` the handler starts from (`{}` for the preflight answer, the
    backend's for a forwarded response) -/
def grant (k : Kind) (o : Str) (r : Rule) (base : Hdr) : Hdr :=
  let pre := k == Kind.P
  { acao := [expectedAcao o r]
    acac := if r.creds then [sTrue] else base.acac
    acam := if pre && r.methods.length > 0 then [joinComma r.methods] else base.acam
    acah := if pre && r.headers.length > 0 then [joinComma r.headers] else base.acah
    acma := match (if pre then r.maxAge else none) with | some m => [itoa m] | none => base.acma
    aceh := if !pre && r.expose.length > 0 then [joinComma r.expose] else base.aceh
    vary := addVary base.vary }

theorem setPreflight_eq (req : Req) (h : Hdr) (r : Rule) :
    setPreflight req h r = if allowedBy req.origin r then grant .P req.origin r h else h := by
  unfold setPreflight
  rw [matchOrigin_eq]
  cases allowedBy req.origin r
  · rfl
  · -- the same record once every test on a field of the rule is decided
    obtain ⟨_, _, creds, _, methods, headers, maxAge⟩ := r
    cases creds <;> cases maxAge <;> cases methods <;> cases headers <;> rfl

theorem setNonPreflight_eq (req : Req) (h : Hdr) (r : Rule) :
    setNonPreflight req h r = if allowedBy req.origin r then grant .N req.origin r h else h := by
  unfold setNonPreflight
  rw [matchOrigin_eq]
  cases allowedBy req.origin r
  · rfl
  · obtain ⟨_, _, creds, expose, _, _, _⟩ := r
    cases creds <;> cases expose <;> rfl

theorem isPreflight_iff (req : Req) :
    isPreflight req = true ↔ req.method = sOptions ∧ req.origin ≠ [] ∧ req.acrm ∈ supportedMethods := by
  simp [isPreflight, and_assoc]

theorem origin_ne_of_isPreflight {req : Req} (hp : isPreflight req = true) : req.origin ≠ [] :=
  ((isPreflight_iff req).mp hp).2.1

theorem answeredByModule_iff (hasRules : Bool) (rules : List Rule) (req : Req) :
    answeredByModule hasRules rules req = true ↔
      req.method = sOptions ∧ req.origin ≠ [] ∧ req.acrm ∈ supportedMethods ∧
        (governing hasRules rules).isSome = true := by
  unfold answeredByModule
  rw [Bool.and_eq_true, isPreflight_iff]
  simp only [and_assoc]

theorem handle_eq (hasRules : Bool) (rules : List Rule) (req : Req) (backend : Hdr) :
    handle hasRules rules req backend =
      let k := if answeredByModule hasRules rules req then Kind.P else Kind.N
      (k, match governing hasRules rules with
          | some r =>
            if req.origin != [] && allowedBy req.origin r then grant k req.origin r (baseHdr k backend)
            else baseHdr k backend
          | none => baseHdr k backend) := by
  unfold handle answeredByModule governing
  cases firstMatch hasRules rules with
  | none => cases isPreflight req <;> cases req.origin == [] <;> rfl
  | some r =>
    cases hp : isPreflight req
    · simp only [setNonPreflight_eq, bne, Bool.false_eq_true, if_false, Bool.false_and]
      cases req.origin == [] <;> rfl
    · have ho := bne_iff_ne.mpr (origin_ne_of_isPreflight hp)
      simp only [setPreflight_eq, ho]
      rfl

theorem handle_granted {hasRules : Bool} {rules : List Rule} {req : Req} {r : Rule} (backend : Hdr)
    (ho : req.origin ≠ []) (hg : governing hasRules rules = some r) (ha : allowedBy req.origin r = true) :
    (handle hasRules rules req backend).2 =
      grant (handle hasRules rules req backend).1 req.origin r
        (baseHdr (handle hasRules rules req backend).1 backend) := by
  rw [handle_eq]
  simp only [hg, bne_iff_ne.mpr ho, ha, Bool.and_self, if_true]

theorem star_of_ruleOk {r : Rule} (hok : ruleOk r = true) (hs : sStar ∈ r.origins) :
    r.creds = false ∧ r.origins = [sStar] := by
  unfold ruleOk at hok
  simp only [Bool.and_eq_true] at hok
  -- second conjunct of `ruleOk`: every listed origin passes `originOk`
  obtain ⟨⟨⟨⟨⟨-, hor⟩, -⟩, -⟩, -⟩, -⟩ := hok
  have h1 := List.all_eq_true.mp hor sStar hs
  -- the last two clauses of `originOk`: `*` not with credentials, and alone in the list
  simp [originOk] at h1
  obtain ⟨⟨-, hcr⟩, hlen⟩ := h1
  obtain ⟨x, hx⟩ := List.length_eq_one_iff.mp hlen
  rw [hx] at hs
  cases List.mem_singleton.mp hs
  exact ⟨hcr, hx⟩

theorem verdict_grant {hasRules : Bool} {rules : List Rule} {req : Req} {r : Rule} {k : Kind} (backend : Hdr)
    (hk : k = if answeredByModule hasRules rules req then Kind.P else Kind.N)
    (ho : req.origin ≠ []) (hg : governing hasRules rules = some r) (ha : allowedBy req.origin r = true) :
    verdict hasRules rules req backend k (grant k req.origin r (baseHdr k backend)) =
      if [expectedAcao req.origin r] == [sStar] && (grant k req.origin r (baseHdr k backend)).acac == [sTrue]
      then "FAIL:star-with-credentials" else "ok" := by
  unfold verdict
  -- the oracle's expected headers are `grant`'s, field by field
  simp only [← hk, grant, bne_self_eq_false, hg, beq_eq_false_iff_ne.mpr ho, ha, Bool.not_true, Bool.or_self,
    Bool.false_eq_true, if_false, List.isPrefixOf_iff_prefix.mpr (addVary_prefix _), varyCovers_addVary]
  -- `grant.acma` is a `match` on this `if`
  cases (if (k == Kind.P) = true then r.maxAge else none) <;>
    simp only [bne_self_eq_false, Bool.or_self, Bool.false_eq_true, if_false] <;> rfl

theorem verdict_base {hasRules : Bool} {rules : List Rule} {req : Req} {k : Kind} (backend : Hdr)
    (hk : k = if answeredByModule hasRules rules req then Kind.P else Kind.N)
    (hn : ∀ r, governing hasRules rules = some r → ¬ (req.origin ≠ [] ∧ allowedBy req.origin r = true)) :
    verdict hasRules rules req backend k (baseHdr k backend) =
      if (governing hasRules rules).isSome && !varyCovers (baseHdr k backend).vary
      then "FAIL:vary-absent-when-not-granted" else "ok" := by
  unfold verdict
  simp only [← hk, bne_self_eq_false, beq_self_eq_true, Bool.false_eq_true, if_false, if_true]
  cases hg : governing hasRules rules with
  | none => rfl
  | some r =>
    have hc : (req.origin == [] || !allowedBy req.origin r) = true := by
      simpa [Decidable.or_iff_not_imp_left] using hn r hg
    simp only [hc, if_true, Option.isSome_some, Bool.true_and]

theorem tableAfter_eq (cs : List Conf) :
    tableAfter cs = match inForce cs with
      | some c => c.products
      | none => [] := by
  unfold tableAfter inForce
  -- from the right the fold meets the configurations in the order `find?` does
  rw [← List.foldr_reverse]
  induction cs.reverse with
  | nil => rfl
  | cons c l ih =>
    rw [List.foldr_cons, List.find?_cons, ih, update]
    cases confOk c <;> rfl

end BfeVerif.C52
