import BfeVerif.C53.Proofs
/-! C53 — property theorems (rate limiting jails keys after the threshold). -/
namespace BfeVerif.C53

/-- Other keys are unaffected: one `recordAndCheck` call for key `k'`, with ARBITRARY clock reads,
    leaves what both dictionaries say about any other key `k` unchanged — unless the call's LRU
    insertions evicted `k` (hypothesis `hev`; the call reports what it evicted in `ev`). -/
theorem C53_other_keys (c : Cfg) (s : St) (rd : Nat → Nat) (k k' : Key) (h : k' ≠ k)
    (hev : k ∉ (recordAndCheck c s k' rd).ev) :
    view (recordAndCheck c s k' rd).st k = view s k :=
  recordAndCheck_frame c s rd h hev

/-- Jail, step level (one call, arbitrary clock reads).  While the prison dictionary holds a
    free time `ft` for `k`, a request of `k` whose (first) clock read is before `ft` is denied, for
    ARBITRARY later reads, evicts nothing and leaves the record of `k` as it is. -/
theorem C53_jail_step (c : Cfg) (s : St) (k : Key) (rd : Nat → Nat) (ft : Nat)
    (h : dfind s.prison k = some ft) (ht : rd 0 < ft) :
    (recordAndCheck c s k rd).deny = true ∧ (recordAndCheck c s k rd).ev = [] ∧
    dfind (recordAndCheck c s k rd).st.prison k = some ft ∧
    (recordAndCheck c s k rd).st.access = s.access := by
  unfold recordAndCheck shouldDeny
  simp [h, ht, dfind]

/-- After the free time (first clock read ≥ ft) the record is removed by the first `shouldDeny`:
    the verdict is then the one of `recordAccess` on a state without a prison record for `k`. -/
theorem C53_release_step (c : Cfg) (s : St) (k : Key) (rd : Nat → Nat) (ft : Nat)
    (h : dfind s.prison k = some ft) (ht : ft ≤ rd 0) :
    (shouldDeny rd { access := s.access, prison := s.prison } k).1 = false ∧
    dfind (shouldDeny rd { access := s.access, prison := s.prison } k).2.prison k = none := by
  have hs := shouldDeny_some rd { access := s.access, prison := s.prison } k ft h
  rw [hs.1, hs.2]
  exact ⟨decide_eq_false (Nat.not_lt.mpr ht), if_neg (Nat.not_lt.mpr ht)⟩

example : (recordAndCheck ⟨10, 5, 1, 4, 4⟩ ⟨[], [(7, 100)]⟩ 7 (fun _ => 50)).deny = true := by decide +kernel
example : (recordAndCheck ⟨10, 5, 1, 4, 4⟩ ⟨[], [(7, 100)]⟩ 7 (fun _ => 100)).deny = false := by decide +kernel
/-- threshold 1: second hit inside the window is jailed until start + cp + stay = 0 + 10 + 5 -/
example : (recordAndCheck ⟨10, 5, 1, 4, 4⟩ ⟨[(7, ⟨1, 0⟩)], []⟩ 7 (fun _ => 3)).st.prison = [(7, 15)] := by decide +kernel

/-! ## History level

`inst h`: a history of calls `(key, t)` in which all clock reads of one call return `t` (in reality they differ
by the call's duration, a few microseconds; theorems that need this idealisation end in `_partial`).
`kTimes k h` / `kVerdicts k h vs`: the times / the verdicts of key `k`'s requests.
The ideal limiter `specStep` / `specRun` handles ONE key and knows nothing about dictionaries. -/

def inst (h : List (Key × Nat)) : List Event := h.map fun e => (e.1, fun _ => e.2)

def kTimes (k : Key) : List (Key × Nat) → List Nat
  | [] => []
  | (k', t) :: r => if k' = k then t :: kTimes k r else kTimes k r

def kVerdicts (k : Key) : List (Key × Nat) → List Bool → List Bool
  | (k', _) :: r, v :: vs => if k' = k then v :: kVerdicts k r vs else kVerdicts k r vs
  | _, _ => []

/-- Other keys, history level, ARBITRARY clock reads: a whole history of requests of other keys
    leaves the dictionaries' entries of `k` unchanged, provided `k` was not evicted. -/
theorem C53_other_keys_history (c : Cfg) (k : Key) (es : List Event) (s : St)
    (hne : ∀ e ∈ es, e.1 ≠ k) (hev : k ∉ (runHist c s es).2.2) :
    view (runHist c s es).2.1 k = view s k := by
  induction es generalizing s with
  | nil => rfl
  | cons e r ih =>
    have ⟨hev1, hev2⟩ := not_or.mp (mt List.mem_append.mpr hev)
    have ⟨hk, hr⟩ := List.forall_mem_cons.mp hne
    exact (ih _ hr hev2).trans (recordAndCheck_frame c s e.2 hk hev1)

/-- **Refinement.**  For every history of instantaneous calls with all keys interleaved and every key
    `k` that is never evicted from an LRU dictionary: the verdicts given to `k`'s requests are exactly
    those of the ideal one-key fixed-window limiter run on the times of `k`'s requests alone — in
    particular they do not depend on the other keys' requests at all — and the abstraction relation
    between the dictionaries' entries for `k` and the ideal state is maintained. -/
theorem C53_refines_spec_partial (c : Cfg) (k : Key) (h : List (Key × Nat)) (s : St) (ks : KS)
    (hR : Rel (view s k) ks) (hev : k ∉ (runHist c s (inst h)).2.2) :
    kVerdicts k h (runHist c s (inst h)).1 = (specRun c ks (kTimes k h)).1 ∧
    Rel (view (runHist c s (inst h)).2.1 k) (specRun c ks (kTimes k h)).2 := by
  induction h generalizing s ks with
  | nil => exact ⟨rfl, hR⟩
  | cons e r ih =>
    obtain ⟨k', t⟩ := e
    have ⟨hev1, hev2⟩ := not_or.mp (mt List.mem_append.mpr hev)
    by_cases hk : k' = k
    · subst hk
      have hs := step_refines c s k' t ks hR hev1
      have ih := ih _ _ hs.2 hev2
      simp only [inst, List.map_cons, runHist, kVerdicts, kTimes, if_true, specRun] at ih ⊢
      exact ⟨by rw [hs.1, ih.1], ih.2⟩
    · have ih := ih _ ks (recordAndCheck_frame c s (fun _ => t) hk hev1 ▸ hR) hev2
      simp only [inst, List.map_cons, runHist, kVerdicts, kTimes, if_neg hk] at ih ⊢
      exact ih

/-- Jail, ideal machine.  `pre` are Threshold requests and `tl` one more, all inside the counting
    window opened by the first of them (`t0`, window `[t0, t0+cp]`): the first Threshold requests are
    allowed, request Threshold+1 is denied and so is every later request before the free time
    `t0 + cp + stay`; the state is then still "jailed until t0+cp+stay". -/
theorem C53_spec_jail (c : Cfg) (pre : List Nat) (tl : Nat) (later : List Nat)
    (hlen : pre.length = c.th)
    (hwin : ∀ x ∈ pre ++ [tl], x ≤ (pre ++ [tl]).headD 0 + c.cp)
    (hfree : tl < (pre ++ [tl]).headD 0 + c.cp + c.stay)
    (hlater : ∀ x ∈ later, x < (pre ++ [tl]).headD 0 + c.cp + c.stay) :
    specRun c .idle (pre ++ tl :: later) =
      (List.replicate c.th false ++ true :: List.replicate later.length true,
       .jailed ((pre ++ [tl]).headD 0 + c.cp + c.stay)) := by
  -- `t0`: the head of `pre`, or `tl` itself when Threshold = 0 leaves `pre` empty
  generalize ht0 : (pre ++ [tl]).headD 0 = t0 at *
  obtain ⟨xs, hxs⟩ : ∃ xs, pre ++ tl :: later = t0 :: xs := by
    cases pre <;> exact ⟨_, congrArg (· :: _) ht0⟩
  have hstep : specStep c (.counting t0 (0 + c.th)) tl = (true, .jailed (t0 + c.cp + c.stay)) := by
    have h1 : ¬ t0 + c.cp < tl := Nat.not_lt.mpr (hwin tl (by simp))
    simp [specStep, specCount, h1, hfree]
  -- idle counts like an open window at `t0` with count 0; `pre` is counted (`count_phase`, which leaves the count as
  -- `0 + c.th`), `tl` trips the threshold (`hstep`), `later` meets the jail (`jailed_phase`)
  rw [hxs, specRun_idle, ← hxs, specRun_append,
    count_phase c t0 pre 0 (fun x hx => hwin x (List.mem_append_left _ hx)) (by omega)]
  simp only [specRun, hstep, jailed_phase c _ later hlater, hlen]

/-- Release, ideal machine: the first request at or after the free time is counted as the first
    request of a new window (and therefore allowed when Threshold ≥ 1). -/
theorem C53_spec_release (c : Cfg) (u t : Nat) (hu : u ≤ t) (hth : 1 ≤ c.th) :
    specStep c (.jailed u) t = (false, .counting t 1) := by
  have h1 : ¬ t < u := by omega
  simp [specStep, specCount, h1]; omega

/-- Below the threshold, ideal machine: if the request times are non-decreasing and NO interval
    `[s, s+cp]` contains more than Threshold of them, no request is ever denied. -/
theorem C53_spec_below_never (c : Cfg) (ts : List Nat) (hs : List.Pairwise (· ≤ ·) ts)
    (hH : ∀ s, (ts.filter (fun x => decide (s ≤ x) && decide (x ≤ s + c.cp))).length ≤ c.th) :
    (specRun c .idle ts).1 = List.replicate ts.length false := by
  cases ts with
  | nil => rfl
  | cons t r =>
    have hge : ∀ x ∈ t :: r, t ≤ x :=
      List.forall_mem_cons.mpr ⟨Nat.le_refl t, (List.pairwise_cons.mp hs).1⟩
    rw [specRun_idle]
    exact below_never_aux c (t :: r) t 0 hs hH (by rw [← filter_window c.cp t _ hge]; simpa using hH t)

/-- **Jail, model, history level.**  Arbitrary interleaving with other keys; `k` has no counter and no
    prison record initially and is never evicted.  If `k`'s requests are `pre` (Threshold many), `tl`,
    `later` as in `C53_spec_jail`, then exactly the first Threshold requests of `k` are allowed and all
    others — from request Threshold+1 until the free time — are denied, and afterwards the prison
    dictionary holds the free time `t0 + cp + stay` for `k` (and no counter). -/
theorem C53_jail_partial (c : Cfg) (k : Key) (h : List (Key × Nat)) (s : St)
    (hfresh : view s k = (none, none)) (hev : k ∉ (runHist c s (inst h)).2.2)
    (pre : List Nat) (tl : Nat) (later : List Nat) (hk : kTimes k h = pre ++ tl :: later)
    (hlen : pre.length = c.th)
    (hwin : ∀ x ∈ pre ++ [tl], x ≤ (pre ++ [tl]).headD 0 + c.cp)
    (hfree : tl < (pre ++ [tl]).headD 0 + c.cp + c.stay)
    (hlater : ∀ x ∈ later, x < (pre ++ [tl]).headD 0 + c.cp + c.stay) :
    kVerdicts k h (runHist c s (inst h)).1 =
      List.replicate c.th false ++ true :: List.replicate later.length true ∧
    view (runHist c s (inst h)).2.1 k = (none, some ((pre ++ [tl]).headD 0 + c.cp + c.stay)) := by
  have hr := C53_refines_spec_partial c k h s .idle hfresh hev
  rw [hk, C53_spec_jail c pre tl later hlen hwin hfree hlater] at hr
  exact hr

/-- **Allowed after the free time, model.**  A jailed key (prison record `u`, no counter) whose request
    comes at or after `u` is allowed (Threshold ≥ 1) and starts a new counting window. -/
theorem C53_release_partial (c : Cfg) (s : St) (k : Key) (t u : Nat)
    (hj : view s k = (none, some u)) (hu : u ≤ t) (hth : 1 ≤ c.th)
    (hev : k ∉ (recordAndCheck c s k (fun _ => t)).ev) :
    (recordAndCheck c s k (fun _ => t)).deny = false ∧
    view (recordAndCheck c s k (fun _ => t)).st k = (some ⟨1, t⟩, none) := by
  have hs := step_refines c s k t (.jailed u) hj hev
  rw [C53_spec_release c u t hu hth] at hs
  exact ⟨hs.1, hs.2.1⟩

/-- **Below the threshold, model, history level.**  Arbitrary interleaving with other keys; `k` fresh
    and never evicted; if `k`'s request times are non-decreasing and no interval `[s, s+cp]` contains
    more than Threshold of them, none of `k`'s requests is denied. -/
theorem C53_below_never_partial (c : Cfg) (k : Key) (h : List (Key × Nat)) (s : St)
    (hfresh : view s k = (none, none)) (hev : k ∉ (runHist c s (inst h)).2.2)
    (hs : List.Pairwise (· ≤ ·) (kTimes k h))
    (hH : ∀ s', ((kTimes k h).filter (fun x => decide (s' ≤ x) && decide (x ≤ s' + c.cp))).length ≤ c.th) :
    kVerdicts k h (runHist c s (inst h)).1 = List.replicate (kTimes k h).length false := by
  have hr := C53_refines_spec_partial c k h s .idle hfresh hev
  rw [hr.1]
  exact C53_spec_below_never c (kTimes k h) hs hH

/-! non-vacuity: cp 10, stay 5, threshold 2, capacities 4; keys 7 and 8 interleaved -/
def cEx : Cfg := ⟨10, 5, 2, 4, 4⟩
def hEx : List (Key × Nat) := [(7, 0), (8, 1), (7, 3), (8, 4), (7, 9), (7, 12), (8, 13), (7, 14)]

/-- the hypotheses of C53_jail_partial hold for key 7 (pre = [0,3], tl = 9, later = [12,14], free time 15) -/
example : kVerdicts 7 hEx (runHist cEx {} (inst hEx)).1 = [false, false, true, true, true] ∧
    view (runHist cEx {} (inst hEx)).2.1 7 = (none, some 15) :=
  C53_jail_partial cEx 7 hEx {} rfl (by decide +kernel) [0, 3] 9 [12, 14] (by decide +kernel) rfl
    (by decide +kernel) (by decide +kernel) (by decide +kernel)

/-- key 8 of the same history stays below the threshold (C53_below_never_partial applies) -/
example : kVerdicts 8 hEx (runHist cEx {} (inst hEx)).1 = [false, false, false] :=
  C53_below_never_partial cEx 8 hEx {} rfl (by decide +kernel) (by decide +kernel)
    (window_bounded (m := 14) (by decide +kernel) (by decide +kernel))

/-- release: after the free time 15 key 7 is allowed again -/
example : (recordAndCheck cEx ⟨[], [(7, 15)]⟩ 7 (fun _ => 15)).deny = false :=
  (C53_release_partial cEx ⟨[], [(7, 15)]⟩ 7 15 15 rfl (by decide +kernel) (by decide +kernel) (by decide +kernel)).1

/-- the instantaneous-call idealisation matters only by the duration of the triggering call: with
    distinct reads the stored free time is later by (third read − first read of IncAndCheck) -/
example : (recordAndCheck cEx ⟨[(7, ⟨2, 0⟩)], []⟩ 7 (fun j => 9 + j)).st.prison = [(7, 16)] := by decide +kernel

/-! exact boundaries (cp 10, stay 5, threshold 2): a hit exactly at the window end `start + cp` is still
    counted in the window (the reset test is `start + cp < now`), one tick later it opens a new window;
    a request exactly at the free time is released (`now < freeTime` is false) -/
example : (recordAndCheck cEx ⟨[(7, ⟨2, 0⟩)], []⟩ 7 (fun _ => 10)).deny = true := by decide +kernel
example : (recordAndCheck cEx ⟨[(7, ⟨2, 0⟩)], []⟩ 7 (fun _ => 11)).deny = false := by decide +kernel
example : (recordAndCheck cEx ⟨[], [(7, 15)]⟩ 7 (fun _ => 14)).deny = true := by decide +kernel
example : (recordAndCheck cEx ⟨[], [(7, 15)]⟩ 7 (fun _ => 15)).deny = false := by decide +kernel
/-- threshold 0 with stay 0: the hit at the very end of its own window is jailed for zero time -/
example : (recordAndCheck ⟨10, 0, 0, 4, 4⟩ ⟨[], []⟩ 7 (fun _ => 3)).deny = true := by decide +kernel
/-- LRU at capacity: with prison capacity 1, jailing key 8 evicts the jailed key 7 (reported in `ev`) -/
example : (recordAndCheck ⟨10, 5, 0, 4, 1⟩ ⟨[], [(7, 100)]⟩ 8 (fun _ => 3)).ev = [7] := by decide +kernel

/-- A rejected rule file changes nothing (the old table, with all its dictionaries, stays in use). -/
theorem C53_reload_rejected (sc : Nat) (tb : Table) (wf : Bool) (conf : List (Nat × List RuleSpec))
    (h : confValid wf conf = false) : reload sc tb wf conf = tb := by
  simp [reload, h]

/-- The table after an accepted reload depends only on the accepted file and, per rule of that file, on
    the old rule with the SAME product and the SAME name: nothing else of the old table can leak. -/
theorem C53_reload_depends_on_named_state (sc : Nat) (tb1 tb2 : Table) (wf : Bool)
    (conf : List (Nat × List RuleSpec)) (hv : confValid wf conf = true)
    (h : ∀ p n, oldRule tb1 p n = oldRule tb2 p n) :
    reload sc tb1 wf conf = reload sc tb2 wf conf := by
  simp only [reload, hv, if_true, h]

/-- Fresh start: after an accepted reload every rule whose (product, name) did not exist before has
    empty dictionaries — a renamed rule, a rule moved to another product or a new rule inherits nothing,
    whatever other rules had counted or jailed. -/
theorem C53_reload_fresh (sc : Nat) (tb : Table) (wf : Bool) (conf : List (Nat × List RuleSpec))
    (hv : confValid wf conf = true) (pr : Nat × List RuleM) (hpr : pr ∈ reload sc tb wf conf)
    (r : RuleM) (hr : r ∈ pr.2) (hnew : oldRule tb pr.1 r.name = none) :
    r.st.access = [] ∧ r.st.prison = [] := by
  simp only [reload, hv, if_true, List.mem_map] at hpr
  obtain ⟨pc, _, rfl⟩ := hpr
  simp only [List.mem_map] at hr
  obtain ⟨sp, _, rfl⟩ := hr
  have hn : (mkRule sc (oldRule tb pc.1 sp.name) sp).name = sp.name := rfl
  rw [hn] at hnew
  simp [mkRule, hnew]

/-- Kept rule: a rule whose (product, name) existed takes over exactly that rule's dictionaries, and its
    capacities never shrink. -/
theorem C53_reload_kept (sc : Nat) (o : RuleM) (sp : RuleSpec) :
    (mkRule sc (some o) sp).st = o.st ∧ o.acap ≤ (mkRule sc (some o) sp).acap ∧
    o.pcap ≤ (mkRule sc (some o) sp).pcap := by
  refine ⟨rfl, ?_, ?_⟩
  · simp only [mkRule]; split <;> omega
  · simp only [mkRule]; split <;> omega

/-- A request that no rule can sign (signed header / cookie / query / url pattern missing) or that
    matches no rule's condition is neither counted nor denied by any rule. -/
theorem C53_unsignable_not_counted (q : ReqM) (rs : List RuleM)
    (h : ∀ r ∈ rs, (r.needSel && !q.sel) = true ∨ q.key r.sign r.needSel = none) :
    (processRules q rs).stopped = false ∧ (processRules q rs).denied = [] ∧ (processRules q rs).rules = rs := by
  rw [processRules_skip q rs h]
  exact ⟨rfl, rfl, rfl⟩

end BfeVerif.C53
