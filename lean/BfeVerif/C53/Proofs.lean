import BfeVerif.C53.Model
/-! C53 — what one call does to the dictionaries' entries of another key (frame lemmas) and of its own key
    (all clock reads equal), and from that the refinement of the ideal one-key limiter by one call (`step_refines`);
    then the ideal limiter alone, and the module's loop over the rules. -/
namespace BfeVerif.C53

variable {V : Type}

theorem dfind_ddel (d : List (Key × V)) (k' k : Key) :
    dfind (ddel d k') k = if k' = k then none else dfind d k := by
  induction d with
  | nil => simp [ddel, dfind]
  | cons a r ih =>
    obtain ⟨x, v⟩ := a
    by_cases h1 : x = k' <;> by_cases h2 : k' = k <;> simp_all [ddel, dfind]

theorem dfind_dset (d : List (Key × V)) (k' k : Key) (v : V) :
    dfind (dset d k' v) k = if k' = k then (dfind d k).map (fun _ => v) else dfind d k := by
  induction d with
  | nil => simp [dset, dfind]
  | cons a r ih =>
    obtain ⟨x, w⟩ := a
    by_cases h1 : x = k' <;> by_cases h2 : k' = k <;> simp_all [dset, dfind]

theorem dfind_dropLast (d : List (Key × V)) (k : Key) (h : k ∉ lastKey d) :
    dfind d.dropLast k = dfind d k := by
  induction d with
  | nil => rfl
  | cons a r ih =>
    obtain ⟨x, w⟩ := a
    cases r with
    | nil =>
      have : x ≠ k := fun e => h (e ▸ List.mem_singleton_self x)
      simp [dfind, this]
    | cons b r' => simp only [List.dropLast_cons_cons, dfind, ih h]

theorem dfind_dadd (d : List (Key × V)) (k' k : Key) (v : V) (cap : Nat)
    (hev : k ∉ (dadd d k' v cap).2) :
    dfind (dadd d k' v cap).1 k = if k' = k then some v else dfind d k := by
  unfold dadd at *
  split at hev
  · -- `k'` present: deleted, then pushed in front
    simp only [*, dfind, dfind_ddel]
    split <;> simp [*]
  · split at hev
    · -- at capacity: the last entry is dropped
      simp only [*, if_true]
      rw [dfind_dropLast _ _ hev]
      rfl
    · -- room left
      simp only [*]
      rfl

theorem shouldDeny_keeps (rd : Nat → Nat) (w : W) (k : Key) :
    (shouldDeny rd w k).2.access = w.access ∧ (shouldDeny rd w k).2.ev = w.ev := by
  unfold shouldDeny
  split
  · exact ⟨rfl, rfl⟩
  · dsimp only
    split <;> exact ⟨rfl, rfl⟩

theorem shouldDeny_frame (rd : Nat → Nat) (w : W) {k k' : Key} (h : k' ≠ k) :
    dfind (shouldDeny rd w k').2.prison k = dfind w.prison k := by
  unfold shouldDeny
  split
  · rfl
  · dsimp only
    split <;> simp [dfind, h, dfind_ddel]

theorem shouldDeny_none (rd : Nat → Nat) (w : W) (k : Key) (h : dfind w.prison k = none) :
    shouldDeny rd w k = (false, w) := by
  simp only [shouldDeny, h]

theorem shouldDeny_some (rd : Nat → Nat) (w : W) (k : Key) (u : Nat) (h : dfind w.prison k = some u) :
    (shouldDeny rd w k).1 = decide (rd w.j < u) ∧
    dfind (shouldDeny rd w k).2.prison k = (if rd w.j < u then some u else none) := by
  simp only [shouldDeny, h]
  by_cases hlt : rd w.j < u
  · simp [hlt, dfind]
  · simp [hlt, dfind_ddel]

theorem getCounter_fst (c : Cfg) (rd : Nat → Nat) (w : W) (k' : Key) :
    (getCounter c rd w k').1 = (dfind w.access k').getD ⟨0, rd w.j⟩ := by
  unfold getCounter
  split <;> simp only [*, Option.getD]

theorem getCounter_snd (c : Cfg) (rd : Nat → Nat) (w : W) (k' k : Key)
    (hev : k ∉ (getCounter c rd w k').2.ev) :
    dfind (getCounter c rd w k').2.access k =
      (if k' = k then some (getCounter c rd w k').1 else dfind w.access k) ∧
    (getCounter c rd w k').2.prison = w.prison := by
  cases hA : dfind w.access k' with
  | some f =>
    simp only [getCounter, hA, dfind, dfind_ddel, and_true]
    split <;> rfl
  | none =>
    simp only [getCounter, hA] at hev ⊢
    exact ⟨dfind_dadd _ _ _ _ _ fun h => hev (List.mem_append_left _ h), trivial⟩

theorem incAndCheck_keeps (c : Cfg) (rd : Nat → Nat) (w : W) (f : Counter) :
    (incAndCheck c rd w f).2.2.access = w.access ∧ (incAndCheck c rd w f).2.2.prison = w.prison ∧
    (incAndCheck c rd w f).2.2.ev = w.ev := by
  unfold incAndCheck
  dsimp only
  split <;> simp

/-- what `recordAccess` for `k'` leaves in both dictionaries for ANY key `k` -/
theorem recordAccess_view (c : Cfg) (rd : Nat → Nat) (w : W) (k' k : Key)
    (hev : k ∉ (recordAccess c rd w k').ev) :
    let g := getCounter c rd w k'
    let i := incAndCheck c rd g.2 g.1
    dfind (recordAccess c rd w k').access k =
      (if k' = k then (if i.1.count > c.th then none else some i.1) else dfind w.access k) ∧
    dfind (recordAccess c rd w k').prison k =
      (if i.1.count > c.th ∧ k' = k then some (c.stay + i.2.1 + rd i.2.2.j) else dfind w.prison k) := by
  intro g i
  obtain ⟨hiA, hiP, hiE⟩ := incAndCheck_keeps c rd g.2 g.1
  unfold recordAccess at *
  dsimp only at *
  by_cases hc : i.1.count > c.th
  · -- over the threshold: counter deleted, `k'` jailed
    rw [if_pos hc] at hev ⊢
    dsimp only at hev ⊢
    simp only [List.mem_append, not_or] at hev
    rw [hiE] at hev
    obtain ⟨hgA, hgP⟩ := getCounter_snd c rd w k' k hev.2
    refine ⟨?_, ?_⟩
    · rw [dfind_ddel, dfind_dset, hiA, hgA]
      by_cases hk : k' = k
      · rw [if_pos hk, if_pos hk, if_pos hc]
      · simp only [if_neg hk]
    · rw [dfind_dadd _ _ _ _ _ hev.1, hiP, hgP]
      simp only [hc, true_and]
      rfl
  · -- else: counter stored back
    rw [if_neg hc] at hev ⊢
    rw [hiE] at hev
    obtain ⟨hgA, hgP⟩ := getCounter_snd c rd w k' k hev
    refine ⟨?_, ?_⟩
    · rw [dfind_dset, hiA, hgA]
      by_cases hk : k' = k
      · simp only [if_pos hk, if_neg hc, Option.map_some]
        rfl
      · simp only [if_neg hk]
    · rw [hiP, hgP, if_neg (fun h => hc h.1)]

theorem recordAccess_frame (c : Cfg) (rd : Nat → Nat) (w : W) {k k' : Key} (h : k' ≠ k)
    (hev : k ∉ (recordAccess c rd w k').ev) :
    dfind (recordAccess c rd w k').access k = dfind w.access k ∧
    dfind (recordAccess c rd w k').prison k = dfind w.prison k := by
  have ⟨hA, hP⟩ := recordAccess_view c rd w k' k hev
  rw [if_neg h] at hA
  rw [if_neg fun x => h x.2] at hP
  exact ⟨hA, hP⟩

theorem recordAndCheck_frame (c : Cfg) (s : St) (rd : Nat → Nat) {k k' : Key} (h : k' ≠ k)
    (hev : k ∉ (recordAndCheck c s k' rd).ev) :
    view (recordAndCheck c s k' rd).st k = view s k := by
  have ha := fun w => (shouldDeny_keeps rd w k').1
  have hp := fun w => shouldDeny_frame rd w h
  unfold recordAndCheck at *
  dsimp only at *
  split at hev <;> rename_i hd
  · simp only [if_pos hd, view, ha, hp]
  · rw [(shouldDeny_keeps rd _ k').2] at hev
    obtain ⟨hA, hP⟩ := recordAccess_frame c rd _ h hev
    simp only [if_neg hd, view, ha, hp, hA, hP]

theorem incAndCheck_instant (c : Cfg) (t : Nat) (w : W) (f : Counter) :
    (incAndCheck c (fun _ => t) w f).1 =
      (if f.stime + c.cp < t then ⟨1, t⟩ else ⟨f.count + 1, f.stime⟩) ∧
    (incAndCheck c (fun _ => t) w f).2.1 = (incAndCheck c (fun _ => t) w f).1.stime + c.cp - t := by
  unfold incAndCheck
  dsimp only
  split <;> simp

/-- window start and count that the request at `t` adds to (the `sn` of `specCount`), read off the stored counter -/
def snOf (c : Cfg) (t : Nat) : Option Counter → Nat × Nat
  | some f => if f.stime + c.cp < t then (t, 0) else (f.stime, f.count)
  | none => (t, 0)

theorem counter_after (c : Cfg) (t : Nat) (w : W) (k : Key) :
    (incAndCheck c (fun _ => t) (getCounter c (fun _ => t) w k).2 (getCounter c (fun _ => t) w k).1).1 =
      ⟨(snOf c t (dfind w.access k)).2 + 1, (snOf c t (dfind w.access k)).1⟩ := by
  rw [(incAndCheck_instant c t _ _).1, getCounter_fst]
  cases dfind w.access k with
  | some f =>
    simp only [snOf, Option.getD_some]
    split <;> rfl
  | none => simp [snOf]

/-- the model's free time equals the ideal one when all reads of the call coincide -/
theorem freeTime_eq (c : Cfg) (t : Nat) (A : Option Counter) :
    c.stay + ((snOf c t A).1 + c.cp - t) + t = (snOf c t A).1 + c.cp + c.stay := by
  have : t ≤ (snOf c t A).1 + c.cp := by
    cases A with
    | none => simp [snOf]
    | some f =>
      simp only [snOf]
      split <;> simp <;> omega
  omega

theorem recordAccess_self (c : Cfg) (t : Nat) (w : W) (k : Key)
    (hev : k ∉ (recordAccess c (fun _ => t) w k).ev) :
    let sn := snOf c t (dfind w.access k)
    dfind (recordAccess c (fun _ => t) w k).access k =
      (if sn.2 + 1 > c.th then none else some ⟨sn.2 + 1, sn.1⟩) ∧
    dfind (recordAccess c (fun _ => t) w k).prison k =
      (if sn.2 + 1 > c.th then some (sn.1 + c.cp + c.stay) else dfind w.prison k) := by
  have ⟨hA, hP⟩ := recordAccess_view c (fun _ => t) w k k hev
  have hf := counter_after c t w k
  rw [if_pos rfl, hf] at hA
  simp only [and_true, (incAndCheck_instant c t _ _).2, hf, freeTime_eq] at hP
  exact ⟨hA, hP⟩

theorem specCount_sn (c : Cfg) (ks : KS) (t : Nat) (A : Option Counter) (h : Rel (A, none) ks) :
    specCount c ks t =
      if (snOf c t A).2 + 1 > c.th then
        (if t < (snOf c t A).1 + c.cp + c.stay then (true, .jailed ((snOf c t A).1 + c.cp + c.stay)) else (false, .idle))
      else (false, .counting (snOf c t A).1 ((snOf c t A).2 + 1)) := by
  cases ks with
  | idle => cases h; rfl
  | counting s n =>
    cases h.1
    simp only [specCount, snOf]
  | jailed u => cases h

/-- the first `shouldDeny` let the request through and left `w`: what remains, `recordAccess` and the second
    `shouldDeny`, is `specCount` -/
theorem step_refines_of_pass (c : Cfg) (s : St) (k : Key) (t : Nat) (ks : KS) (w : W)
    (h : shouldDeny (fun _ => t) { access := s.access, prison := s.prison } k = (false, w))
    (hR : Rel (dfind w.access k, none) ks) (hP : dfind w.prison k = none)
    (hev : k ∉ (recordAndCheck c s k (fun _ => t)).ev) :
    (recordAndCheck c s k (fun _ => t)).deny = (specCount c ks t).1 ∧
    Rel (view (recordAndCheck c s k (fun _ => t)).st k) (specCount c ks t).2 := by
  simp only [recordAndCheck, h, Bool.false_eq_true, if_false, view] at hev ⊢
  have ha := (shouldDeny_keeps (fun _ => t) (recordAccess c (fun _ => t) w k) k).1
  rw [(shouldDeny_keeps _ _ _).2] at hev
  have hra := recordAccess_self c t w k hev
  rw [specCount_sn c ks t _ hR, ha]
  by_cases hcnt : (snOf c t (dfind w.access k)).2 + 1 > c.th
  · simp only [if_pos hcnt] at hra
    have hs := shouldDeny_some (fun _ => t) _ k _ hra.2
    rw [if_pos hcnt, hs.1, hs.2, hra.1]
    by_cases hlt : t < (snOf c t (dfind w.access k)).1 + c.cp + c.stay <;> simp [hlt, Rel]
  · simp only [if_neg hcnt, hP] at hra
    rw [if_neg hcnt, shouldDeny_none _ _ _ hra.2, hra.1, hra.2]
    exact ⟨rfl, rfl, Nat.succ_pos _⟩

theorem step_refines (c : Cfg) (s : St) (k : Key) (t : Nat) (ks : KS)
    (hR : Rel (view s k) ks) (hev : k ∉ (recordAndCheck c s k (fun _ => t)).ev) :
    (recordAndCheck c s k (fun _ => t)).deny = (specStep c ks t).1 ∧
    Rel (view (recordAndCheck c s k (fun _ => t)).st k) (specStep c ks t).2 := by
  -- `Rel v .idle` / `.jailed u` is an equation of pairs, `Rel v (.counting ..)` one with a side condition
  cases ks with
  | idle =>
    have hP : dfind s.prison k = none := (Prod.mk.inj hR).2
    exact step_refines_of_pass c s k t .idle _ (shouldDeny_none _ _ _ hP) (hP ▸ hR) hP hev
  | counting st n =>
    have hP : dfind s.prison k = none := (Prod.mk.inj hR.1).2
    exact step_refines_of_pass c s k t (.counting st n) _ (shouldDeny_none _ _ _ hP) (hP ▸ hR) hP hev
  | jailed u =>
    obtain ⟨hA, hP⟩ := Prod.mk.inj hR
    have hs := shouldDeny_some (fun _ => t) { access := s.access, prison := s.prison } k u hP
    have ha := (shouldDeny_keeps (fun _ => t) { access := s.access, prison := s.prison } k).1
    by_cases hlt : t < u
    · have hd : (shouldDeny (fun _ => t) { access := s.access, prison := s.prison } k).1 = true := by
        rw [hs.1, decide_eq_true hlt]
      simp only [recordAndCheck, hd, if_true, specStep, hlt, view, Rel]
      rw [ha, hs.2, if_pos hlt, hA]
      exact ⟨trivial, rfl⟩
    · have hd : shouldDeny (fun _ => t) { access := s.access, prison := s.prison } k = (false, _) :=
        Prod.ext (by rw [hs.1, decide_eq_false hlt]) rfl
      simp only [specStep, if_neg hlt]
      refine step_refines_of_pass c s k t .idle _ hd ?_ ?_ hev
      · rw [ha, hA]; rfl
      · rw [hs.2, if_neg hlt]

theorem specRun_append (c : Cfg) : ∀ (a b : List Nat) (ks : KS),
    specRun c ks (a ++ b) =
      ((specRun c ks a).1 ++ (specRun c (specRun c ks a).2 b).1, (specRun c (specRun c ks a).2 b).2)
  | [], _, _ => rfl
  | t :: r, b, ks => by simp [specRun, specRun_append c r b]

theorem specStep_same (c : Cfg) {s t : Nat} (n : Nat) (hw : ¬ s + c.cp < t) (hn : n + 1 ≤ c.th) :
    specStep c (.counting s n) t = (false, .counting s (n + 1)) := by
  simp only [specStep, specCount, if_neg hw]
  exact if_neg (Nat.not_lt.mpr hn)

theorem specStep_new (c : Cfg) {s t n : Nat} (hw : s + c.cp < t) (hn : 1 ≤ c.th) :
    specStep c (.counting s n) t = (false, .counting t 1) := by
  simp only [specStep, specCount, if_pos hw]
  exact if_neg (Nat.not_lt.mpr hn)

theorem count_phase (c : Cfg) (s : Nat) : ∀ (ts : List Nat) (n : Nat),
    (∀ t ∈ ts, t ≤ s + c.cp) → n + ts.length ≤ c.th →
    specRun c (.counting s n) ts = (List.replicate ts.length false, .counting s (n + ts.length))
  | [], _, _, _ => rfl
  | t :: r, n, hin, hle => by
    have ⟨ht, hr⟩ := List.forall_mem_cons.mp hin
    rw [List.length_cons] at hle
    simp only [specRun, specStep_same c n (Nat.not_lt.mpr ht) (by omega), count_phase c s r (n + 1) hr (by omega),
      List.length_cons, List.replicate_succ, Nat.add_assoc, Nat.add_comm 1]

theorem jailed_phase (c : Cfg) (u : Nat) : ∀ (ts : List Nat), (∀ t ∈ ts, t < u) →
    specRun c (.jailed u) ts = (List.replicate ts.length true, .jailed u)
  | [], _ => rfl
  | t :: r, hin => by
    have ⟨ht, hr⟩ := List.forall_mem_cons.mp hin
    simp [specRun, specStep, ht, jailed_phase c u r hr, List.replicate_succ]

theorem specRun_idle (c : Cfg) (t : Nat) (ts : List Nat) :
    specRun c .idle (t :: ts) = specRun c (.counting t 0) (t :: ts) := by
  have h : specStep c .idle t = specStep c (.counting t 0) t := by simp [specStep, specCount]
  simp only [specRun, h]

theorem filter_window (cp t : Nat) (l : List Nat) (h : ∀ x ∈ l, t ≤ x) :
    l.filter (fun x => decide (t ≤ x) && decide (x ≤ t + cp)) = l.filter (fun x => decide (x ≤ t + cp)) :=
  List.filter_congr fun x hx => by simp [h x hx]

/-- makes the premise `hH` of `C53_below_never_partial` one over `s < m`, which `decide` can check -/
theorem window_bounded {cp th m : Nat} {l : List Nat} (hm : ∀ x ∈ l, x < m)
    (h : ∀ s < m, (l.filter (fun x => decide (s ≤ x) && decide (x ≤ s + cp))).length ≤ th) (s : Nat) :
    (l.filter (fun x => decide (s ≤ x) && decide (x ≤ s + cp))).length ≤ th := by
  by_cases hs : s < m
  · exact h s hs
  · have hx : ∀ x ∈ l, ¬ (decide (s ≤ x) && decide (x ≤ s + cp)) = true := fun x hx hc =>
      hs (Nat.lt_of_le_of_lt (of_decide_eq_true (Bool.and_eq_true_iff.mp hc).1) (hm x hx))
    rw [List.filter_eq_nil_iff.mpr hx]
    exact Nat.zero_le _

/-- invariant: the count `n` of the open window `[s, s+cp]` plus the remaining times inside it stay ≤ threshold -/
theorem below_never_aux (c : Cfg) : ∀ (ts : List Nat) (s n : Nat),
    List.Pairwise (· ≤ ·) ts →
    (∀ s', (ts.filter (fun x => decide (s' ≤ x) && decide (x ≤ s' + c.cp))).length ≤ c.th) →
    n + (ts.filter (fun x => decide (x ≤ s + c.cp))).length ≤ c.th →
    (specRun c (.counting s n) ts).1 = List.replicate ts.length false := by
  intro ts
  induction ts with
  | nil => exact fun _ _ _ _ _ => rfl
  | cons t r ih =>
    intro s n hp hH hcnt
    have ⟨hpt, hpr⟩ := List.pairwise_cons.mp hp
    have hHr : ∀ s', (r.filter (fun x => decide (s' ≤ x) && decide (x ≤ s' + c.cp))).length ≤ c.th :=
      fun s' => Nat.le_trans (by rw [List.filter_cons]; split <;> simp) (hH s')
    by_cases hre : s + c.cp < t
    · -- the window expired: a new one starts at `t`, and `hH t` bounds what it will hold
      have hHt := hH t
      rw [filter_window c.cp t _ (List.forall_mem_cons.mpr ⟨Nat.le_refl t, hpt⟩), List.filter_cons,
        if_pos (by simp), List.length_cons] at hHt
      simp only [specRun, specStep_new c hre (by omega), ih t 1 hpr hHr (by omega), List.length_cons,
        List.replicate_succ]
    · -- still inside the window: `t` moves from the filter into the count
      rw [List.filter_cons, if_pos (by simpa using hre), List.length_cons] at hcnt
      simp only [specRun, specStep_same c n hre (by omega), ih s (n + 1) hpr hHr (by omega), List.length_cons,
        List.replicate_succ]

/-- in `{ rules := rs }` every other field is at its default: no verdict, nothing evicted, no time compared -/
theorem processRules_skip (q : ReqM) (rs : List RuleM)
    (h : ∀ r ∈ rs, (r.needSel && !q.sel) = true ∨ q.key r.sign r.needSel = none) :
    processRules q rs = { rules := rs } := by
  induction rs with
  | nil => rfl
  | cons r rs ih =>
    rw [processRules, ih fun x hx => h x (List.mem_cons_of_mem _ hx)]
    split
    · rfl
    · rcases h r List.mem_cons_self with h0 | h0
      · contradiction
      · rw [h0]

end BfeVerif.C53
