import BfeVerif.C21.Model
/-! C21: FixedBuffer facts and what each Pipe method does case by case; on these the invariant of one pipe with one
    reader (`Inv`, `inv_step`), carried to lifecycles over the buffer pool (`WInv`) and, through the shared `Ledger`, to
    several readers (`MInv`); beside it what `C21_progress` and the trace statements need (`woken_returns`,
    `step_effects`, `run_ghost`). -/
namespace BfeVerif.C21

def FB.wf (b : FB) : Prop := b.r + b.data.length ≤ b.cap

theorem FB.write_data (b : FB) (p : List UInt8) :
    (b.write p).1.data = b.data ++ p.take (b.write p).2.1 := by
  unfold FB.write; split <;> rfl

theorem FB.write_n_le (b : FB) (p : List UInt8) : (b.write p).2.1 ≤ p.length :=
  Nat.min_le_left _ _

theorem FB.write_full (b : FB) (p : List UInt8) :
    (b.write p).2.2 = decide ((b.write p).2.1 < p.length) := rfl

theorem FB.write_cap (b : FB) (p : List UInt8) : (b.write p).1.cap = b.cap := by
  unfold FB.write; split <;> rfl

theorem FB.write_wf (b : FB) (p : List UInt8) (h : b.wf) : (b.write p).1.wf := by
  -- `n ≤ cap - w` bytes are appended behind `w ≤ cap`, before or after the slide
  have fits (r : Nat) (hr : r + b.data.length ≤ b.cap) :
      r + (b.data ++ p.take (min p.length (b.cap - (r + b.data.length)))).length ≤ b.cap := by
    rw [List.length_append, List.length_take, ← Nat.add_assoc]
    exact Nat.le_trans (Nat.add_le_add_left (Nat.le_trans (Nat.min_le_left _ _) (Nat.min_le_right _ _)) _)
      (Nat.le_of_eq (Nat.add_sub_cancel' hr))
  unfold FB.write FB.w
  split
  · exact fits 0 (Nat.le_trans (Nat.add_le_add_right (Nat.zero_le _) _) h)
  · exact fits b.r h

/-- the slide makes the whole free space usable -/
theorem FB.write_n (b : FB) (p : List UInt8) :
    (b.write p).2.1 = min p.length (b.cap - b.data.length) := by
  unfold FB.write FB.w
  split
  · show min p.length (b.cap - (0 + b.data.length)) = _
    rw [Nat.zero_add]
  · rename_i hs
    show min p.length (b.cap - (b.r + b.data.length)) = _
    rcases Nat.eq_zero_or_pos b.r with h0 | hpos
    · rw [h0, Nat.zero_add]
    · -- no slide although `r > 0`: the bytes fit behind `w`
      have hle : p.length ≤ b.cap - (b.r + b.data.length) := Nat.le_of_not_lt fun hlt => hs ⟨hpos, hlt⟩
      rw [Nat.min_eq_left hle,
        Nat.min_eq_left (Nat.le_trans hle (Nat.sub_le_sub_left (Nat.le_add_left _ _) _))]

theorem FB.read_out (b : FB) (n : Nat) : (b.read n).2 = b.data.take n := List.take_eq_take_min.symm

theorem FB.read_data (b : FB) (n : Nat) : (b.read n).1.data = b.data.drop n := by
  rw [List.drop_eq_drop_min]
  unfold FB.read
  dsimp only
  split
  · rename_i he; exact (List.isEmpty_iff.mp he).symm
  · rfl

theorem FB.read_split (b : FB) (n : Nat) : b.data = (b.read n).2 ++ (b.read n).1.data := by
  rw [FB.read_out, FB.read_data, List.take_append_drop]

theorem FB.read_cap (b : FB) (n : Nat) : (b.read n).1.cap = b.cap := by
  unfold FB.read; dsimp only; split <;> rfl

theorem FB.read_wf (b : FB) (n : Nat) (h : b.wf) : (b.read n).1.wf := by
  unfold FB.wf at *
  unfold FB.read
  dsimp only
  split
  · exact Nat.zero_le _
  · dsimp only; rw [List.length_drop]; omega

/-- nothing for a reader to return: exactly the condition under which `Read` parks -/
def Pipe.quiet (p : Pipe) : Prop := p.breakErr = none ∧ p.err = none ∧ p.hasData = false

theorem write_closed (p : Pipe) (d : List UInt8) (h : p.err.isSome ∨ p.b = none) :
    p.write d = (p, 0, .closed) := by
  unfold Pipe.write
  rcases h with h | h
  · rw [if_pos h]
  · rw [h]; exact ite_self _

theorem write_open (p : Pipe) (d : List UInt8) (fb : FB) (he : p.err = none) (hb : p.b = some fb) :
    p.write d = ({ p with b := some (fb.write d).1 }, (fb.write d).2.1,
      if (fb.write d).2.2 then .full else .none) := by
  unfold Pipe.write
  rw [he, hb]; rfl

theorem write_cases (p : Pipe) (d : List UInt8) :
    p.write d = (p, 0, .closed) ∨ ∃ fb, p.err = none ∧ p.b = some fb ∧
      p.write d = ({ p with b := some (fb.write d).1 }, (fb.write d).2.1,
        if (fb.write d).2.2 then .full else .none) := by
  rcases Option.eq_none_or_eq_some p.err with he | ⟨e, he⟩
  · rcases Option.eq_none_or_eq_some p.b with hb | ⟨fb, hb⟩
    · exact .inl (write_closed p d (.inr hb))
    · exact .inr ⟨fb, he, hb, write_open p d fb he hb⟩
  · exact .inl (write_closed p d (.inl (by rw [he]; rfl)))

theorem close_cases (p : Pipe) (e : Err) (fn : Bool) :
    (p.err = none ∧ p.close e fn = { p with readFn := fn, err := some e, donec := closeDone p.donec }) ∨
    (p.err = some 0 ∧ p.close e fn = { p with err := some e }) ∨
    (p.err.isSome ∧ p.close e fn = p) := by
  unfold Pipe.close
  cases p.err with
  | none => exact .inl ⟨rfl, rfl⟩
  | some old =>
    by_cases h0 : old = 0
    · exact .inr (.inl ⟨by rw [h0], if_pos h0⟩)
    · exact .inr (.inr ⟨rfl, if_neg h0⟩)

theorem brk_cases (p : Pipe) (e : Err) :
    (p.breakErr = none ∧ p.brk e = { p with readFn := false, breakErr := some e, donec := closeDone p.donec }) ∨
    (p.breakErr = some 0 ∧ p.brk e = { p with breakErr := some e }) ∨
    (p.breakErr.isSome ∧ p.brk e = p) := by
  unfold Pipe.brk
  cases p.breakErr with
  | none => exact .inl ⟨rfl, rfl⟩
  | some old =>
    by_cases h0 : old = 0
    · exact .inr (.inl ⟨by rw [h0], if_pos h0⟩)
    · exact .inr (.inr ⟨rfl, if_neg h0⟩)

theorem done_cases (p : Pipe) :
    p.done.1 = p ∨ (p.donec = none ∧ p.done.1 = { p with donec := some (p.err.isSome || p.breakErr.isSome) }) := by
  unfold Pipe.done
  cases p.donec with
  | some c => exact .inl rfl
  | none => exact .inr ⟨rfl, rfl⟩

theorem readTry_cases (p : Pipe) (n : Nat) :
    (∃ e, p.breakErr = some e ∧ p.readTry n = (p, .err e false)) ∨
    (∃ fb, p.breakErr = none ∧ p.b = some fb ∧ fb.len > 0 ∧
        p.readTry n = ({ p with b := some (fb.read n).1 }, .data (fb.read n).2)) ∨
    (∃ e, p.breakErr = none ∧ p.hasData = false ∧ p.err = some e ∧
        p.readTry n = ({ p with readFn := false }, .err e p.readFn)) ∨
    (p.quiet ∧ p.readTry n = (p, .wait)) := by
  obtain ⟨b, err, brk, rf, dc⟩ := p
  unfold Pipe.readTry Pipe.quiet Pipe.hasData
  dsimp only
  cases brk with
  | some e => exact .inl ⟨e, rfl, rfl⟩
  | none =>
    cases b with
    | none =>
      cases err with
      | some e => exact .inr (.inr (.inl ⟨e, rfl, rfl, rfl, rfl⟩))
      | none => exact .inr (.inr (.inr ⟨⟨rfl, rfl, rfl⟩, rfl⟩))
    | some fb =>
      dsimp only
      by_cases hl : fb.len > 0
      · exact .inr (.inl ⟨fb, rfl, rfl, hl, if_pos hl⟩)
      · rw [if_neg hl]
        cases err with
        | some e => exact .inr (.inr (.inl ⟨e, rfl, decide_eq_false hl, rfl, rfl⟩))
        | none => exact .inr (.inr (.inr ⟨⟨rfl, rfl, decide_eq_false hl⟩, rfl⟩))

def Pipe.doneOk (p : Pipe) : Prop := ∀ c, p.donec = some c → c = (p.err.isSome || p.breakErr.isSome)

theorem closeDone_eq (d : Option Bool) (c : Bool) (h : closeDone d = some c) : c = true := by
  cases d with
  | none => cases h
  | some _ => exact (Option.some.inj h).symm

theorem close_b (p : Pipe) (e : Err) (fn : Bool) : (p.close e fn).b = p.b := by
  rcases close_cases p e fn with ⟨_, hr⟩ | ⟨_, hr⟩ | ⟨_, hr⟩ <;> rw [hr]
theorem brk_b (p : Pipe) (e : Err) : (p.brk e).b = p.b := by
  rcases brk_cases p e with ⟨_, hr⟩ | ⟨_, hr⟩ | ⟨_, hr⟩ <;> rw [hr]

theorem close_err (p : Pipe) (e : Err) (fn : Bool) : (p.close e fn).err.isSome := by
  rcases close_cases p e fn with ⟨_, hr⟩ | ⟨_, hr⟩ | ⟨he, hr⟩ <;> rw [hr]
  · rfl
  · rfl
  · exact he
theorem brk_breakErr (p : Pipe) (e : Err) : (p.brk e).breakErr.isSome := by
  rcases brk_cases p e with ⟨_, hr⟩ | ⟨_, hr⟩ | ⟨he, hr⟩ <;> rw [hr]
  · rfl
  · rfl
  · exact he

theorem close_done {p : Pipe} (e : Err) (fn : Bool) (h : p.doneOk) : (p.close e fn).doneOk := by
  rcases close_cases p e fn with ⟨_, hr⟩ | ⟨he, hr⟩ | ⟨_, hr⟩ <;> rw [hr]
  · exact fun c hc => closeDone_eq _ c hc
  · intro c hc; rw [h c hc, he]; rfl
  · exact h
theorem brk_done {p : Pipe} (e : Err) (h : p.doneOk) : (p.brk e).doneOk := by
  rcases brk_cases p e with ⟨_, hr⟩ | ⟨he, hr⟩ | ⟨_, hr⟩ <;> rw [hr]
  · exact fun c hc => (closeDone_eq _ c hc).trans (Bool.or_true _).symm
  · intro c hc; rw [h c hc, he]; rfl
  · exact h

def bufData : Option FB → List UInt8
  | some fb => fb.data
  | none => []

theorem hasData_false {p : Pipe} : p.hasData = false ↔ bufData p.b = [] := by
  unfold Pipe.hasData
  cases p.b with
  | none => exact ⟨fun _ => rfl, fun _ => rfl⟩
  | some fb => exact decide_eq_false_iff_not.trans (Nat.not_lt.trans (Nat.le_zero.trans List.length_eq_zero_iff))

/-- all bytes of a ledger: whatever left the buffer, returned by a Read (tag `true`) or dropped by Discard / Release -/
def gone (l : List (UInt8 × Bool)) : List UInt8 := l.map Prod.fst
def kept (l : List (UInt8 × Bool)) : List UInt8 := (l.filter (·.2)).map Prod.fst

theorem gone_append (l : List (UInt8 × Bool)) (bs : List UInt8) (t : Bool) :
    gone (l ++ bs.map (·, t)) = gone l ++ bs := by
  simp [gone, List.map_map, Function.comp_def]
theorem kept_append_true (l : List (UInt8 × Bool)) (bs : List UInt8) :
    kept (l ++ bs.map (·, true)) = kept l ++ bs := by
  simp [kept, List.filter_map, List.map_map, Function.comp_def]
theorem kept_append_false (l : List (UInt8 × Bool)) (bs : List UInt8) :
    kept (l ++ bs.map (·, false)) = kept l := by
  simp [kept, List.filter_map, Function.comp_def]
theorem kept_sublist_gone (l : List (UInt8 × Bool)) : (kept l).Sublist (gone l) := by
  unfold kept gone
  exact (List.filter_sublist).map _
theorem kept_eq_gone (l : List (UInt8 × Bool)) (h : ∀ x ∈ l, x.2 = true) : kept l = gone l := by
  unfold kept gone
  rw [List.filter_eq_self.mpr h]

/-- the ghost bookkeeping, over the lists themselves: `Inv` and `MInv` both instantiate it (`del`: `Sys.delivered`, or the
    pieces of `MSys.order`) -/
structure Ledger (acc del : List UInt8) (l : List (UInt8 × Bool)) (b : Option FB) : Prop where
  fifo : acc = gone l ++ bufData b
  del : del = kept l
  wf : ∀ fb, b = some fb → fb.wf

theorem Ledger.new {fb : FB} (he : fb.data = [] ∧ fb.r = 0) : Ledger [] [] [] (some fb) :=
  ⟨he.1.symm, rfl, fun _ h => by cases h; unfold FB.wf; rw [he.1, he.2]; exact Nat.zero_le _⟩

section ledger
variable {acc del : List UInt8} {l : List (UInt8 × Bool)}

theorem Ledger.write {p : Pipe} (h : Ledger acc del l p.b) (d : List UInt8) :
    Ledger (acc ++ d.take (p.write d).2.1) del l (p.write d).1.b := by
  rcases write_cases p d with hr | ⟨fb, he, hb, hr⟩ <;> rw [hr]
  · exact ⟨(List.append_nil _).trans h.fifo, h.del, h.wf⟩
  · have hf := h.fifo
    rw [hb] at hf
    exact ⟨by rw [hf, List.append_assoc]; exact congrArg _ (FB.write_data fb d).symm, h.del,
      fun _ hfb => by cases hfb; exact FB.write_wf _ _ (h.wf fb hb)⟩

theorem Ledger.read {b : Option FB} {fb : FB} (hb : b = some fb) (h : Ledger acc del l b) (n : Nat) :
    Ledger acc (del ++ (fb.read n).2) (l ++ (fb.read n).2.map (·, true)) (some (fb.read n).1) := by
  subst hb
  exact ⟨by rw [gone_append, List.append_assoc]; exact h.fifo.trans (congrArg _ (FB.read_split fb n)),
    by rw [kept_append_true, h.del],
    fun _ hfb => by cases hfb; exact FB.read_wf _ _ (h.wf fb rfl)⟩

/-- Release leaves no buffer, Discard the emptied one -/
theorem Ledger.drop {b b' : Option FB} {fb : FB} (hb : b = some fb) (h : Ledger acc del l b)
    (hb' : b' = none ∨ b' = some fb.reset) :
    Ledger acc del (l ++ fb.data.map (·, false)) b' := by
  subst hb
  refine ⟨?_, by rw [kept_append_false]; exact h.del, fun fb' hfb => ?_⟩
  · rw [gone_append]
    rcases hb' with rfl | rfl <;> exact h.fifo.trans (List.append_nil _).symm
  · rcases hb' with rfl | rfl <;> cases hfb
    exact Nat.zero_le _

end ledger

/-- `wake` is the concurrency invariant: a parked reader has nothing to return -/
structure Inv (s : Sys) : Prop extends Ledger s.accepted s.delivered s.ledger s.p.b where
  wake : ∀ n, s.rd = .waiting n → s.p.quiet
  done : s.p.doneOk

theorem inv_fromBuffer {fb : FB} (he : fb.data = [] ∧ fb.r = 0) : Inv (Sys.fromBuffer fb) :=
  ⟨.new he, nofun, nofun⟩

theorem inv_init (cap : Nat) : Inv (Sys.init cap) := inv_fromBuffer ⟨rfl, rfl⟩

theorem signal_frame (s : Sys) : signal s = { s with rd := (signal s).rd } := by
  unfold signal; split <;> rfl

theorem signal_not_waiting (s : Sys) (n : Nat) : (signal s).rd ≠ .waiting n := by
  unfold signal; split
  · exact nofun
  · rename_i hnw; exact hnw n

theorem signal_waiting {s : Sys} {n : Nat} (h : s.rd = .waiting n) : signal s = { s with rd := .ready n } := by
  unfold signal; rw [h]

/-- no hypothesis for `wake`: after `signal` nobody is `waiting`, and every action that can end quietness ends here -/
theorem inv_signal {s : Sys} (led : Ledger s.accepted s.delivered s.ledger s.p.b) (done : s.p.doneOk) :
    Inv (signal s) := by
  rw [signal_frame]
  exact { led with done, wake := fun n hn => absurd hn (signal_not_waiting s n) }

theorem step_crashed {s : Sys} (h : s.crashed = true) (a : Act) : s.step a = (s, .disabled) := by
  unfold Sys.step; rw [if_pos h]

theorem inv_drop {s : Sys} (h : Inv s) {fb : FB} (hb : s.p.b = some fb) {b' : Option FB}
    (hb' : b' = none ∨ b' = some fb.reset) :
    Inv { s with p := { s.p with b := b' }, ledger := s.ledger ++ fb.data.map (·, false) } :=
  { h.toLedger.drop hb hb' with
    wake := fun n hn =>
      let ⟨hbrk, herr, _⟩ := h.wake n hn
      ⟨hbrk, herr, by rcases hb' with rfl | rfl <;> rfl⟩
    done := h.done }

theorem inv_step (s : Sys) (a : Act) (h : Inv s) : Inv (s.step a).1 := by
  cases hc : s.crashed with
  | true => rw [step_crashed hc]; exact h
  | false =>
  unfold Sys.step
  rw [if_neg (Bool.eq_false_iff.mp hc)]
  cases a <;> dsimp only
  case write d =>
    exact inv_signal (h.toLedger.write d)
      (by rcases write_cases s.p d with hr | ⟨fb, _, _, hr⟩ <;> rw [hr] <;> exact h.done)
  case close e fn =>
    exact inv_signal (by rw [close_b]; exact h.toLedger) (close_done e fn h.done)
  case brk e =>
    exact inv_signal (by rw [brk_b]; exact h.toLedger) (brk_done e h.done)
  case release =>
    cases hb : s.p.b with
    | none => exact { h with }  -- `Inv` reads none of the changed fields
    | some fb => exact inv_drop h hb (.inl rfl)
  case discard =>
    cases hb : s.p.b with
    | none => exact { h with }
    | some fb => exact inv_drop h hb (.inr rfl)
  case startRead n =>
    cases s.rd with
    | idle => exact { h with wake := nofun }
    | _ => exact { h with }
  case readerStep =>
    cases hrd : s.rd with
    | ready n =>
      dsimp only
      rcases readTry_cases s.p n with ⟨e, hb, hr⟩ | ⟨fb, hb, hbuf, hl, hr⟩ | ⟨e, hb, hd, he, hr⟩ | ⟨hq, hr⟩ <;>
        rw [hr] <;> dsimp only  -- break / data / close / wait
      · exact { h with wake := nofun }
      · exact { h.toLedger.read hbuf n with wake := nofun, done := h.done }
      · exact { h with wake := nofun }
      · exact { h with wake := fun _ _ => hq }
    | _ => exact { h with }
  case getErr => exact { h with }
  case done =>
    rcases done_cases s.p with hr | ⟨hn, hr⟩ <;> rw [hr]
    · exact { h with }
    · exact { h with done := fun c hc => (Option.some.inj hc).symm }

theorem inv_exec (s : Sys) (as : List Act) (h : Inv s) : Inv (s.exec as) :=
  List.foldlRecOn as _ h fun s hs a _ => inv_step s a hs

theorem step_write {s : Sys} (hc : s.crashed = false) (d : List UInt8) : (s.step (.write d)).1 =
    signal { s with p := (s.p.write d).1, accepted := s.accepted ++ d.take (s.p.write d).2.1 } := by
  unfold Sys.step; rw [if_neg (Bool.eq_false_iff.mp hc)]
theorem step_close {s : Sys} (hc : s.crashed = false) (e : Err) (fn : Bool) :
    (s.step (.close e fn)).1 = signal { s with p := s.p.close e fn } := by
  unfold Sys.step; rw [if_neg (Bool.eq_false_iff.mp hc)]
theorem step_brk {s : Sys} (hc : s.crashed = false) (e : Err) : (s.step (.brk e)).1 = signal { s with p := s.p.brk e } := by
  unfold Sys.step; rw [if_neg (Bool.eq_false_iff.mp hc)]

theorem not_quiet_of_err {p : Pipe} (h : p.err.isSome) : ¬ p.quiet :=
  fun ⟨_, he, _⟩ => by rw [he] at h; cases h

theorem not_quiet_of_break {p : Pipe} (h : p.breakErr.isSome) : ¬ p.quiet :=
  fun ⟨hb, _, _⟩ => by rw [hb] at h; cases h

theorem write_not_quiet (p : Pipe) (d : List UInt8) (hn : (p.write d).2.1 > 0) : ¬ (p.write d).1.quiet := by
  rcases write_cases p d with hr | ⟨fb, _, _, hr⟩ <;> rw [hr] at hn ⊢
  · cases hn
  · intro ⟨_, _, hd⟩
    -- nothing buffered after the write, so nothing was taken
    have h0 := congrArg List.length
      (List.append_eq_nil_iff.mp ((FB.write_data fb d).symm.trans (hasData_false.mp hd))).2
    rw [List.length_take, Nat.min_eq_left (FB.write_n_le fb d)] at h0
    exact Nat.ne_of_gt hn h0

theorem woken_returns (t : Sys) {n : Nat} (hc : t.crashed = false) (hw : t.rd = .waiting n) (hnq : ¬ t.p.quiet) :
    (signal t).rd = .ready n ∧ ((signal t).step .readerStep).2 ≠ .read .wait ∧
      ((signal t).step .readerStep).1.rd = .idle := by
  rw [signal_waiting hw]
  refine ⟨rfl, ?_⟩
  unfold Sys.step
  rw [if_neg (Bool.eq_false_iff.mp hc)]
  dsimp only
  -- a break error, data, or the close error: the reader returns it
  rcases readTry_cases t.p n with ⟨e, _, hr⟩ | ⟨fb, _, _, _, hr⟩ | ⟨e, _, _, _, hr⟩ | ⟨hq, _⟩
  · rw [hr]; exact ⟨nofun, rfl⟩
  · rw [hr]; exact ⟨nofun, rfl⟩
  · rw [hr]; exact ⟨nofun, rfl⟩
  · exact absurd hq hnq

/-- `accepted` / `delivered` as an observer recomputes them from a trace (`run_ghost`): the bytes a Write reports as
    taken, the bytes a Read returns -/
def accOf (a : Act) (o : Obs) : List UInt8 :=
  match a, o with
  | .write d, .wrote n _ => d.take n
  | _, _ => []

def delOf (o : Obs) : List UInt8 :=
  match o with
  | .read (.data bs) => bs
  | _ => []

def obsAccepted : List Act → List Obs → List UInt8
  | a :: as, o :: os => accOf a o ++ obsAccepted as os
  | _, _ => []

def obsDelivered : List Obs → List UInt8
  | o :: os => delOf o ++ obsDelivered os
  | [] => []

/-- one statement because each part needs the walk through all of `Sys.step`; read by `run_ghost`, `C21_break_sticky`,
    `C21_release_safe` -/
theorem step_effects (s : Sys) (a : Act) :
    ((s.step a).1.accepted = s.accepted ++ accOf a (s.step a).2 ∧
      (s.step a).1.delivered = s.delivered ++ delOf (s.step a).2) ∧
    (s.p.breakErr.isSome → (s.step a).1.p.breakErr.isSome) ∧
    ((s.step a).1.crashed = true → s.crashed = true ∨ (a = .release ∧ s.p.b = none)) := by
  -- a step that touches neither ghost list (nor reports a write or data) and does not crash
  have same {s' : Sys} {C : Prop} (hp : s.p.breakErr.isSome → s'.p.breakErr.isSome)
      (ha : s'.accepted = s.accepted := by rfl) (hd : s'.delivered = s.delivered := by rfl)
      (hcr : s'.crashed = s.crashed := by rfl) :
      (s'.accepted = s.accepted ++ [] ∧ s'.delivered = s.delivered ++ []) ∧
      (s.p.breakErr.isSome → s'.p.breakErr.isSome) ∧ (s'.crashed = true → s.crashed = true ∨ C) :=
    ⟨⟨ha.trans (List.append_nil _).symm, hd.trans (List.append_nil _).symm⟩, hp, fun h => .inl (hcr.symm.trans h)⟩
  by_cases hc : s.crashed = true
  · rw [step_crashed hc]; cases a <;> exact same id
  unfold Sys.step
  rw [if_neg hc]
  cases a <;> dsimp only
  case write d =>
    rw [signal_frame]
    refine ⟨⟨rfl, (List.append_nil _).symm⟩, fun h => ?_, .inl⟩
    rcases write_cases s.p d with hr | ⟨fb, _, _, hr⟩ <;> rw [hr] <;> exact h
  case close e fn =>
    rw [signal_frame]
    refine same fun h => ?_
    rcases close_cases s.p e fn with ⟨_, hr⟩ | ⟨_, hr⟩ | ⟨_, hr⟩ <;> rw [hr] <;> exact h
  case brk e =>
    rw [signal_frame]
    exact same fun _ => brk_breakErr s.p e
  case release =>
    cases hb : s.p.b with
    | none => exact ⟨⟨(List.append_nil _).symm, (List.append_nil _).symm⟩, id, fun _ => .inr ⟨rfl, rfl⟩⟩
    | some fb => dsimp only; exact same id
  case discard => cases s.p.b <;> dsimp only <;> exact same id
  case startRead n => cases s.rd <;> dsimp only <;> exact same id
  case readerStep =>
    cases s.rd with
    | ready n =>
      dsimp only
      rcases readTry_cases s.p n with ⟨e, hb, hr⟩ | ⟨fb, hb, hbuf, hl, hr⟩ | ⟨e, hb, hd, he, hr⟩ | ⟨hq, hr⟩ <;>
        rw [hr] <;> dsimp only  -- break / data / close / wait
      · exact same id
      · exact ⟨⟨(List.append_nil _).symm, rfl⟩, id, .inl⟩
      · exact same id
      · exact same id
    | _ => dsimp only; exact same id
  case getErr => exact same id
  case done =>
    refine same (s' := { s with p := s.p.done.1 }) fun h => ?_
    rcases done_cases s.p with hr | ⟨_, hr⟩ <;> rw [hr] <;> exact h

theorem run_ghost (s : Sys) (acts : List Act) :
    (s.run acts).1.accepted = s.accepted ++ obsAccepted acts (s.run acts).2 ∧
    (s.run acts).1.delivered = s.delivered ++ obsDelivered (s.run acts).2 := by
  induction acts generalizing s with
  | nil => simp [Sys.run, obsAccepted, obsDelivered]
  | cons a as ih =>
    have h1 := (step_effects s a).1
    have h2 := ih (s.step a).1
    simp only [Sys.run, obsAccepted, obsDelivered]
    rw [h2.1, h2.2, h1.1, h1.2]
    simp [List.append_assoc]

theorem run_fst (s : Sys) (acts : List Act) : (s.run acts).1 = s.exec acts := by
  unfold Sys.exec
  induction acts generalizing s with
  | nil => rfl
  | cons a as ih => exact ih _

structure WInv (w : World) : Prop where
  poolEmpty : ∀ fb ∈ w.pool, fb.data = [] ∧ fb.r = 0
  pipes : ∀ s ∈ w.pipes, Inv s

theorem winv_init : WInv World.init := ⟨by simp [World.init], by simp [World.init]⟩

theorem forall_mem_snoc {α : Type} {P : α → Prop} {l : List α} {x : α} (hl : ∀ a ∈ l, P a) (hx : P x) :
    ∀ a ∈ l ++ [x], P a := fun a ha =>
  (List.mem_append.mp ha).elim (hl a) fun h1 => List.mem_singleton.mp h1 ▸ hx

theorem winv_step (w : World) (a : WAct) (h : WInv w) : WInv (w.step a) := by
  obtain ⟨hp, hs⟩ := h
  cases a with
  | fresh cap => exact ⟨hp, forall_mem_snoc hs (inv_fromBuffer ⟨rfl, rfl⟩)⟩
  | reuse k =>
    simp only [World.step]
    cases hk : w.pool[k]? with
    | none => exact ⟨hp, hs⟩
    | some fb =>
      exact ⟨fun fb' hm => hp fb' (List.mem_of_mem_eraseIdx hm),
        forall_mem_snoc hs (inv_fromBuffer (hp fb (List.mem_of_getElem? hk)))⟩
  | on i act =>
    simp only [World.step]
    cases hi : w.pipes[i]? with
    | none => exact ⟨hp, hs⟩
    | some s =>
      refine ⟨?_, fun s' hm => ?_⟩
      · -- only a Release puts a buffer into the pool, and it resets it first
        dsimp only
        split
        · exact forall_mem_snoc hp ⟨rfl, rfl⟩
        · exact hp
      · rcases List.mem_or_eq_of_mem_set hm with hm | rfl
        · exact hs s' hm
        · exact inv_step s act (hs s (List.mem_of_getElem? hi))

theorem winv_exec (w : World) (as : List WAct) (h : WInv w) : WInv (w.exec as) :=
  List.foldlRecOn as _ h fun w hw a _ => winv_step w a hw

/-- `Inv` without `wake` (`C21_witness_two_readers`) and `done` -/
def MInv (s : MSys) : Prop := Ledger s.accepted (s.order.map Prod.snd).flatten s.ledger s.p.b

theorem msignal_frame (s : MSys) : msignal s = { s with waitq := (msignal s).waitq, rds := (msignal s).rds } := by
  unfold msignal
  split
  · rfl
  · split <;> rfl

theorem minv_signal {s : MSys} (h : MInv s) : MInv (msignal s) := by
  rw [msignal_frame]; exact h

theorem minv_init (cap k : Nat) : MInv (MSys.init cap k) := .new ⟨rfl, rfl⟩

theorem minv_step (s : MSys) (a : MAct) (h : MInv s) : MInv (s.step a).1 := by
  unfold MSys.step
  cases a <;> dsimp only
  case write d =>
    exact minv_signal (h.write d)
  case close e fn => exact minv_signal (by unfold MInv; rw [close_b]; exact h)
  case brk e => exact minv_signal (by unfold MInv; rw [brk_b]; exact h)
  case discard =>
    cases hb : s.p.b with
    | none => exact h
    | some fb => exact h.drop hb (.inr rfl)
  case startRead i n => split <;> exact h
  case readerStep i =>
    split
    · rename_i n _
      rcases readTry_cases s.p n with ⟨e, hb, hr⟩ | ⟨fb, hb, hbuf, hl, hr⟩ | ⟨e, hb, hd, he, hr⟩ | ⟨hq, hr⟩ <;>
        rw [hr] <;> dsimp only  -- break / data / close / wait
      · exact h
      · unfold MInv
        rw [List.map_append, List.flatten_append,
          show (List.map Prod.snd [(i, (fb.read n).2)]).flatten = (fb.read n).2 from List.append_nil _]
        exact h.read hbuf n
      · exact h
      · exact h
    · exact h

theorem minv_exec (s : MSys) (as : List MAct) (h : MInv s) : MInv (s.exec as) :=
  List.foldlRecOn as _ h fun s hs a _ => minv_step s a hs

def Reachable (s : Sys) : Prop :=
  (∃ cap acts, s = (Sys.init cap).exec acts) ∨ (∃ was, s ∈ (World.init.exec was).pipes)

theorem reachable_inv {s : Sys} (h : Reachable s) : Inv s := by
  rcases h with ⟨cap, acts, rfl⟩ | ⟨was, hm⟩
  · exact inv_exec _ _ (inv_init cap)
  · exact (winv_exec _ was winv_init).pipes s hm

end BfeVerif.C21
