import BfeVerif.C21.Proofs
/-!
  C21 — body pipes deliver data in order exactly once.

  `(Sys.init cap).exec acts` is the state after an arbitrary sequence `acts` of atomic steps: any
  interleaving of one reader thread (`startRead`, `readerStep`) with the critical sections of any
  number of writer/closer threads (`write`, `close`, `brk`, `release`, `discard`, `getErr`, `done`).  Disabled
  steps are no-ops, so quantifying over all `acts` quantifies over all schedules.
  Ghost fields: `accepted` = bytes taken by `Write` calls (`d.take n` for a Write that returned `n`),
  `delivered` = bytes handed out by `Read` calls, `ledger` = every byte that left the buffer, tagged
  delivered / dropped.  `World.init.exec was` is an arbitrary LIFECYCLE: pipes created one after the other
  from a shared buffer pool (`fresh` / `reuse k`), each running its own arbitrary schedule (`on i a`).
-/
namespace BfeVerif.C21

/-- **FIFO / exactly once**: in every schedule the bytes accepted by writes are, in order, the bytes that have left
    the buffer followed by the buffer content, and what reads returned is the part of the former not dropped by an
    explicit Discard / Release — no byte is duplicated or reordered, and none is lost except by an explicit drop. -/
theorem C21_fifo (cap : Nat) (acts : List Act) :
    let s := (Sys.init cap).exec acts
    s.accepted = gone s.ledger ++ bufData s.p.b ∧ s.delivered = kept s.ledger :=
  have h := inv_exec _ acts (inv_init cap)
  ⟨h.fifo, h.del⟩

/-- `hnd`: nothing was dropped (no Discard / Release met unread bytes) -/
theorem C21_fifo_prefix (s : Sys) (hs : Reachable s) (hnd : ∀ x ∈ s.ledger, x.2 = true) :
    s.accepted = s.delivered ++ bufData s.p.b ∧ s.delivered <+: s.accepted := by
  have h := reachable_inv hs
  have h1 : s.accepted = s.delivered ++ bufData s.p.b := by
    rw [h.del, kept_eq_gone _ hnd]; exact h.fifo
  exact ⟨h1, by rw [h1]; exact List.prefix_append _ _⟩

/-- every delivered byte is an accepted byte of THIS pipe, in order, at most once -/
theorem C21_delivered_sublist (s : Sys) (hs : Reachable s) : s.delivered.Sublist s.accepted := by
  have h := reachable_inv hs
  rw [h.del, h.fifo]
  exact (kept_sublist_gone _).trans (List.sublist_append_left _ _)

/-! The same statement on what an outside observer sees (this is what the trace-checking oracle of
    the driver recomputes from the implementation's own results). -/

/-- **FIFO on the observable trace**: in every schedule the concatenation of all bytes returned by
    reads is an in-order sub-sequence of the concatenation of all bytes writes reported as taken. -/
theorem C21_fifo_trace (cap : Nat) (acts : List Act) :
    (obsDelivered ((Sys.init cap).run acts).2).Sublist (obsAccepted acts ((Sys.init cap).run acts).2) := by
  have hg := run_ghost (Sys.init cap) acts
  have hf := C21_delivered_sublist ((Sys.init cap).exec acts) (Or.inl ⟨cap, acts, rfl⟩)
  rw [← run_fst] at hf
  rw [hg.1, hg.2] at hf
  simpa [Sys.init] using hf

theorem C21_drained_all_delivered (s : Sys) (hs : Reachable s) (fb : FB)
    (hb : s.p.b = some fb) (he : fb.data = []) :
    s.accepted = gone s.ledger ∧ ((∀ x ∈ s.ledger, x.2 = true) → s.delivered = s.accepted) := by
  have h := reachable_inv hs
  have h1 : s.accepted = gone s.ledger := by
    have := h.fifo; simpa [hb, bufData, he] using this
  exact ⟨h1, fun hnd => by rw [h.del, kept_eq_gone _ hnd, h1]⟩

/-- a `Read(len n)` that returns data returns exactly the next `min n buffered` bytes still buffered -/
theorem C21_read_returns_next (s : Sys) (hs : Reachable s) (n : Nat) (bs : List UInt8) (s' : Sys)
    (hrd : s.rd = .ready n) (hc : s.crashed = false)
    (hstep : s.step .readerStep = (s', .read (.data bs))) :
    bs = (s.accepted.drop s.ledger.length).take n ∧ s'.delivered = s.delivered ++ bs ∧
      (n > 0 → bs ≠ []) := by
  have hf := (reachable_inv hs).fifo
  unfold Sys.step at hstep
  rw [if_neg (Bool.eq_false_iff.mp hc)] at hstep
  dsimp only at hstep
  rw [hrd] at hstep
  dsimp only at hstep
  rcases readTry_cases s.p n with ⟨e, hb, hr⟩ | ⟨fb, hb, hbuf, hl, hr⟩ | ⟨e, hb, hd, he, hr⟩ | ⟨hq, hr⟩ <;>
    rw [hr] at hstep <;> cases hstep
  rw [hbuf] at hf
  refine ⟨?_, rfl, fun hn h0 => ?_⟩
  · rw [hf, FB.read_out]
    show _ = ((gone s.ledger ++ fb.data).drop s.ledger.length).take n
    have hlen : (gone s.ledger).length = s.ledger.length := List.length_map _
    rw [← hlen, List.drop_left]
  · -- `n > 0` bytes were asked for and the buffer is not empty
    have := congrArg List.length h0
    rw [FB.read_out, List.length_take] at this
    unfold FB.len at hl
    exact absurd this (Nat.ne_of_gt (Nat.lt_min.mpr ⟨hn, hl⟩))

/-- **close after data**: a read reports the close error only when nothing accepted is still buffered:
    every accepted byte was delivered or explicitly dropped (Discard / Release). -/
theorem C21_close_after_data (s : Sys) (hs : Reachable s) (n : Nat) (e : Err) (f : Bool)
    (hbrk : s.p.breakErr = none) (hres : (s.p.readTry n).2 = .err e f) :
    s.p.err = some e ∧ s.accepted = gone s.ledger := by
  have hinv := reachable_inv hs
  rcases readTry_cases s.p n with ⟨e', hb, hr⟩ | ⟨fb, hb, hbuf, hl, hr⟩ | ⟨e', hb, hd, he, hr⟩ | ⟨hq, hr⟩ <;>
    rw [hr] at hres <;> simp at hres
  · rw [hbrk] at hb; cases hb
  · exact ⟨by rw [he, hres.1], by rw [hinv.fifo, hasData_false.mp hd, List.append_nil]⟩

/-- **Discard** drops exactly the buffered bytes and reports their number; the next read blocks or reports the
    pipe's error, never old data -/
theorem C21_discard (s : Sys) (hc : s.crashed = false) :
    (s.step .discard).2 = .discarded (bufData s.p.b).length ∧
    (s.step .discard).1.delivered = s.delivered ∧ (s.step .discard).1.accepted = s.accepted ∧
    bufData (s.step .discard).1.p.b = [] ∧ (s.step .discard).1.p.hasData = false := by
  unfold Sys.step
  rw [if_neg (Bool.eq_false_iff.mp hc)]
  dsimp only
  cases hb : s.p.b with
  | none => exact ⟨rfl, rfl, rfl, congrArg bufData hb, hasData_false.mpr (congrArg bufData hb)⟩
  | some fb => exact ⟨rfl, rfl, rfl, rfl, rfl⟩

/-- the code installed by CloseWithErrorAndCode runs only together with a close-error return (never
    with data, never with a break error) and is forgotten afterwards: it runs at most once -/
theorem C21_readfn_once (p : Pipe) (n : Nat) (e : Err) (h : (p.readTry n).2 = .err e true) :
    p.breakErr = none ∧ p.err = some e ∧ p.readFn = true ∧ (p.readTry n).1.readFn = false := by
  rcases readTry_cases p n with ⟨e', hb, hr⟩ | ⟨fb, hb, hbuf, hl, hr⟩ | ⟨e', hb, hd, he, hr⟩ | ⟨hq, hr⟩ <;>
    rw [hr] at h ⊢ <;> simp at h
  exact ⟨hb, by rw [he, h.1], h.2, rfl⟩

/-- **FixedBuffer is a bounded FIFO**: every exported operation (Write with its slide, Read, Reset) on a well-formed
    buffer is one step of the specification queue of capacity `cap`, results included; in particular the whole free
    space is usable whatever `r` and `w` are. -/
theorem C21_fixedbuffer_refines (b : FB) (op : FOp) (h : b.wf) :
    (b.step op).1.wf ∧ (b.step op).1.cap = b.cap ∧
      ((b.step op).1.data, (b.step op).2) = qStep b.cap b.data op := by
  cases op with
  | w d =>
    refine ⟨FB.write_wf b d h, FB.write_cap b d, ?_⟩
    show ((b.write d).1.data, FRes.wrote (b.write d).2.1 (b.write d).2.2) = _
    rw [FB.write_data, FB.write_full, FB.write_n b d]; rfl
  | r n =>
    unfold FB.step qStep FB.len
    dsimp only
    by_cases he : b.data.length = 0
    · have hd : b.data = [] := List.eq_nil_of_length_eq_zero he
      rw [if_pos he, hd]; exact ⟨h, rfl, rfl⟩
    · have hne : ¬ b.data.isEmpty = true := fun h0 => he (by rw [List.isEmpty_iff.mp h0]; rfl)
      rw [if_neg he, if_neg hne]
      dsimp only
      exact ⟨FB.read_wf b n h, FB.read_cap b n, by rw [← FB.read_data, ← FB.read_out]⟩
  | reset => exact ⟨Nat.zero_le _, rfl, rfl⟩

/-! ### several readers on one pipe (outside the design, which has one reader per body) -/

/-- **conservation with any number of readers**: every accepted byte is still buffered, was dropped explicitly, or
    was returned by exactly one Read of one reader; the pieces in completion order make up the delivered part. -/
theorem C21_multi_reader_fifo (cap k : Nat) (acts : List MAct) :
    let s := (MSys.init cap k).exec acts
    s.accepted = gone s.ledger ++ bufData s.p.b ∧ (s.order.map Prod.snd).flatten = kept s.ledger :=
  have h := minv_exec _ acts (minv_init cap k)
  ⟨h.fifo, h.del⟩

/-- what does NOT hold with two readers: `Signal` wakes one waiter, so after a two-byte write one reader
    takes a byte and returns while the other stays parked although a byte is buffered
    (`C21_no_lost_wakeup` needs the single-reader assumption) -/
theorem C21_witness_two_readers :
    let s := (MSys.init 4 2).exec [.startRead 0 1, .readerStep 0, .startRead 1 1, .readerStep 1,
      .write [1, 2], .readerStep 0]
    s.rds = [.idle, .waiting 1] ∧ s.waitq = [1] ∧ bufData s.p.b = [2] ∧ s.order = [(0, [1])] := by decide +kernel

/-- **a released buffer re-enters the pool empty**, in every lifecycle -/
theorem C21_pool_buffers_empty (was : List WAct) :
    ∀ fb ∈ (World.init.exec was).pool, fb.data = [] ∧ fb.r = 0 :=
  (winv_exec _ was winv_init).poolEmpty

/-- **a fresh pipe starts empty**, whatever buffer the pool hands out -/
theorem C21_fresh_pipe_empty (was : List WAct) (a : WAct) (hnew : (∃ cap, a = .fresh cap) ∨ (∃ k, a = .reuse k))
    (hlen : ((World.init.exec was).step a).pipes.length = (World.init.exec was).pipes.length + 1) :
    ∃ s, ((World.init.exec was).step a).pipes = (World.init.exec was).pipes ++ [s] ∧
      bufData s.p.b = [] ∧ s.accepted = [] ∧ s.delivered = [] ∧ s.p.err = none ∧ s.p.breakErr = none := by
  have hw := winv_exec _ was winv_init
  generalize World.init.exec was = w at hw hlen ⊢
  rcases hnew with ⟨cap, rfl⟩ | ⟨k, rfl⟩
  · exact ⟨_, rfl, by simp [Sys.fromBuffer, bufData]⟩
  · simp only [World.step] at hlen ⊢
    cases hk : w.pool[k]? with
    | none => simp [hk] at hlen
    | some fb =>
      have hmem : fb ∈ w.pool := List.mem_of_getElem? hk
      exact ⟨_, rfl, by simp [Sys.fromBuffer, bufData, (hw.poolEmpty fb hmem).1]⟩

/-- **each pipe delivers exactly the bytes written to THAT pipe**: `C21_fifo` for every pipe of every lifecycle over
    the shared pool — no byte of an earlier owner of the buffer can appear. -/
theorem C21_lifecycle_fifo (was : List WAct) (s : Sys) (hs : s ∈ (World.init.exec was).pipes) :
    s.accepted = gone s.ledger ++ bufData s.p.b ∧ s.delivered = kept s.ledger ∧
      s.delivered.Sublist s.accepted :=
  have h := (winv_exec _ was winv_init).pipes s hs
  ⟨h.fifo, h.del, C21_delivered_sublist s (Or.inr ⟨was, hs⟩)⟩

/-- **break is immediate**: with a break error set, every read returns it at once, whatever is buffered -/
theorem C21_break_immediate (p : Pipe) (e : Err) (n : Nat) (h : p.breakErr = some e) :
    p.readTry n = (p, .err e false) := by
  unfold Pipe.readTry; rw [h]

theorem C21_break_sticky (s : Sys) (a : Act) (h : s.p.breakErr.isSome) : (s.step a).1.p.breakErr.isSome :=
  (step_effects s a).2.1 h

/-- **no silent truncation**: a `Write` that takes fewer bytes than offered says so (`full`/`closed`). -/
theorem C21_no_silent_truncation (p : Pipe) (d : List UInt8) :
    (p.write d).2.1 ≤ d.length ∧
    ((p.write d).2.1 < d.length → (p.write d).2.2 ≠ .none) ∧
    ((p.write d).2.2 = .none → (p.write d).2.1 = d.length) := by
  have hle : (p.write d).2.1 ≤ d.length ∧ ((p.write d).2.1 < d.length → (p.write d).2.2 ≠ .none) := by
    rcases write_cases p d with hr | ⟨fb, _, _, hr⟩ <;> rw [hr]
    · exact ⟨Nat.zero_le _, nofun⟩
    · -- the `full` flag is by definition `n < |d|`
      refine ⟨FB.write_n_le fb d, fun hlt => ?_⟩
      show (if (fb.write d).2.2 = true then WrErr.full else .none) ≠ .none
      rw [FB.write_full, decide_eq_true hlt, if_pos rfl]; exact nofun
  exact ⟨hle.1, hle.2, fun h => Nat.le_antisymm hle.1 (Nat.le_of_not_lt fun hlt => hle.2 hlt h)⟩

/-- an open pipe takes `min |d| free` bytes: sliding makes the whole free space usable, so a write
    that fits is never refused -/
theorem C21_write_takes_what_fits (s : Sys) (hs : Reachable s) (d : List UInt8) (fb : FB)
    (he : s.p.err = none) (hb : s.p.b = some fb) :
    (s.p.write d).2.1 = min d.length (fb.cap - fb.data.length) := by
  rw [write_open _ _ fb he hb]
  exact FB.write_n fb d

/-- `Read` parks exactly when `Pipe.quiet` -/
theorem C21_blocks_iff (p : Pipe) (n : Nat) :
    (p.readTry n).2 = .wait ↔ (p.breakErr = none ∧ p.err = none ∧ p.hasData = false) := by
  rcases readTry_cases p n with ⟨e, hb, hr⟩ | ⟨fb, hb, hbuf, hl, hr⟩ | ⟨e, hb, hd, he, hr⟩ | ⟨hq, hr⟩ <;> rw [hr]
  · exact ⟨nofun, fun ⟨hnb, _, _⟩ => by rw [hnb] at hb; cases hb⟩
  · refine ⟨nofun, fun ⟨_, _, hnd⟩ => ?_⟩
    unfold Pipe.hasData at hnd
    rw [hbuf] at hnd
    exact absurd hl (of_decide_eq_false hnd)
  · exact ⟨nofun, fun ⟨_, hne, _⟩ => by rw [hne] at he; cases he⟩
  · exact ⟨fun _ => hq, fun _ => rfl⟩

/-- **no lost wake-up**: in every schedule, whenever the reader is parked in `c.Wait()` there is
    really nothing it could return (every step that changes that signals under the mutex). -/
theorem C21_no_lost_wakeup (cap : Nat) (acts : List Act) (n : Nat)
    (h : ((Sys.init cap).exec acts).rd = .waiting n) :
    (((Sys.init cap).exec acts).p.readTry n).2 = .wait :=
  (C21_blocks_iff _ n).mpr ((inv_exec _ acts (inv_init cap)).wake n h)

/-- **no deadlock with a live writer**: if the reader is parked and another thread writes at least
    one byte, closes or breaks, the reader is runnable afterwards and its next step returns. -/
theorem C21_progress (s : Sys) (n : Nat) (a : Act) (hc : s.crashed = false) (hw : s.rd = .waiting n)
    (ha : (∃ d, a = .write d ∧ (s.p.write d).2.1 > 0) ∨ (∃ e fn, a = .close e fn) ∨ (∃ e, a = .brk e)) :
    (s.step a).1.rd = .ready n ∧
    (((s.step a).1.step .readerStep).2 ≠ .read .wait) ∧ ((s.step a).1.step .readerStep).1.rd = .idle := by
  -- each of the three actions ends in `signal` of a state that still has the reader parked
  rcases ha with ⟨d, rfl, hn⟩ | ⟨e, fn, rfl⟩ | ⟨e, rfl⟩
  · rw [step_write hc]
    exact woken_returns _ hc hw (write_not_quiet s.p d hn)
  · rw [step_close hc]
    exact woken_returns _ hc hw (not_quiet_of_err (close_err s.p e fn))
  · rw [step_brk hc]
    exact woken_returns _ hc hw (not_quiet_of_break (brk_breakErr s.p e))

/-- **after Release**: the only step that can crash is a *second* `Release` (nil buffer); reads and
    writes on a released pipe are safe (`Write` returns `closed`, `Read` waits for close/break). -/
theorem C21_release_safe (s : Sys) (a : Act) (hc : s.crashed = false) (h : (s.step a).1.crashed = true) :
    a = .release ∧ s.p.b = none :=
  ((step_effects s a).2.2 h).resolve_left (Bool.eq_false_iff.mp hc)

/-- the `Done()` channel, once created, is closed exactly when a close or break error is set -/
theorem C21_done_closed_iff (cap : Nat) (acts : List Act) (c : Bool)
    (h : ((Sys.init cap).exec acts).p.donec = some c) :
    c = (((Sys.init cap).exec acts).p.err.isSome || ((Sys.init cap).exec acts).p.breakErr.isSome) :=
  (inv_exec _ acts (inv_init cap)).done c h

/-- reader parks first, writer wakes it, data arrives in order across a slide of the buffer -/
example :
    ((Sys.init 4).run [.startRead 3, .readerStep, .write [1, 2, 3, 4], .readerStep, .write [5, 6, 7],
        .startRead 9, .readerStep]).2 =
      [.unit, .read .wait, .wrote 4 .none, .read (.data [1, 2, 3]), .wrote 3 .none, .unit,
        .read (.data [4, 5, 6, 7])] := by decide +kernel

/-- close is reported after the data, break at once; an oversized write is cut *and flagged* -/
example :
    ((Sys.init 2).run [.write [1, 2, 3], .close 7 false, .startRead 1, .readerStep, .startRead 1, .readerStep,
        .startRead 1, .readerStep]).2 =
      [.wrote 2 .full, .unit, .unit, .read (.data [1]), .unit, .read (.data [2]), .unit, .read (.err 7 false)] := by
  decide +kernel
example :
    ((Sys.init 2).run [.write [1, 2], .brk 5, .startRead 1, .readerStep]).2 =
      [.wrote 2 .none, .unit, .unit, .read (.err 5 false)] := by decide +kernel

/-- a parked reader exists in reachable states (hypothesis of `C21_no_lost_wakeup` is satisfiable) -/
example : ((Sys.init 4).exec [.startRead 3, .readerStep]).rd = .waiting 3 := by decide +kernel

/-- a second Release crashes (nil buffer): outside the property's quantifier, predicted by the model -/
example : ((Sys.init 4).exec [.release, .release]).crashed = true := by decide +kernel

/-- `Signal` wakes one waiter only: the model deliberately has ONE reader.  (With two parked readers a
    single close would wake only one of them; bfe's callers have one reader per body.) -/
example : ((Sys.init 4).exec [.startRead 3, .readerStep, .close 1 false, .readerStep]).rd = .idle := by decide +kernel

/-- a lifecycle: pipe 0 is released with two unread bytes; pipe 1 gets the same buffer from the pool,
    sees an empty buffer, and reads back exactly its own bytes -/
example :
    let w := World.init.exec [.fresh 4, .on 0 (.write [1, 2, 3]), .on 0 (.startRead 1), .on 0 .readerStep,
      .on 0 .release, .reuse 0, .on 1 (.write [9, 8]), .on 1 (.startRead 7), .on 1 .readerStep]
    w.pool = [] ∧ (w.pipes.map (·.delivered)) = [[1], [9, 8]] ∧
      (w.pipes.map (·.ledger)) = [[(1, true), (2, false), (3, false)], [(9, true), (8, true)]] := by decide +kernel

/-- why Release must Reset: a pipe created around a buffer that still holds a byte violates the invariant
    (its first read would return a byte nobody wrote to it) — the defect the `foreign-bytes` class names -/
example : ¬ Inv (Sys.fromBuffer { cap := 4, r := 0, data := [7] }) := by
  intro h; have := h.fifo; simp [Sys.fromBuffer, gone, bufData] at this

/-- Discard: 2 unread bytes dropped and reported, later bytes still flow -/
example :
    ((Sys.init 4).run [.write [1, 2, 3], .startRead 1, .readerStep, .discard, .write [4], .startRead 9, .readerStep]).2 =
      [.wrote 3 .none, .unit, .read (.data [1]), .discarded 2, .wrote 1 .none, .unit, .read (.data [4])] := by decide +kernel

end BfeVerif.C21
